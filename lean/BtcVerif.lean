-- GENERATED by tools/mkroot.py: every module of the library, so `lake build` re-checks all
-- models, theorems and table obligations.
import BtcVerif.Basic.Bytes
import BtcVerif.Basic.NatBytes
import BtcVerif.Basic.Outcome
import BtcVerif.Basic.Tx
import BtcVerif.Crypto.Der
import BtcVerif.Crypto.Murmur3
import BtcVerif.Crypto.Ripemd160
import BtcVerif.Crypto.Secp256k1
import BtcVerif.Crypto.Sha1
import BtcVerif.Crypto.Sha256
import BtcVerif.Spec.Addr
import BtcVerif.Spec.AliasSem
import BtcVerif.Spec.Base58
import BtcVerif.Spec.Bech32
import BtcVerif.Spec.BlockCheck
import BtcVerif.Spec.Bloom
import BtcVerif.Spec.Chain
import BtcVerif.Spec.Commit
import BtcVerif.Spec.Compact
import BtcVerif.Spec.Ident
import BtcVerif.Spec.Keys
import BtcVerif.Spec.Limits
import BtcVerif.Spec.Merkle
import BtcVerif.Spec.Messages
import BtcVerif.Spec.Opcodes
import BtcVerif.Spec.Rpc
import BtcVerif.Spec.Script
import BtcVerif.Spec.ScriptEnv
import BtcVerif.Spec.ScriptRef
import BtcVerif.Spec.Sighash
import BtcVerif.Spec.Templates
import BtcVerif.Spec.ValueSem
import BtcVerif.Spec.Wire
import BtcVerif.Model.Addr
import BtcVerif.Model.Base58
import BtcVerif.Model.Bech32
import BtcVerif.Model.BlockCheck
import BtcVerif.Model.Bloom
import BtcVerif.Model.Compact
import BtcVerif.Model.Heap
import BtcVerif.Model.HeapX
import BtcVerif.Model.Ident
import BtcVerif.Model.Keys
import BtcVerif.Model.Merkle
import BtcVerif.Model.Messages
import BtcVerif.Model.Rpc
import BtcVerif.Model.ScriptBuild
import BtcVerif.Model.ScriptEnvReal
import BtcVerif.Model.ScriptEval
import BtcVerif.Model.ScriptIter
import BtcVerif.Model.Sighash
import BtcVerif.Model.SpendCtx
import BtcVerif.Model.Wire
import BtcVerif.Generated.Base58
import BtcVerif.Generated.Bech32
import BtcVerif.Generated.Bloom
import BtcVerif.Generated.Chain
import BtcVerif.Generated.Limits
import BtcVerif.Generated.Messages
import BtcVerif.Generated.Opcodes
import BtcVerif.Generated.Rpc
import BtcVerif.Generated.Sighash
import BtcVerif.Generated.Wire
import BtcVerif.Tables.Base58
import BtcVerif.Tables.Bech32
import BtcVerif.Tables.Bloom
import BtcVerif.Tables.ChainAddr
import BtcVerif.Tables.ChainNet
import BtcVerif.Tables.ChainPow
import BtcVerif.Tables.ChainSecret
import BtcVerif.Tables.Limits
import BtcVerif.Tables.Messages
import BtcVerif.Tables.Opcodes
import BtcVerif.Tables.Rpc
import BtcVerif.Tables.Sighash
import BtcVerif.Tables.Wire
import BtcVerif.Proofs.Addr
import BtcVerif.Proofs.AddrStd
import BtcVerif.Proofs.AddrText
import BtcVerif.Proofs.Base58
import BtcVerif.Proofs.Bech32Addr
import BtcVerif.Proofs.Bech32Bch
import BtcVerif.Proofs.Bech32Bits
import BtcVerif.Proofs.Bech32Case
import BtcVerif.Proofs.Bech32Code
import BtcVerif.Proofs.Bech32Code4
import BtcVerif.Proofs.Bech32Code4Shards.Check
import BtcVerif.Proofs.Bech32Code4Shards.Data
import BtcVerif.Proofs.Bech32Code4Shards.Defs
import BtcVerif.Proofs.Bech32Detect
import BtcVerif.Proofs.Bech32Scale
import BtcVerif.Proofs.Bech32Str
import BtcVerif.Proofs.BigEndian
import BtcVerif.Proofs.BlockCheck
import BtcVerif.Proofs.Bloom
import BtcVerif.Proofs.C05Real
import BtcVerif.Proofs.C05Templates
import BtcVerif.Proofs.C08Build
import BtcVerif.Proofs.C08Char
import BtcVerif.Proofs.C08Iter
import BtcVerif.Proofs.C08Num
import BtcVerif.Proofs.C08Pred
import BtcVerif.Proofs.C08Shape
import BtcVerif.Proofs.Codec
import BtcVerif.Proofs.Coherence
import BtcVerif.Proofs.Commit
import BtcVerif.Proofs.Compact
import BtcVerif.Proofs.CryptoLen
import BtcVerif.Proofs.Der
import BtcVerif.Proofs.DigitCount
import BtcVerif.Proofs.Ecdsa
import BtcVerif.Proofs.GetOp
import BtcVerif.Proofs.HeapAliasAlloc
import BtcVerif.Proofs.HeapAliasCopy
import BtcVerif.Proofs.HeapAliasInv
import BtcVerif.Proofs.HeapAliasPlans
import BtcVerif.Proofs.HeapAliasSighash
import BtcVerif.Proofs.HeapAliasSteps
import BtcVerif.Proofs.HeapAll
import BtcVerif.Proofs.HeapAlloc
import BtcVerif.Proofs.HeapBasic
import BtcVerif.Proofs.HeapInv
import BtcVerif.Proofs.HeapMut
import BtcVerif.Proofs.HeapOpsAssign
import BtcVerif.Proofs.HeapOpsBlock
import BtcVerif.Proofs.HeapOpsCopy
import BtcVerif.Proofs.HeapOpsEdit
import BtcVerif.Proofs.HeapOpsNew
import BtcVerif.Proofs.HeapOpsObserve
import BtcVerif.Proofs.HeapOpsTxEdit
import BtcVerif.Proofs.HeapPath
import BtcVerif.Proofs.HeapRel
import BtcVerif.Proofs.HeapSighash
import BtcVerif.Proofs.HeapSim
import BtcVerif.Proofs.HeapTree
import BtcVerif.Proofs.HeapVal
import BtcVerif.Proofs.Ident
import BtcVerif.Proofs.Keys
import BtcVerif.Proofs.Merkle
import BtcVerif.Proofs.Messages
import BtcVerif.Proofs.Positional
import BtcVerif.Proofs.Rpc
import BtcVerif.Proofs.RpcFloat
import BtcVerif.Proofs.ScriptEnvReal
import BtcVerif.Proofs.ScriptEquivArms
import BtcVerif.Proofs.ScriptEquivBasic
import BtcVerif.Proofs.ScriptEquivFull
import BtcVerif.Proofs.ScriptEquivLoop
import BtcVerif.Proofs.ScriptEquivMulti
import BtcVerif.Proofs.ScriptEquivNum
import BtcVerif.Proofs.ScriptEquivParse
import BtcVerif.Proofs.ScriptEquivSig
import BtcVerif.Proofs.ScriptEquivStep
import BtcVerif.Proofs.ScriptEquivVerify
import BtcVerif.Proofs.ScriptEvalBasic
import BtcVerif.Proofs.ScriptEvalInv
import BtcVerif.Proofs.ScriptEvalInv2
import BtcVerif.Proofs.ScriptEvalInv3
import BtcVerif.Proofs.ScriptEvalInv4
import BtcVerif.Proofs.ScriptEvalInv5
import BtcVerif.Proofs.ScriptFad
import BtcVerif.Proofs.ScriptNumCodec
import BtcVerif.Proofs.ScriptOpEnc
import BtcVerif.Proofs.ScriptVerify
import BtcVerif.Proofs.Sec1
import BtcVerif.Proofs.Sighash
import BtcVerif.Proofs.SighashLegacy
import BtcVerif.Proofs.SighashScript
import BtcVerif.Proofs.ValueFrame
import BtcVerif.Proofs.Wire
import BtcVerif.Props.C01
import BtcVerif.Props.C02
import BtcVerif.Props.C03
import BtcVerif.Props.C04
import BtcVerif.Props.C05
import BtcVerif.Props.C06
import BtcVerif.Props.C06Concrete
import BtcVerif.Props.C07
import BtcVerif.Props.C08
import BtcVerif.Props.C09
import BtcVerif.Props.C10
import BtcVerif.Props.C11
import BtcVerif.Props.C12
import BtcVerif.Props.C13
import BtcVerif.Props.C14
import BtcVerif.Props.C15
import BtcVerif.Props.C16
import BtcVerif.Props.C17
import BtcVerif.Props.C18
import BtcVerif.Props.C19
import BtcVerif.Props.C20
import BtcVerif.Props.Coherence
import BtcVerif.Props.Concrete

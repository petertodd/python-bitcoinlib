/-
  Scripts as concatenations of operation encodings (`parse_decomp`, `parse_iff`, `parse_complete_iff`,
  `parse_append`), the laws of sigop counting over them, the fixed byte layouts (`shape_prefix`, `isP2sh_shape`,
  `isWitnessProgram_shape`) and the canonical-push test of one operation (`canonicalPush_iff`).
-/
import BtcVerif.Proofs.C08Shape

namespace BtcVerif
open BtcVerif.Spec.Script BtcVerif.Model.Script

theorem opEnc_ne_nil (o : Nat) (d : Bytes) : opEnc o d ≠ [] := by
  unfold opEnc; split <;> simp

theorem parse_of_getOp {s : Bytes} {o : Nat} {d rest : Bytes} (hg : getOp s = some (o, d, rest)) :
    parse s = ((o, d) :: (parse rest).1, (parse rest).2) := by
  rcases s with _ | ⟨b, t⟩
  · simp [getOp] at hg
  · rw [parse_cons, hg]

theorem getOp_append {s : Bytes} {o : Nat} {d r : Bytes} (hg : getOp s = some (o, d, r)) (x : Bytes) :
    getOp (s ++ x) = some (o, d, r ++ x) := by
  obtain ⟨hv, rfl⟩ := getOp_eq_some_iff.mp hg
  rw [List.append_assoc]
  exact getOp_opEnc hv _

theorem encOps_cons (p : Nat × Bytes) (ops : List (Nat × Bytes)) :
    encOps (p :: ops) = opEnc p.1 p.2 ++ encOps ops := by
  simp [encOps]

theorem parse_decomp (s : Bytes) :
    ∃ rest, s = encOps (parse s).1 ++ rest ∧ (∀ p ∈ (parse s).1, ValidOp p.1 p.2) ∧
      (if (parse s).2 then rest = [] else TruncatedPush rest) := by
  induction s using getOp_induction with
  | nil => exact ⟨[], by simp [parse_nil, encOps]⟩
  | stop b t hg =>
    rw [parse_cons, hg]
    exact ⟨b :: t, by simp [encOps], by simp, by simpa using getOp_eq_none_iff.mp hg⟩
  | step b t o d rest hg ih =>
    obtain ⟨r, h1, h2, h3⟩ := ih
    obtain ⟨hv, hs⟩ := getOp_eq_some_iff.mp hg
    rw [parse_cons, hg]
    refine ⟨r, ?_, List.forall_mem_cons.mpr ⟨hv, h2⟩, h3⟩
    rw [encOps_cons, List.append_assoc, ← h1]; exact hs

theorem parse_encOps {ops : List (Nat × Bytes)} (hv : ∀ q ∈ ops, ValidOp q.1 q.2) :
    parse (encOps ops) = (ops, true) := by
  induction ops with
  | nil => exact parse_nil
  | cons p ops ih =>
    obtain ⟨hp, hr⟩ := List.forall_mem_cons.mp hv
    rw [encOps_cons, parse_of_getOp (getOp_opEnc hp _), ih hr]

theorem parse_iff (ops : List (Nat × Bytes)) (s : Bytes) :
    parse s = (ops, true) ↔ (∀ p ∈ ops, ValidOp p.1 p.2) ∧ s = encOps ops := by
  constructor
  · intro h
    obtain ⟨rest, h1, h2, h3⟩ := parse_decomp s
    rw [h] at h1 h2 h3
    rw [if_pos rfl] at h3
    rw [h3, List.append_nil] at h1
    exact ⟨h2, h1⟩
  · rintro ⟨hv, rfl⟩; exact parse_encOps hv

theorem parse_complete_iff (s : Bytes) (Q : Nat × Bytes → Prop) :
    ((parse s).2 = true ∧ ∀ p ∈ (parse s).1, Q p) ↔
      ∃ ops : List (Nat × Bytes), (∀ p ∈ ops, ValidOp p.1 p.2 ∧ Q p) ∧ s = encOps ops := by
  constructor
  · rintro ⟨h1, h2⟩
    obtain ⟨hv, hs⟩ := (parse_iff _ s).mp (Prod.ext rfl h1)
    exact ⟨(parse s).1, fun p hp => ⟨hv p hp, h2 p hp⟩, hs⟩
  · rintro ⟨ops, h, rfl⟩
    rw [parse_encOps (fun p hp => (h p hp).1)]
    exact ⟨rfl, fun p hp => (h p hp).2⟩

theorem parse_append (a b : Bytes) (ha : (parse a).2 = true) :
    parse (a ++ b) = ((parse a).1 ++ (parse b).1, (parse b).2) := by
  induction a using getOp_induction with
  | nil => simp [parse_nil]
  | stop x t hg => rw [parse_cons, hg] at ha; cases ha
  | step x t o d rest hg ih =>
    rw [parse_cons, hg] at ha
    rw [parse_of_getOp (getOp_append hg b), ih ha, parse_of_getOp hg]
    rfl

theorem parse_append_truncated (a b : Bytes) (ha : (parse a).2 = true) (hb : TruncatedPush b) :
    parse (a ++ b) = ((parse a).1, false) := by
  obtain ⟨x, t, rfl, _⟩ := id hb
  rw [parse_append a _ ha, parse_cons, getOp_eq_none_iff.mpr hb]
  simp

/-! ### signature-operation counting is compositional -/

theorem sigOpsFrom_append (acc : Bool) (l1 l2 : List (Nat × Bytes)) : ∀ last,
    sigOpsFrom acc last (l1 ++ l2) =
      sigOpsFrom acc last l1 + sigOpsFrom acc (lastOpcodeFrom last l1) l2 := by
  induction l1 with
  | nil => intro last; simp [sigOpsFrom, lastOpcodeFrom]
  | cons p r ih =>
    intro last
    obtain ⟨o, d⟩ := p
    simp only [List.cons_append, sigOpsFrom, lastOpcodeFrom, ih o]
    omega

theorem sigOpsFrom_last_irrelevant (acc : Bool) (l : List (Nat × Bytes)) (last last' : Nat)
    (h : acc = false ∨ ∀ p, l.head? = some p → p.1 ≠ 0xae ∧ p.1 ≠ 0xaf) :
    sigOpsFrom acc last l = sigOpsFrom acc last' l := by
  rcases l with _ | ⟨⟨o, d⟩, r⟩
  · simp [sigOpsFrom]
  · simp only [sigOpsFrom]
    rcases h with h | h
    · subst h; simp
    · have := h (o, d) (by simp)
      simp [this.1, this.2]

theorem shape_prefix (s p : Bytes) (n : Nat) :
    (decide (s.length = n + p.length) && decide (s.take p.length = p)) = true ↔
      ∃ h : Bytes, h.length = n ∧ s = p ++ h := by
  constructor
  · intro h
    simp only [Bool.and_eq_true, decide_eq_true_eq] at h
    refine ⟨s.drop p.length, by simp [h.1], ?_⟩
    have := List.take_append_drop p.length s
    rw [h.2] at this; exact this.symm
  · rintro ⟨h, hl, rfl⟩; simp [hl, Nat.add_comm]

theorem isP2sh_shape (s : Bytes) :
    isP2sh s = true ↔ ∃ h : Bytes, h.length = 20 ∧ s = [0xa9, 0x14] ++ h ++ [0x87] := by
  constructor
  · intro h
    rcases s with _ | ⟨a, _ | ⟨b, t⟩⟩
    · simp [isP2sh] at h
    · simp [isP2sh] at h
    · simp only [isP2sh, List.length_cons, Bool.and_eq_true, decide_eq_true_eq, List.getElem?_cons_zero,
        List.getElem?_cons_succ, Option.some.injEq] at h
      obtain ⟨⟨⟨hl, ha⟩, hb⟩, h22⟩ := h
      have hl' : t.length = 21 := by omega
      have hdl : (t.drop 20).length = 1 := by simp [hl']
      rcases hdr : t.drop 20 with _ | ⟨x, _ | ⟨y, r⟩⟩
      · rw [hdr] at hdl; simp at hdl
      · have hx : (t.drop 20)[0]? = t[20]? := by rw [List.getElem?_drop]
        rw [hdr, h22] at hx
        simp only [List.getElem?_cons_zero, Option.some.injEq] at hx
        refine ⟨t.take 20, by simp [hl'], ?_⟩
        have := List.take_append_drop 20 t
        rw [hdr, hx] at this
        rw [ha, hb]; simp [this]
      · rw [hdr] at hdl; simp at hdl
  · rintro ⟨h, hl, rfl⟩
    simp [isP2sh, hl]

theorem isWitnessProgram_shape (s : Bytes) :
    (isWitnessProgram s).isSome = true ↔
      ∃ v : Nat, ∃ prog : Bytes, v ≤ 16 ∧ 2 ≤ prog.length ∧ prog.length ≤ 40 ∧
        s = [UInt8.ofNat (opN v), UInt8.ofNat prog.length] ++ prog := by
  constructor
  · intro h
    obtain ⟨⟨v, p⟩, h⟩ := Option.isSome_iff_exists.mp h
    obtain ⟨a, l, rfl, ha, rfl, hl, h2, h40⟩ := isWitnessProgram_eq_some_iff.mp h
    refine ⟨decodeOPN a.toNat, p, by unfold decodeOPN; split <;> omega, h2, h40, ?_⟩
    have ea : a = UInt8.ofNat (opN (decodeOPN a.toNat)) := by
      apply u8_eq_of_toNat
      unfold opN decodeOPN
      rcases ha with hz | hr
      · simp [hz]
      · simp only [show ¬ a.toNat = 0 by omega, show ¬ a.toNat - 80 = 0 by omega, if_false]
        rw [u8_ofNat_toNat _ (by omega)]; omega
    have el : l = UInt8.ofNat p.length := by
      apply u8_eq_of_toNat; rw [u8_ofNat_toNat _ (by omega)]; exact hl
    rw [← ea, ← el]; rfl
  · rintro ⟨v, prog, hv, h2, h40, rfl⟩
    have ho : (UInt8.ofNat (opN v)).toNat = opN v := u8_ofNat_toNat _ (by unfold opN; split <;> omega)
    refine Option.isSome_iff_exists.mpr ⟨(decodeOPN (opN v), prog), isWitnessProgram_eq_some_iff.mpr
      ⟨_, _, rfl, ?_, by rw [ho], u8_ofNat_toNat _ (by omega), h2, h40⟩⟩
    rw [ho]; unfold opN; split <;> omega

theorem parse_single {o : Nat} {d : Bytes} (hv : ValidOp o d) : parse (opEnc o d) = ([(o, d)], true) := by
  apply (parse_iff [(o, d)] _).mpr
  refine ⟨by simpa using hv, by simp [encOps]⟩

theorem parse_head_opcode (x : UInt8) (t : Bytes) (p : Nat × Bytes)
    (h : (parse (x :: t)).1.head? = some p) : p.1 = x.toNat := by
  rw [parse_cons] at h
  rcases hg : getOp (x :: t) with _ | ⟨o, d, rest⟩
  · rw [hg] at h; simp at h
  · rw [hg] at h
    simp only [List.head?_cons, Option.some.injEq] at h
    subst h
    simp only [getOp] at hg
    split at hg
    · simp at hg; exact hg.1.symm
    · split at hg
      · simp at hg
      · split at hg
        · simp at hg
        · simp at hg; exact hg.1.symm

theorem sigOpCount_append (acc : Bool) (a b : Bytes) (ha : (parse a).2 = true) :
    sigOpCount acc (a ++ b) =
      sigOpCount acc a + sigOpsFrom acc (lastOpcodeFrom 0xff (parse a).1) (parse b).1 := by
  unfold sigOpCount
  rw [parse_append a b ha, sigOpsFrom_append]

theorem sigOpCount_append_add (acc : Bool) (a b : Bytes) (ha : (parse a).2 = true)
    (h : acc = false ∨ ∀ x, b.head? = some x → x.toNat ≠ 0xae ∧ x.toNat ≠ 0xaf) :
    sigOpCount acc (a ++ b) = sigOpCount acc a + sigOpCount acc b := by
  rw [sigOpCount_append acc a b ha]
  congr 1
  unfold sigOpCount
  apply sigOpsFrom_last_irrelevant
  rcases h with h | h
  · exact Or.inl h
  · right
    intro p hp
    rcases b with _ | ⟨x, t⟩
    · rw [parse_nil] at hp; simp at hp
    · rw [parse_head_opcode x t p hp]; exact h x rfl

theorem sigOpCount_truncated (acc : Bool) (a b : Bytes) (ha : (parse a).2 = true) (hb : TruncatedPush b) :
    sigOpCount acc (a ++ b) = sigOpCount acc a := by
  unfold sigOpCount
  rw [parse_append_truncated a b ha hb]

theorem sigOpCount_single (acc : Bool) {o : Nat} {d : Bytes} (hv : ValidOp o d) :
    sigOpCount acc (opEnc o d) =
      if o = 0xac ∨ o = 0xad then 1 else if o = 0xae ∨ o = 0xaf then 20 else 0 := by
  unfold sigOpCount
  rw [parse_single hv]
  simp [sigOpsFrom]

theorem sigOpCount_opn_multisig (k m : Nat) (hk : 1 ≤ k ∧ k ≤ 16) (hm : m = 0xae ∨ m = 0xaf) :
    sigOpCount true [UInt8.ofNat (0x50 + k), UInt8.ofNat m] = k := by
  have hv1 : ValidOp (0x50 + k) [] := ⟨by omega, by simp; omega⟩
  have hv2 : ValidOp m [] := ⟨by omega, by rcases hm with rfl | rfl <;> simp⟩
  have hp : parse [UInt8.ofNat (0x50 + k), UInt8.ofNat m] = ([(0x50 + k, []), (m, [])], true) := by
    apply (parse_iff _ _).mpr
    refine ⟨?_, ?_⟩
    · intro p hp; simp at hp; rcases hp with rfl | rfl <;> assumption
    · have c1 : 0x50 + k > 0x4e := by omega
      have c2 : m > 0x4e := by omega
      simp [encOps, opEnc, c1, c2]
  unfold sigOpCount
  rw [hp]
  have c3 : ¬ (0x50 + k = 0xac ∨ 0x50 + k = 0xad) := by omega
  have c4 : ¬ (0x50 + k = 0xae ∨ 0x50 + k = 0xaf) := by omega
  have c5 : ¬ (m = 0xac ∨ m = 0xad) := by omega
  simp only [sigOpsFrom, c3, c4, c5, hm, if_false, if_true, decodeOPN]
  have c6 : 0x51 ≤ 0x50 + k ∧ 0x50 + k ≤ 0x60 := by omega
  simp [c6]

theorem encOps_snoc (ops : List (Nat × Bytes)) (p : Nat × Bytes) :
    encOps (ops ++ [p]) = encOps ops ++ opEnc p.1 p.2 := by
  simp [encOps]

theorem lastOpcodeFrom_snoc (l : Nat) (ops : List (Nat × Bytes)) (p : Nat × Bytes) :
    lastOpcodeFrom l (ops ++ [p]) = p.1 := by
  induction ops generalizing l with
  | nil => obtain ⟨o, d⟩ := p; rfl
  | cons q r ih => obtain ⟨o, d⟩ := q; simp only [List.cons_append, lastOpcodeFrom, ih]

theorem sigOpCount_snoc (acc : Bool) (ops : List (Nat × Bytes)) (o : Nat) (d : Bytes)
    (hv : ∀ q ∈ ops, ValidOp q.1 q.2) (ho : ValidOp o d) :
    sigOpCount acc (encOps ops ++ opEnc o d) =
      sigOpCount acc (encOps ops) + sigWeight acc (ops.getLast?.map (·.1)) o := by
  have hp : (parse (encOps ops)).2 = true := by rw [parse_encOps hv]
  rw [sigOpCount_append acc _ _ hp, parse_encOps hv, parse_single ho]
  congr 1
  simp only [sigOpsFrom, Nat.add_zero, sigWeight]
  rcases List.eq_nil_or_concat ops with rfl | ⟨r, q, rfl⟩
  · simp [lastOpcodeFrom]
  · simp only [List.concat_eq_append, lastOpcodeFrom_snoc, List.getLast?_append, List.getLast?_singleton,
      Option.some_or, Option.map_some, decodeOPN]
    by_cases h1 : o = 0xac ∨ o = 0xad
    · simp [h1]
    · by_cases h2 : o = 0xae ∨ o = 0xaf
      · simp only [h1, h2, if_false, if_true]
        by_cases h3 : acc = true ∧ 0x51 ≤ q.1 ∧ q.1 ≤ 0x60
        · have : ¬ q.1 = 0 := by omega
          simp [h3, this]
        · simp [h3]
      · simp [h1, h2]

/-! ### canonical pushes, per operation -/

theorem oneSmallByte_iff (d : Bytes) : oneSmallByte d = true ↔ ∃ x : UInt8, d = [x] ∧ x.toNat ≤ 16 := by
  rcases d with _ | ⟨x, _ | ⟨y, r⟩⟩ <;> simp [oneSmallByte]

theorem oneSmallByte_length {d : Bytes} (h : oneSmallByte d = true) : d.length = 1 := by
  rcases d with _ | ⟨x, _ | ⟨y, r⟩⟩ <;> simp [oneSmallByte] at h ⊢

theorem canonicalPush_true_iff (o : Nat) (d : Bytes) :
    canonicalPush (o, d) = true ↔
      ¬ (o ≤ 0x60 ∧ ((o < 0x4c ∧ o > 0 ∧ oneSmallByte d = true) ∨ (o = 0x4c ∧ d.length < 0x4c) ∨
        (o = 0x4d ∧ d.length ≤ 0xff) ∨ (o = 0x4e ∧ d.length ≤ 0xffff))) := by
  unfold canonicalPush
  split
  · simp only [true_iff]; omega
  · split
    · simp only [Bool.false_eq_true, false_iff, Classical.not_not]; exact ⟨by omega, Or.inl ‹_›⟩
    · split
      · simp only [Bool.false_eq_true, false_iff, Classical.not_not]; exact ⟨by omega, Or.inr (Or.inl ‹_›)⟩
      · split
        · simp only [Bool.false_eq_true, false_iff, Classical.not_not]; exact ⟨by omega, Or.inr (Or.inr (Or.inl ‹_›))⟩
        · split
          · simp only [Bool.false_eq_true, false_iff, Classical.not_not]
            exact ⟨by omega, Or.inr (Or.inr (Or.inr ‹_›))⟩
          · simp only [true_iff]
            rintro ⟨_, h | h | h | h⟩ <;> contradiction

theorem canonicalPush_iff {o : Nat} {d : Bytes} (hv : ValidOp o d) :
    canonicalPush (o, d) = true ↔
      (o ≤ 0x4e → pushEncode d = some (opEnc o d) ∧ ¬ ∃ x : UInt8, d = [x] ∧ x.toNat ≤ 16) := by
  rw [← oneSmallByte_iff, pushEncode_eq_opEnc_iff hv, canonicalPush_true_iff]
  have h1 := @oneSmallByte_length d
  have hp := pushOp_spec d.length
  generalize pushOp d.length = p at hp
  by_cases ho : o ≤ 0x4e
  · have hb := validOp_push_bounds hv ho
    cases hs : oneSmallByte d <;>
      simp only [hs, ho, iff_false, Classical.not_not, forall_const, Bool.false_eq_true, not_false_eq_true,
        not_true_eq_false, and_false, false_or, and_true] at h1 ⊢ <;> omega
  · simp only [ho, false_implies, iff_true]; omega

end BtcVerif

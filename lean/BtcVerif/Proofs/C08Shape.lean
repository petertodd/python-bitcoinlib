/-
  Helper lemmas for C08's fixed-shape predicates (P2SH, witness program, v0 key/script hash and
  their P2SH-nested forms, witness_version, is_unspendable).
-/
import BtcVerif.Proofs.C08Build
namespace BtcVerif
open BtcVerif.Spec.Script BtcVerif.Model.Script

theorem isP2sh_eq (s : Bytes) : isP2sh s = isPayToScriptHash s := by
  simp [isP2sh, isPayToScriptHash, Bool.and_assoc]

theorem isUnspendable_eq (s : Bytes) : isUnspendable s = startsWithReturn s := by
  rcases s with _ | ⟨b, t⟩ <;> simp [isUnspendable, startsWithReturn]

theorem isWitnessScriptPubKey_eq (s : Bytes) :
    isWitnessScriptPubKey s = .ok (isWitnessProgram s).isSome := by
  unfold isWitnessScriptPubKey isWitnessProgram
  by_cases hsz : s.length < 4 ∨ s.length > 42
  · simp [hsz]
  · simp only [hsz, if_false]
    rcases s with _ | ⟨h0, _ | ⟨h1, r⟩⟩
    · simp at hsz
    · simp at hsz
    · simp only [cscriptOpNew_signedByte]
      simp only [List.length_cons] at hsz ⊢
      have hb := h1.toNat_lt
      by_cases c1 : (h0.toNat ≠ 0 ∧ (h0.toNat < 0x51 ∨ h0.toNat > 0x60))
      · have : isSmallInt h0.toNat = false := by
          simp only [isSmallInt]; simp; omega
        simp [c1, this]
      · have : isSmallInt h0.toNat = true := by
          simp only [isSmallInt]; simp; omega
        simp only [c1, this, if_false, not_true_eq_false]
        by_cases c2 : h1.toNat = r.length
        · have : signedByte h1 + 2 = (r.length : Int) + 1 + 1 := by
            unfold signedByte; rw [if_pos (by omega)]; omega
          simp [c2, this]
        · have : ¬ (signedByte h1 + 2 = (r.length : Int) + 1 + 1) := by
            unfold signedByte; split <;> omega
          simp [c2, this]
theorem isWitnessProgram_eq_some_iff {s : Bytes} {v : Nat} {p : Bytes} :
    isWitnessProgram s = some (v, p) ↔
      ∃ a l : UInt8, s = a :: l :: p ∧ (a.toNat = 0 ∨ (0x51 ≤ a.toNat ∧ a.toNat ≤ 0x60)) ∧
        v = decodeOPN a.toNat ∧ l.toNat = p.length ∧ 2 ≤ p.length ∧ p.length ≤ 40 := by
  unfold isWitnessProgram
  rcases s with _ | ⟨a, _ | ⟨l, r⟩⟩
  · simp
  · simp
  · simp only [List.length_cons, List.cons.injEq]
    constructor
    · intro h
      split at h
      · cases h
      · split at h
        · cases h
        · split at h
          · obtain ⟨rfl, rfl⟩ := Prod.mk.inj (Option.some.inj h)
            exact ⟨a, l, ⟨rfl, rfl, rfl⟩, by omega, rfl, by omega, by omega, by omega⟩
          · cases h
    · rintro ⟨a', l', ⟨rfl, rfl, rfl⟩, ha, rfl, hl, h2, h40⟩
      rw [if_neg (by omega), if_neg (by omega), if_pos (by omega)]

theorem witnessVersion_of_program {s : Bytes} {v : Nat} {p : Bytes}
    (h : isWitnessProgram s = some (v, p)) : witnessVersion s = .ok (.int v) := by
  obtain ⟨a, l, rfl, ha, rfl, _⟩ := isWitnessProgram_eq_some_iff.mp h
  have hg : getOp (a :: l :: p) = some (a.toNat, [], l :: p) := by
    rcases ha with hz | hr
    · simp [getOp, hz, lenBytes, declaredSize]
    · simp [getOp, show 78 < a.toNat by omega]
  unfold witnessVersion
  rw [cooked_eq, rawIter, rawIterFrom_of_getOp hg]
  simp only [List.map_cons]
  congr 1
  unfold cookTok
  rcases ha with hz | hr
  · simp [hz, decodeOPN]
  · simp only [show ¬ a.toNat = 0 by omega, if_false, show a.toNat > 0x4e by omega, if_true, hr, and_self, decodeOPN]

theorem u8_eq_lit (a : UInt8) (n : Nat) (h : n < 256) : a = UInt8.ofNat n ↔ a.toNat = n := by
  constructor
  · intro e; rw [e, u8_ofNat_toNat n h]
  · intro e; apply u8_eq_of_toNat; rw [u8_ofNat_toNat n h, e]

theorem v0_program_eq (s : Bytes) (n : Nat) (hn : 2 ≤ n ∧ n ≤ 40) :
    (decide (s.length = n + 2) && decide (s.take 2 = [0x00, UInt8.ofNat n])) =
      (match isWitnessProgram s with
       | some (v, p) => decide (v = 0 ∧ p.length = n)
       | none => false) := by
  have hn' : n < 256 := by omega
  rcases s with _ | ⟨a, _ | ⟨b, r⟩⟩
  · simp [isWitnessProgram]
  · simp [isWitnessProgram]
  · unfold isWitnessProgram
    simp only [List.length_cons, List.take_succ_cons, List.take_zero, List.cons.injEq, and_true]
    have ea : a = 0x00 ↔ a.toNat = 0 := u8_eq_lit a 0 (by omega)
    have eb := u8_eq_lit b n hn'
    simp only [ea, eb]
    have hb := b.toNat_lt
    by_cases hsz : r.length + 1 + 1 < 4 ∨ r.length + 1 + 1 > 42
    · have : ¬ r.length = n := by omega
      simp [hsz, this]
    · simp only [hsz, if_false]
      by_cases c1 : (a.toNat ≠ 0 ∧ (a.toNat < 0x51 ∨ a.toNat > 0x60))
      · simp [c1]
      · simp only [c1, if_false]
        by_cases c2 : b.toNat + 2 = r.length + 1 + 1
        · simp only [c2, if_true, decodeOPN]
          by_cases c3 : a.toNat = 0
          · simp [c3]; omega
          · have : ¬ a.toNat - 80 = 0 := by omega
            simp [c3, this]
        · simp only [c2, if_false]
          simp; omega

theorem isWitnessV0Keyhash_eq (s : Bytes) : isWitnessV0Keyhash s = isP2WPKH s := by
  unfold isWitnessV0Keyhash isP2WPKH
  exact v0_program_eq s 20 (by omega)

theorem isWitnessV0Scripthash_eq (s : Bytes) : isWitnessV0Scripthash s = isP2WSH s := by
  unfold isWitnessV0Scripthash isP2WSH
  exact v0_program_eq s 32 (by omega)

theorem nested_eq (pred : Bytes → Bool) (n : Nat) (hn : n + 2 < 0x4c)
    (hp : ∀ p, pred p = (decide (p.length = n + 2) && decide (p.take 2 = [0x00, UInt8.ofNat n]))) (s : Bytes) :
    (decide (s.length = n + 3) && decide (s.take 3 = [UInt8.ofNat (n + 2), 0x00, UInt8.ofNat n])) =
      isSinglePushOf pred s := by
  rcases s with _ | ⟨x, p⟩
  · simp [isSinglePushOf]
  · simp only [isSinglePushOf, hp, List.length_cons, List.take_succ_cons]
    by_cases hl : p.length = n + 2
    · have e : pushEncode p = some (UInt8.ofNat (n + 2) :: p) := by
        simp [pushEncode, hl, hn]
      simp only [hl, e]
      generalize UInt8.ofNat (n + 2) = y
      generalize UInt8.ofNat n = w
      by_cases hx : x = y
      · subst hx; simp
      · have : ¬ (y = x) := fun h => hx h.symm
        simp [hx, this]
    · simp [hl]

theorem isWitnessV0NestedKeyhash_eq (s : Bytes) : isWitnessV0NestedKeyhash s = isNestedP2WPKH s := by
  unfold isWitnessV0NestedKeyhash isNestedP2WPKH
  exact nested_eq isP2WPKH 20 (by omega) (fun p => (isWitnessV0Keyhash_eq p).symm) s

theorem isWitnessV0NestedScripthash_eq (s : Bytes) : isWitnessV0NestedScripthash s = isNestedP2WSH s := by
  unfold isWitnessV0NestedScripthash isNestedP2WSH
  exact nested_eq isP2WSH 32 (by omega) (fun p => (isWitnessV0Scripthash_eq p).symm) s

end BtcVerif

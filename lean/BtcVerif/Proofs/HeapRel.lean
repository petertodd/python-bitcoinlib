/-
  C09: the refinement relation between heap states and value stores,
  simulation of target lookup, and the generic ways a step preserves the relation.
-/
import BtcVerif.Proofs.HeapMut

namespace BtcVerif.Model.Heap
open BtcVerif BtcVerif.Spec.ValueSem

theorem decode_kind {t : ATree} {v : Val} (h : decode t = some v) : valKind v = t.sc.kind := by
  cases t with | node a m sc kids =>
    obtain ⟨vs, _, ha⟩ := decode_inv h
    exact assemble_kind ha

theorem putChild_some {v c c' : Val} {i : Nat} (hc : v.child i = some c) (hk : valKind c' = valKind c) :
    ∃ v', v.putChild i c' = some v' ∧ valKind v' = valKind v := by
  cases v with
  | txin x | wit x | block x =>
    cases i <;> simp [Val.child] at hc
    subst hc; cases c' <;> simp [valKind] at hk
    exact ⟨_, rfl, rfl⟩
  | tx x =>
    match i with
    | 0 => simp [Val.child] at hc; subst hc; cases c' <;> simp [valKind] at hk; exact ⟨_, rfl, rfl⟩
    | 1 => simp [Val.child] at hc; subst hc; cases c' <;> simp [valKind] at hk; exact ⟨_, rfl, rfl⟩
    | 2 => simp [Val.child] at hc; subst hc; cases c' <;> simp [valKind] at hk; exact ⟨_, rfl, rfl⟩
    | i + 3 => simp [Val.child] at hc
  | ins l | outs l | stacks l | txs l =>
    simp only [Val.child, Option.map_eq_some_iff] at hc
    obtain ⟨x, hx, rfl⟩ := hc
    have hi := (List.getElem?_eq_some_iff.mp hx).1
    cases c' <;> simp [valKind] at hk
    rw [Val.putChild, if_pos hi]
    exact ⟨_, rfl, rfl⟩
  | outpoint x | txout x | inwit x | header x => simp [Val.child] at hc

theorem put_some : ∀ {p : List Nat} {v vx w : Val} {m m' : Bool}, v.getM m p = some (m', vx) →
    valKind w = valKind vx → ∃ v', v.put p w = some v' ∧ valKind v' = valKind v
  | [], v, vx, w, m, m', hg, hk => by
    simp [Val.getM] at hg
    exact ⟨w, rfl, by rw [hk, hg.2]⟩
  | i :: p, v, vx, w, m, m', hg, hk => by
    simp only [Val.getM] at hg
    cases hc : v.child i with
    | none => simp [hc] at hg
    | some c =>
      simp only [hc] at hg
      obtain ⟨c', hc', hkc⟩ := put_some hg hk
      obtain ⟨v', hv', hkv⟩ := putChild_some hc hkc
      exact ⟨v', by simp [Val.put, hc, hc', hv'], hkv⟩

theorem sub_fuel {h : Heap} : ∀ {p : List Nat} {f : Nat} {c : Addr} {t tx : ATree},
    unfoldA f h c = some t → sub t p = some tx →
      ∃ g, f = p.length + (g + 1) ∧ unfoldA (g + 1) h tx.addr = some tx
  | [], f, c, t, tx, hu, hs => by
    simp [sub] at hs; subst hs
    cases f with
    | zero => simp [unfoldA] at hu
    | succ f => exact ⟨f, by simp, by rw [unfoldA_addr hu]; exact hu⟩
  | j :: p, 0, c, t, tx, hu, hs => by simp [unfoldA] at hu
  | j :: p, f + 1, c, t, tx, hu, hs => by
    obtain ⟨o, kids, _, hk, rfl⟩ := unfoldA_succ hu
    simp only [sub] at hs
    cases hkj : kids[j]? with
    | none => simp [hkj] at hs
    | some k =>
      simp only [hkj] at hs
      obtain ⟨c', _, huc⟩ := mapO_getElem' hk j k hkj
      obtain ⟨g, hg, hu'⟩ := sub_fuel huc hs
      exact ⟨g, by simp [hg]; omega, hu'⟩

/-! ### the relation -/

def RelAt (h : Heap) : Option Addr → Option Entry → Prop
  | none, none => True
  | some a, some e => ∃ t, unfoldA D h a = some t ∧ decode t = some e.val ∧ t.isMut = e.isMut
  | _, _ => False

/-- every name denotes, on the heap, an object graph whose current value and class are the
    entry of the value store -/
def Rel (s : St) (sp : Store) : Prop :=
  s.names.length = sp.length ∧ ∀ r, RelAt s.heap (s.root r) ((sp[r]?).join)

theorem rel_bind {s : St} {sp' : Store} {h' : Heap} {n : Option Addr} {en : Option Entry}
    (hlen : s.names.length = sp'.length)
    (hold : ∀ r, r < s.names.length → RelAt h' (s.root r) ((sp'[r]?).join))
    (hnew : RelAt h' n en) : Rel (s.bind h' n) (sp' ++ [en]) := by
  refine ⟨by simp [St.bind, hlen], ?_⟩
  intro r
  change RelAt h' ((s.bind h' n).root r) _
  rw [root_bind]
  by_cases h1 : r < s.names.length
  · rw [if_pos h1, List.getElem?_append_left (by omega)]
    exact hold r h1
  · rw [if_neg h1]
    by_cases h2 : r = s.names.length
    · rw [if_pos h2]
      have : (sp' ++ [en])[r]? = some en := by rw [h2, hlen]; simp
      rw [this]; simpa using hnew
    · rw [if_neg h2]
      have : (sp' ++ [en])[r]? = none := by
        apply List.getElem?_eq_none_iff.mpr; simp; omega
      rw [this]; trivial

theorem relAt_ext {h : Heap} (e : Heap) {n : Option Addr} {en : Option Entry} (hr : RelAt h n en) :
    RelAt (h ++ e) n en := by
  cases n <;> cases en <;> simp only [RelAt] at hr ⊢
  obtain ⟨t, hu, hd, hm⟩ := hr
  exact ⟨t, unfoldA_ext e hu, hd, hm⟩

theorem rel_skip {s : St} {sp : Store} (hrel : Rel s sp) : Rel s.skip (Spec.ValueSem.bind sp none) :=
  rel_bind hrel.1 (fun r _ => hrel.2 r) (show RelAt _ none none from trivial)

theorem rel_ext {s : St} {sp : Store} (hrel : Rel s sp) {h' e : Heap} (he : h' = s.heap ++ e)
    {n : Option Addr} {en : Option Entry} (hnew : RelAt h' n en) :
    Rel (s.bind h' n) (Spec.ValueSem.bind sp en) := by
  subst he
  exact rel_bind hrel.1 (fun r _ => relAt_ext e (hrel.2 r)) hnew

theorem rel_set_same {s : St} {sp : Store} (hrel : Rel s sp) {x : Addr} {o o' : Obj}
    (hox : s.heap[x]? = some o) (h1 : o'.isMut = o.isMut) (h2 : o'.sc = o.sc) (h3 : o'.refs = o.refs) :
    Rel (s.bind (s.heap.set x o') none) (Spec.ValueSem.bind sp none) := by
  apply rel_bind hrel.1 _ (show RelAt _ none none from trivial)
  intro r _
  have := hrel.2 r
  cases hr : s.root r <;> cases he : (sp[r]?).join <;> simp only [hr, he, RelAt] at this ⊢
  obtain ⟨t, hu, hd, hm⟩ := this
  exact ⟨t, unfoldA_set_same hox h1 h2 h3 hu, hd, hm⟩

theorem rel_mutate {s : St} {sp : Store} (hrel : Rel s sp) {r : Nat} {a : Addr} (hr : s.root r = some a)
    {e : Entry} (he : (sp[r]?).join = some e) {h' : Heap} {t' : ATree} {v' : Val}
    (hnew : unfoldA D h' a = some t') (hd : decode t' = some v') (hm : t'.isMut = e.isMut)
    (hother : ∀ (r' : Nat) (b : Addr) (tb : ATree), r' ≠ r → s.root r' = some b →
      unfoldA D s.heap b = some tb → unfoldA D h' b = some tb) :
    Rel (s.bind h' none) (Spec.ValueSem.bind (sp.set r (some { e with val := v' })) none) := by
  apply rel_bind (by simp [hrel.1]) _ (show RelAt _ none none from trivial)
  intro r' hr'
  by_cases hrr : r' = r
  · subst hrr
    have hlt : r' < sp.length := by rw [← hrel.1]; exact hr'
    rw [hr, List.getElem?_set_self hlt]
    exact ⟨t', hnew, hd, hm⟩
  · rw [List.getElem?_set_ne (fun e => hrr e.symm)]
    have := hrel.2 r'
    cases hb : s.root r' <;> cases heb : (sp[r']?).join <;> simp only [hb, heb, RelAt] at this ⊢
    obtain ⟨tb, hu, hdb, hmb⟩ := this
    exact ⟨tb, hother r' _ tb hrr hb hu, hdb, hmb⟩

/-! ### simulation of target lookup -/

theorem root_tx_sim {s : St} {sp : Store} (hinv : Inv s) (hrel : Rel s sp) (r : Nat) :
    (s.root r = none ∧ (sp[r]?).join = none) ∨
    (∃ a e t, s.root r = some a ∧ (sp[r]?).join = some e ∧ unfoldA D s.heap a = some t ∧
      decode t = some e.val ∧ t.isMut = e.isMut ∧ flagsOK t.isMut t ∧ absVal s.heap a = some e.val) := by
  have hr := hrel.2 r
  cases hroot : s.root r with
  | none =>
    cases hentry : (sp[r]?).join with
    | none => exact Or.inl ⟨rfl, rfl⟩
    | some e => simp [hroot, hentry, RelAt] at hr
  | some a =>
    cases hentry : (sp[r]?).join with
    | none => simp [hroot, hentry, RelAt] at hr
    | some e =>
      simp only [hroot, hentry, RelAt] at hr
      obtain ⟨t, hu, hd, hm⟩ := hr
      obtain ⟨t0, v0, hu0, _, hf0⟩ := hinv.roots r a hroot
      rw [hu] at hu0; cases hu0
      exact Or.inr ⟨a, e, t, rfl, rfl, hu, hd, hm, hf0, by simp [absVal, hu, hd]⟩

structure TInfo (s : St) (sp : Store) (tg : Target) (x : Addr) where
  a : Addr
  t : ATree
  tx : ATree
  e : Entry
  vx : Val
  o : Obj
  g : Nat
  hroot : s.root tg.root = some a
  hentry : (sp[tg.root]?).join = some e
  hu : unfoldA D s.heap a = some t
  hd : decode t = some e.val
  hm : t.isMut = e.isMut
  hf : flagsOK t.isMut t
  hsub : sub t tg.path = some tx
  haddr : tx.addr = x
  ho : s.heap[x]? = some o
  hom : tx.isMut = o.isMut
  hosc : tx.sc = o.sc
  hD : D = tg.path.length + (g + 1)
  hux : unfoldA (g + 1) s.heap x = some tx
  habs : absVal s.heap x = some vx
  hdx : decode tx = some vx
  hfx : flagsOK tx.isMut tx
  hlook : lookup sp tg = some (tx.isMut, vx)

theorem target_some {s : St} {sp : Store} (hinv : Inv s) (hrel : Rel s sp) {tg : Target} {x : Addr}
    (ht : s.target tg = some x) : Nonempty (TInfo s sp tg x) := by
  simp only [St.target, Option.bind_eq_bind] at ht
  rcases root_tx_sim hinv hrel tg.root with ⟨hroot, _⟩ | ⟨a, e, t, hroot, hentry, hu, hd, hm, hf0, _⟩
  · simp [hroot] at ht
  · simp only [hroot, Option.bind_some] at ht
    rw [resolve_sub hu] at ht
    cases hsub : sub t tg.path with
    | none => simp [hsub] at ht
    | some tx =>
      simp only [hsub, Option.map_some, Option.some.injEq] at ht
      obtain ⟨vx, hg, hdx, hfx⟩ := (sub_getM hd hf0).1 tx hsub
      obtain ⟨g, hD, hux⟩ := sub_fuel hu hsub
      rw [ht] at hux
      obtain ⟨o, kids, ho, _, htx⟩ := unfoldA_succ hux
      have hfull : unfoldA D s.heap x = some tx := unfoldA_fuel_le (by omega) hux
      exact ⟨{ a := a, t := t, tx := tx, e := e, vx := vx, o := o, g := g, hroot := hroot, hentry := hentry,
               hu := hu, hd := hd, hm := hm, hf := hf0, hsub := hsub, haddr := ht, ho := ho,
               hom := by rw [htx]; rfl, hosc := by rw [htx]; rfl, hD := hD, hux := hux,
               habs := by simp [absVal, hfull, hdx], hdx := hdx, hfx := hfx,
               hlook := by simp [lookup, hentry, ← hm, hg] }⟩

theorem TInfo.node {s : St} {sp : Store} {tg : Target} {x : Addr} (I : TInfo s sp tg x) :
    ∃ kids, I.tx = .node x I.o.isMut I.o.sc kids ∧ mapO (unfoldA I.g s.heap) I.o.refs = some kids ∧
      mapO decode kids = some (partsOf I.vx).2 ∧ I.o.sc = (partsOf I.vx).1 ∧
      (I.o.isMut = true → flagsOKL true kids) := by
  obtain ⟨o, kids, ho, hk, htx⟩ := unfoldA_succ I.hux
  rw [I.ho] at ho; cases ho
  have hdx := I.hdx
  rw [htx] at hdx
  obtain ⟨vs, hvs, hasm⟩ := decode_inv hdx
  have hp := assemble_inv hasm
  refine ⟨kids, htx, hk, by rw [hp]; exact hvs, by rw [hp], fun hm => ?_⟩
  have := I.hfx
  rw [htx, hm] at this
  exact this.2

theorem target_none {s : St} {sp : Store} (hinv : Inv s) (hrel : Rel s sp) {tg : Target}
    (ht : s.target tg = none) : lookup sp tg = none := by
  simp only [St.target, Option.bind_eq_bind] at ht
  rcases root_tx_sim hinv hrel tg.root with ⟨_, hentry⟩ | ⟨a, e, t, hroot, hentry, hu, hd, hm, hf0, _⟩
  · simp [lookup, hentry]
  · simp only [hroot, Option.bind_some] at ht
    rw [resolve_sub hu] at ht
    cases hsub : sub t tg.path with
    | some tx => simp [hsub] at ht
    | none =>
      have := (sub_getM hd hf0).2 hsub
      simp [lookup, hentry, ← hm, this]

end BtcVerif.Model.Heap

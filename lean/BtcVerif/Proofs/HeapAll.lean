/-
  C09: every operation is simulated; histories.
-/
import BtcVerif.Proofs.HeapSim
import BtcVerif.Proofs.HeapSighash
import BtcVerif.Proofs.HeapOpsBlock

namespace BtcVerif.Model.Heap
open BtcVerif BtcVerif.Spec.ValueSem

theorem sim_all {s : St} {sp : Store} (hinv : Inv s) (hrel : Rel s sp) (op : Op) : Sim s sp op := by
  cases hc : coreOp op with
  | true => exact sim_core hinv hrel op hc
  | false =>
    cases op with
    | newBlock h t => exact sim_newBlock hinv hrel h t
    | sighash r sb i ht => exact sim_sighash hinv hrel r sb i ht
    | verify r i c => exact sim_verify hinv hrel r i c
    | _ => simp [coreOp] at hc

/-- the value store a state denotes -/
def denote (s : St) : Store :=
  s.names.map fun n => n.bind fun a => (unfoldA D s.heap a).bind fun t => (decode t).map fun v => ⟨t.isMut, v⟩

theorem rel_denote {s : St} (hinv : Inv s) : Rel s (denote s) := by
  refine ⟨by simp [denote], ?_⟩
  intro r
  simp only [denote, St.root, List.getElem?_map]
  cases hn : s.names[r]? with
  | none => simp [RelAt]
  | some n =>
    cases n with
    | none => simp [RelAt]
    | some a =>
      obtain ⟨t, v, hu, hd, _⟩ := hinv.roots r a (by simp [St.root, hn])
      simp only [Option.map_some, Option.join_some, Option.bind_some, hu, hd, RelAt]
      exact ⟨t, rfl, hd, rfl⟩

theorem run_sim : ∀ (ops : List Op) {s : St} {sp : Store}, Inv s → Rel s sp →
    Inv (run s ops).1 ∧ Rel (run s ops).1 (Spec.ValueSem.run sp ops).1 ∧ (run s ops).2 = (Spec.ValueSem.run sp ops).2
  | [], s, sp, hinv, hrel => ⟨hinv, hrel, rfl⟩
  | op :: ops, s, sp, hinv, hrel => by
    obtain ⟨h1, h2, h3⟩ := sim_all hinv hrel op
    obtain ⟨k1, k2, k3⟩ := run_sim ops h1 h2
    simp only [run, Spec.ValueSem.run]
    exact ⟨k1, k2, by rw [h3, k3]⟩

end BtcVerif.Model.Heap

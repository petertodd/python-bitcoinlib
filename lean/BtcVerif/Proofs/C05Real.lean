/-
  C05 — the concrete environment of the library model (`Model.ScriptEval.Real.realCtx`): through C03's
  `raw_eq`, for a transaction in wire range the modelled signature check is ECDSA over the reference
  digest (`real_sigCheck`, `real_closed`); the template script codes tokenise (`parses_*`).
-/
import BtcVerif.Proofs.C05Templates
import BtcVerif.Proofs.SighashLegacy
import BtcVerif.Proofs.CryptoLen
import BtcVerif.Model.ScriptEnvReal

namespace BtcVerif.C05T
open BtcVerif BtcVerif.Spec BtcVerif.Spec.Script BtcVerif.Model.Script BtcVerif.Model.ScriptEval
open BtcVerif.Spec.Templates BtcVerif.Model.ScriptEval.Real BtcVerif.Spec.Sighash

theorem parses_of_rawIter {s : Bytes} (h : (rawIter s).2 = none) : parses s :=
  (SighashProofs.rawIter_ok_iff_parses s).1 h

theorem parses_p2pk (key : Bytes) (hk : key.length < 0x4c) : parses (p2pkScript key) :=
  parses_of_rawIter (by rw [rawIter_p2pk key hk])

theorem parses_p2pkh (h : Bytes) (hh : h.length < 0x4c) : parses (p2pkhScript h) :=
  parses_of_rawIter (by rw [rawIter_p2pkh h hh])

theorem parses_multisig (m : Nat) (keys : List Bytes) (hk : ∀ k ∈ keys, k.length < 0x4c) :
    parses (multisigScript m keys) :=
  parses_of_rawIter (by rw [rawIter_multisig m keys hk])

theorem multisig_length_le (m : Nat) (keys : List Bytes) (hk : ∀ k ∈ keys, k.length < 0x4c) :
    (multisigScript m keys).length ≤ 0x4c * keys.length + 5 := by
  have hL := pushAll_length_le keys hk
  have hp1 := numPush_length_le m
  have hp2 := numPush_length_le keys.length
  simp only [multisigScript, List.length_append, List.length_singleton]; omega

theorem real_sigHash (tx : Tx) (i : Nat) (sc : Bytes) (ht : Nat) (hp : parses sc)
    (hsc : sc.length < 2 ^ 64) (hwf : FieldsWF tx) (hht : ht < 256) :
    (realCtx tx (i : Int)).sigHash sc ht = .ok (legacySighash sc tx i ht).1 := by
  show (rawSignatureHashInt sc tx (i : Int) (ht : Int)).map (·.1) = _
  unfold rawSignatureHashInt
  rw [if_pos (Int.natCast_nonneg i), Int.toNat_natCast,
    SighashProofs.raw_eq sc tx i ht hp hsc hwf (SighashProofs.htRel_cast ht) (SighashProofs.packI_ht (by omega))]
  rfl

theorem realCtx_env (tx : Tx) (i : Nat) : (realCtx tx (i : Int)).env = realEnv tx (i : Int) := rfl

theorem realCtx_sigTotal (tx : Tx) (i : Nat) (hwf : FieldsWF tx) : (realCtx tx (i : Int)).SigTotal :=
  ⟨fun sc ht hlen hht hp =>
    ⟨_, real_sigHash tx i sc ht (parses_of_rawIter hp) (by unfold MAX_SCRIPT_SIZE at hlen; omega) hwf hht⟩⟩

theorem real_sigCheck (tx : Tx) (i : Nat) (body key sc : Bytes) (ht : Nat) (hp : parses sc)
    (hsc : sc.length < 2 ^ 64) (hwf : FieldsWF tx) (hht : ht < 256) :
    (realCtx tx (i : Int)).env.sigCheck body key sc ht =
      (txEnv realHashes ecdsaCheck tx i).sigCheck body key sc ht := by
  simp only [Ctx.env, real_sigHash tx i sc ht hp hsc hwf hht]
  rfl

theorem real_closed (tx : Tx) (i : Nat) {x : M Unit} {body key sc : Bytes} {ht : UInt8}
    (h : x = if (realCtx tx (i : Int)).env.sigCheck body key sc ht.toNat then .ok () else .error .verify)
    (hp : parses sc) (hsc : sc.length < 2 ^ 64) (hwf : FieldsWF tx) :
    x = if ecdsaCheck body key (legacySighash sc tx i ht.toNat).1 then .ok () else .error .verify := by
  rw [h, real_sigCheck tx i body key sc _ hp hsc hwf ht.toNat_lt]; rfl

theorem real_chkSig_fun (tx : Tx) (i : Nat) {sc : Bytes} (hp : parses sc) (hsc : sc.length < 2 ^ 64)
    (hwf : FieldsWF tx) :
    chkSig (realCtx tx (i : Int)).env sc = chkSig (txEnv realHashes ecdsaCheck tx i) sc :=
  funext fun sig => funext fun key => by
    unfold chkSig
    cases sig.getLast? with
    | none => rfl
    | some ht => exact real_sigCheck tx i _ key sc _ hp hsc hwf ht.toNat_lt

theorem real_hash160_length (tx : Tx) (i : Int) (x : Bytes) : ((realCtx tx i).env.hashes.hash160 x).length = 20 :=
  Crypto.ripemd160_length _

theorem realHashes_hash160_length (x : Bytes) : (realHashes.hash160 x).length = 20 := Crypto.ripemd160_length _

end BtcVerif.C05T

/-
  Helper lemmas for C06 / C07: the Python-list operations on top-first lists, the number codec
  (`bn2vch` / `vch2bn`) and `raw_iter` facts used by the interpreter invariants.
-/
import BtcVerif.Model.ScriptEval
import BtcVerif.Proofs.DigitCount
import Mathlib.Tactic.SplitIfs

namespace BtcVerif.Model.ScriptEval
open BtcVerif BtcVerif.Spec BtcVerif.Spec.Script BtcVerif.Model.Script

/-- the exception `raiseNamed` raises (EvalScriptError, or KeyError if the opcode had no name) -/
def namedErr (sop : Nat) (st : St) : Err :=
  match opcodeName? sop with
  | none => .py "KeyError"
  | some _ => .eval st.cap

@[simp] theorem raiseNamed_eq {α} (sop : Nat) (st : St) :
    (raiseNamed sop st : M α) = .error (namedErr sop st) := by
  unfold raiseNamed namedErr; cases opcodeName? sop <;> rfl

@[simp] theorem raise_eq {α} (st : St) : (raise st : M α) = .error (.eval st.cap) := rfl

@[simp] theorem ok_bind {α β} (a : α) (f : α → M β) : (Except.ok a >>= f) = f a := rfl
@[simp] theorem pyIdx_some {α} (a : α) : pyIdx (some a) = .ok a := rfl
@[simp] theorem pyIdx_none {α} : pyIdx (none : Option α) = .error (.py "IndexError") := rfl
@[simp] theorem error_bind {α β} (e : Err) (f : α → M β) : (Except.error e >>= f) = .error e := rfl

section lits
variable {α : Type} (a b c d e f : α) (l : List α) (v : α)

@[simp] theorem getTop?_1 : getTop? (a :: l) 1 = some a := by simp [getTop?]
@[simp] theorem getTop?_2 : getTop? (a :: b :: l) 2 = some b := by simp [getTop?]
@[simp] theorem getTop?_3 : getTop? (a :: b :: c :: l) 3 = some c := by simp [getTop?]
@[simp] theorem getTop?_4 : getTop? (a :: b :: c :: d :: l) 4 = some d := by simp [getTop?]
@[simp] theorem getTop?_5 : getTop? (a :: b :: c :: d :: e :: l) 5 = some e := by simp [getTop?]
@[simp] theorem getTop?_6 : getTop? (a :: b :: c :: d :: e :: f :: l) 6 = some f := by simp [getTop?]

@[simp] theorem delTop?_2 : delTop? (a :: b :: l) 2 = some (a :: l) := by simp [delTop?, topPos?]
@[simp] theorem delTop?_5 : delTop? (a :: b :: c :: d :: e :: l) 5 = some (a :: b :: c :: d :: l) := by
  simp [delTop?, topPos?]
@[simp] theorem delTop?_6 :
    delTop? (a :: b :: c :: d :: e :: f :: l) 6 = some (a :: b :: c :: d :: e :: l) := by
  simp [delTop?, topPos?]

@[simp] theorem setTop?_1 : setTop? (a :: l) 1 v = some (v :: l) := by simp [setTop?, topPos?]
@[simp] theorem setTop?_2 : setTop? (a :: b :: l) 2 v = some (a :: v :: l) := by simp [setTop?, topPos?]
@[simp] theorem setTop?_3 : setTop? (a :: b :: c :: l) 3 v = some (a :: b :: v :: l) := by
  simp [setTop?, topPos?]
@[simp] theorem setTop?_4 : setTop? (a :: b :: c :: d :: l) 4 v = some (a :: b :: c :: v :: l) := by
  simp [setTop?, topPos?]

@[simp] theorem pop?_cons : pop? (a :: l) = some (a, l) := rfl
@[simp] theorem pop?_nil : pop? ([] : List α) = none := rfl

@[simp] theorem insertBelowTop_2 : insertBelowTop (a :: b :: l) v = a :: b :: v :: l := by
  simp [insertBelowTop]
end lits

theorem getTop?_pos {α} (l : List α) (k : Int) (h1 : 1 ≤ k) (h2 : k ≤ l.length) :
    ∃ x, getTop? l k = some x ∧ x ∈ l ∧ l[(k - 1).toNat]? = some x := by
  have hlt : (k - 1).toNat < l.length := by omega
  refine ⟨l[(k - 1).toNat], ?_, List.getElem_mem hlt, ?_⟩
  · simp [getTop?, h1]
  · simp

theorem delTop?_pos {α} (l : List α) (k : Int) (h1 : 1 ≤ k) (h2 : k ≤ l.length) :
    delTop? l k = some (l.eraseIdx (k - 1).toNat) := by
  simp [delTop?, topPos?, h1]
  omega

theorem getTop?_succ {α} (l : List α) (v : Int) (h : 0 ≤ v) : getTop? l (v + 1) = l[v.toNat]? := by
  have h1 : (1 : Int) ≤ v + 1 := by omega
  rw [getTop?, if_pos h1, Int.add_sub_cancel]

theorem delTop?_succ {α} (l : List α) (v : Int) (h : 0 ≤ v) (h2 : v < l.length) :
    delTop? l (v + 1) = some (l.eraseIdx v.toNat) := by
  have h1 : (1 : Int) ≤ v + 1 := by omega
  have h3 : v.toNat < l.length := by omega
  rw [delTop?, topPos?, if_pos h1, Int.add_sub_cancel, if_pos h3]; rfl

theorem popN_eq (n : Nat) (l : List Bytes) (h : n ≤ l.length) : popN n l = .ok (l.drop n) := by
  induction n generalizing l with
  | zero => simp [popN]
  | succ n ih =>
    cases l with
    | nil => simp at h
    | cons x r =>
      simp only [popN, pop?_cons, pyIdx, bind, Except.bind]
      rw [ih r (by simpa using h)]
      simp

theorem bitLength_zero : bitLength 0 = 0 := by unfold bitLength; simp

theorem bitLength_pos {n : Nat} (h : n ≠ 0) : bitLength n = bitLength (n / 2) + 1 := by
  rw [bitLength]; simp [h]

theorem bitLength_le_iff (n k : Nat) : bitLength n ≤ k ↔ n < 2 ^ k :=
  digitCount_le_iff (Nat.le_refl 2) bitLength_zero (fun _ h => bitLength_pos h) n k

theorem bitLength_le {m n : Nat} (h : n < 2 ^ m) : bitLength n ≤ m := (bitLength_le_iff n m).mpr h

theorem bnBytes_le {k n : Nat} (h : n < 256 ^ k) : bnBytes n false ≤ k := by
  have h' : n < 2 ^ (8 * k) := by
    rw [Nat.pow_mul]; exact h
  have := bitLength_le h'
  simp only [bnBytes]
  simp
  omega

theorem bnBytes_pos {n : Nat} (h : n ≠ 0) : 1 ≤ bnBytes n false := by
  have := bitLength_pos h
  simp only [bnBytes]
  simp
  omega

@[simp] theorem bn2bin_length (v : Nat) : (bn2bin v).length = bnBytes v false := by
  simp [bn2bin]

theorem bn2vch_spec (v : Int) :
    ∃ b, bn2vch v = .ok b ∧ b.length ≤ bnBytes v.natAbs false + 1 := by
  unfold bn2vch bn2mpiBody
  by_cases hneg : v < 0
  · have hne : v.natAbs ≠ 0 := by omega
    have hpos := bnBytes_pos hne
    simp only [hneg, decide_true, if_true]
    split
    · refine ⟨_, rfl, ?_⟩; simp
    · cases hb : bn2bin v.natAbs with
      | nil =>
        have : (bn2bin v.natAbs).length = 0 := by rw [hb]; rfl
        rw [bn2bin_length] at this; omega
      | cons x r =>
        refine ⟨_, rfl, ?_⟩
        have : (bn2bin v.natAbs).length = r.length + 1 := by rw [hb]; rfl
        rw [bn2bin_length] at this
        simp; omega
  · simp only [hneg, decide_false, Bool.false_eq_true, if_false]
    refine ⟨_, rfl, ?_⟩
    simp
    split <;> simp

theorem bn2vch_small (v : Int) (h1 : -(2 ^ 40) < v) (h2 : v < 2 ^ 40) :
    ∃ b, bn2vch v = .ok b ∧ b.length ≤ 6 := by
  obtain ⟨b, hb, hl⟩ := bn2vch_spec v
  refine ⟨b, hb, ?_⟩
  have : v.natAbs < 256 ^ 5 := by omega
  have := bnBytes_le this
  omega

theorem beNat_foldl_lt (l : Bytes) (acc : Nat) :
    l.foldl (fun acc b => acc * 256 + b.toNat) acc < (acc + 1) * 256 ^ l.length := by
  induction l generalizing acc with
  | nil => simp
  | cons b r ih =>
    have hb : b.toNat < 256 := b.toNat_lt
    simp only [List.foldl_cons, List.length_cons, Nat.pow_succ]
    have h1 := ih (acc * 256 + b.toNat)
    have h2 : (acc * 256 + b.toNat + 1) * 256 ^ r.length ≤ ((acc + 1) * 256) * 256 ^ r.length :=
      Nat.mul_le_mul_right _ (by omega)
    calc _ < (acc * 256 + b.toNat + 1) * 256 ^ r.length := h1
      _ ≤ ((acc + 1) * 256) * 256 ^ r.length := h2
      _ = (acc + 1) * (256 ^ r.length * 256) := by
        rw [Nat.mul_assoc, Nat.mul_comm 256]

theorem beNat_lt (l : Bytes) : beNat l < 256 ^ l.length := by
  have := beNat_foldl_lt l 0
  simpa [beNat] using this

theorem vch2bn_spec (s : Bytes) (h : s.length < 2 ^ 32) :
    ∃ v : Int, vch2bn s = .ok v ∧ -(256 ^ s.length : Nat) < v ∧ v < (256 ^ s.length : Nat) := by
  unfold vch2bn
  have h' : ¬ s.length ≥ 2 ^ 32 := by omega
  simp only [h', if_false]
  cases hr : s.reverse with
  | nil =>
    refine ⟨0, rfl, ?_, ?_⟩
    · have : 0 < 256 ^ s.length := Nat.pow_pos (by omega)
      omega
    · have : 0 < 256 ^ s.length := Nat.pow_pos (by omega)
      omega
  | cons t r =>
    have hlen : s.length = r.length + 1 := by
      have : s.reverse.length = r.length + 1 := by rw [hr]; rfl
      simpa using this
    simp only
    split
    · refine ⟨_, rfl, ?_, ?_⟩
      · have := beNat_lt (UInt8.ofNat (t.toNat - 0x80) :: r)
        simp only [List.length_cons] at this
        rw [hlen]; omega
      · have : 0 < 256 ^ s.length := Nat.pow_pos (by omega)
        omega
    · refine ⟨_, rfl, ?_, ?_⟩
      · have : 0 < 256 ^ s.length := Nat.pow_pos (by omega)
        omega
      · have := beNat_lt (t :: r)
        simp only [List.length_cons] at this
        rw [hlen]; omega

theorem rawIterFrom_none {idx : Nat} {s : Bytes} (h : rawStep idx s = none) :
    rawIterFrom idx s = ([], none) := by
  rw [rawIterFrom]; split <;> simp_all

theorem rawIterFrom_err {idx : Nat} {s : Bytes} {e : IterErr} (h : rawStep idx s = some (.err e)) :
    rawIterFrom idx s = ([], some e) := by
  rw [rawIterFrom]; split <;> simp_all

theorem rawIterFrom_op {idx : Nat} {s : Bytes} {o : RawOp} {rest : Bytes}
    (h : rawStep idx s = some (.op o rest)) :
    rawIterFrom idx s = (o :: (rawIterFrom (idx + (s.length - rest.length)) rest).1,
      (rawIterFrom (idx + (s.length - rest.length)) rest).2) := by
  rw [rawIterFrom]; split <;> simp_all

end BtcVerif.Model.ScriptEval

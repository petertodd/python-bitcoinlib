/-
  ECDSA stated abstractly (SEC 1 §4.1) over any additive commutative group `E` that is a module over
  the prime field `ZMod q` (a group of exponent q: every element is killed by q), with a base point
  `g` and a conversion function `f : E → ZMod q` ("x-coordinate mod n") that is even: `f (−P) = f P`.
  Pure group algebra; nothing here is specific to secp256k1.  That the Jacobian formulas of
  Crypto/Secp256k1.lean implement such a group is NOT proved (trusted base, cross-checked by T2).
-/
import Mathlib.Algebra.Field.ZMod
import Mathlib.Algebra.Module.Basic

namespace BtcVerif.Ecdsa

variable {q : ℕ} [Fact q.Prime] {E : Type} [AddCommGroup E] [Module (ZMod q) E]

/-- the data ECDSA needs from the curve -/
structure Params (q : ℕ) (E : Type) [AddCommGroup E] where
  g : E
  f : E → ZMod q
  f_neg : ∀ P, f (-P) = f P

/-- the point the verifier computes: `(e/s)·G + (r/s)·Q` -/
def verifyPoint (C : Params q E) (Q : E) (e r s : ZMod q) : E := (e * s⁻¹) • C.g + (r * s⁻¹) • Q

/-- SEC 1 §4.1.4 (scalars already reduced into the field, so "in [1, n−1]" reads "≠ 0") -/
def Verify (C : Params q E) (Q : E) (e r s : ZMod q) : Prop :=
  r ≠ 0 ∧ s ≠ 0 ∧ verifyPoint C Q e r s ≠ 0 ∧ C.f (verifyPoint C Q e r s) = r

/-- SEC 1 §4.1.3 with secret `d`, digest `e`, nonce `k` -/
def signR (C : Params q E) (k : ZMod q) : ZMod q := C.f (k • C.g)
def signS (C : Params q E) (d e k : ZMod q) : ZMod q := k⁻¹ * (e + signR C k * d)

/-- SEC 1 §4.1.6 / Bitcoin Core: `Q = r⁻¹ (s·R − e·G)`, written as python-bitcoinlib computes it -/
def recoverPoint (C : Params q E) (R : E) (e r s : ZMod q) : E := ((-e) * r⁻¹) • C.g + (s * r⁻¹) • R

theorem verifyPoint_sign (C : Params q E) (d e k : ZMod q) (hs : signS C d e k ≠ 0) :
    verifyPoint C (d • C.g) e (signR C k) (signS C d e k) = k • C.g := by
  have hne : e + signR C k * d ≠ 0 := right_ne_zero_of_mul hs
  -- (e + r·d)/s with s = (e + r·d)/k
  rw [verifyPoint, smul_smul, ← add_smul, mul_right_comm, ← add_mul, signS, mul_inv, inv_inv, mul_left_comm,
    mul_inv_cancel₀ hne, mul_one]

theorem verify_sign (C : Params q E) (d e k : ZMod q) (hR : k • C.g ≠ 0) (hr : signR C k ≠ 0)
    (hs : signS C d e k ≠ 0) : Verify C (d • C.g) e (signR C k) (signS C d e k) := by
  refine ⟨hr, hs, ?_, ?_⟩
  · rw [verifyPoint_sign C d e k hs]; exact hR
  · rw [verifyPoint_sign C d e k hs]; rfl

theorem verifyPoint_neg (C : Params q E) (Q : E) (e r s : ZMod q) :
    verifyPoint C Q e r (-s) = -verifyPoint C Q e r s := by
  unfold verifyPoint
  rw [inv_neg, mul_neg, mul_neg, neg_smul, neg_smul, neg_add]

theorem verify_lowS_twin (C : Params q E) (Q : E) (e r s : ZMod q) :
    Verify C Q e r s ↔ Verify C Q e r (-s) := by
  unfold Verify
  rw [verifyPoint_neg, C.f_neg, neg_ne_zero, neg_ne_zero]

theorem recover_correct (C : Params q E) (d e k : ZMod q) (hk : k ≠ 0) (hr : signR C k ≠ 0) :
    recoverPoint C (k • C.g) e (signR C k) (signS C d e k) = d • C.g := by
  -- (−e + s·k)/r with s·k = e + r·d
  rw [recoverPoint, smul_smul, ← add_smul, mul_right_comm, ← add_mul, signS, mul_right_comm, inv_mul_cancel₀ hk,
    one_mul, neg_add_cancel_left, mul_right_comm, mul_inv_cancel₀ hr, one_mul]

theorem verifyPoint_recoverPoint (C : Params q E) (R : E) (e r s : ZMod q) (hr : r ≠ 0) (hs : s ≠ 0) :
    verifyPoint C (recoverPoint C R e r s) e r s = R := by
  have h1 : e * s⁻¹ + r * s⁻¹ * (-e * r⁻¹) = 0 := by
    rw [mul_comm (-e), ← mul_assoc, mul_right_comm r, mul_inv_cancel₀ hr, one_mul, mul_neg, mul_comm,
      add_neg_cancel]
  have h2 : r * s⁻¹ * (s * r⁻¹) = 1 := by rw [mul_assoc, inv_mul_cancel_left₀ hs, mul_inv_cancel₀ hr]
  rw [verifyPoint, recoverPoint, smul_add, smul_smul, smul_smul, ← add_assoc, ← add_smul, h1, h2, zero_smul,
    zero_add, one_smul]

theorem smul_left_cancel_of_ne_zero {P : E} (hP : P ≠ 0) {a b : ZMod q} (h : a • P = b • P) : a = b := by
  refine Classical.byContradiction fun hab => hP ?_
  have h0 : (a - b) • P = 0 := by rw [sub_smul, h, sub_self]
  rw [← one_smul (ZMod q) P, ← inv_mul_cancel₀ (sub_ne_zero.mpr hab), ← smul_smul, h0, smul_zero]

end BtcVerif.Ecdsa

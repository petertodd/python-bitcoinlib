/-
  Kernel-checkable form of the weight-3/4 exhaustive check (C11, `detects_le4`).

  `hi s = s / 32` is the high 25 bits of a state.  With `H v g = hi (Tᵍ v)`:
    K1  the 2728 values `H v g` (v ∈ 1..31, g ∈ 1..88) are non-zero and pairwise distinct;
    K2  for all w ∈ 1..31 and 88 ≥ a > b ≥ 1:  `H 1 a ^^^ H w b` is non-zero and is no `H u g`
        (patterns whose first error is not `1` are rescaled to such a one, `Proofs/Bech32Scale`).
  Membership is decided with a 65536-bit filter (bit `k mod 65536`) backed by a search tree; the only
  verified property of both is "every `H v g` has its filter bit set and is found in the tree under
  its own index" (no ordering invariant is needed for soundness).

  The functions are written with recursors and `Bool`-valued `Nat` primitives because that is what the
  kernel evaluates cheaply (measured: ≈ 0.1 ms per look-up against ≈ 6 ms for the equation-compiler
  versions with `if x < k`).  Definitions only; Mathlib-free.
-/

namespace BtcVerif.Bech32.Shards

inductive Tree where
  | leaf
  | node (l : Tree) (key : Nat) (id : Nat) (r : Tree)

noncomputable def lookup (t : Tree) (x : Nat) : Option Nat :=
  Tree.rec (motive := fun _ => Option Nat) none
    (fun _ k i _ ihl ihr => bif Nat.blt x k then ihl else bif Nat.blt k x then ihr else some i) t

/-- the filter bit of `k` is clear -/
def bitClear (msk k : Nat) : Bool := Nat.beq (Nat.land (Nat.shiftRight msk (Nat.land k 65535)) 1) 0

/-- `k` is neither zero nor one of the stored keys -/
noncomputable def okKey (t : Tree) (msk k : Nat) : Bool :=
  bif Nat.beq k 0 then false else
  bif bitClear msk k then true else
    Option.rec (motive := fun _ => Bool) true (fun _ => false) (lookup t k)

noncomputable def zipOk (t : Tree) (msk : Nat) (ps : List Nat) : List Nat → Bool :=
  List.rec (motive := fun _ => List Nat → Bool) (fun _ => true)
    (fun p _ ih qs => List.rec (motive := fun _ => Bool) true
      (fun q qs' _ => bif okKey t msk (Nat.xor p q) then ih qs' else false) qs) ps

/-- all pairs `(A[i], B[j])` with `j < i` pass `okKey` on their xor -/
noncomputable def shiftsOk (t : Tree) (msk : Nat) (A B : List Nat) : Bool :=
  List.rec (motive := fun _ => Bool) true
    (fun _ as ih => bif zipOk t msk as B then ih else false) A

/-- K1 for one row: entry `j` is non-zero, has its filter bit set, and is stored under index `base + j` -/
noncomputable def rowFound (t : Tree) (msk : Nat) (row : List Nat) : Nat → Bool :=
  List.rec (motive := fun _ => Nat → Bool) (fun _ => true)
    (fun h _ ih j =>
      bif Nat.beq h 0 then false else
      bif bitClear msk h then false else
      bif Option.rec (motive := fun _ => Bool) false (fun i => Nat.beq i j) (lookup t h) then ih (Nat.succ j)
      else false) row

noncomputable def tableFound (t : Tree) (msk : Nat) (tab : List (List Nat)) : Nat → Bool :=
  List.rec (motive := fun _ => Nat → Bool) (fun _ => true)
    (fun r _ ih i => bif rowFound t msk r (88 * i) then ih (Nat.succ i) else false) tab

end BtcVerif.Bech32.Shards

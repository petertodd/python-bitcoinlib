/-
  The kernel check (see Defs.lean).  K0: the generated table is the table of high parts of the orbits of `T`.
  K1: every entry is non-zero, has its filter bit set and sits in the search tree under its own index.
  K2: no xor of an entry of the first row (the orbit of `1`) with an earlier entry of any row is zero or stored.
  K0 and K1 are kernel evaluations of a few thousand steps, K2 of 31·3828 look-ups.
-/
import BtcVerif.Proofs.Bech32Code
import BtcVerif.Proofs.Bech32Code4Shards.Data

namespace BtcVerif.Bech32

/-- `[T c, T² c, …, Tⁿ c]` -/
def orbit : Nat → Nat → List Nat
  | 0, _ => []
  | n + 1, c => T c :: orbit n (T c)

theorem orbit_getElem? (n c j : Nat) (hj : j < n) : (orbit n c)[j]? = some (T^[j + 1] c) := by
  induction n generalizing c j with
  | zero => omega
  | succ n ih =>
    cases j with
    | zero => simp [orbit]
    | succ j =>
      simp only [orbit, List.getElem?_cons_succ]
      rw [ih (T c) j (by omega), Function.iterate_succ_apply (f := T) (n := j + 1)]

namespace Shards

/-- row `i` = high parts of the orbit of the 5-bit value `i + 1` -/
def hiTableC : List (List Nat) :=
  (List.range 31).map fun i => (orbit 88 (i + 1)).map (· / 32)

/-- K0 -/
theorem hiTable_eq : hiTable = hiTableC := by decide +kernel

/-- K1 -/
theorem tableFound_true : tableFound hiTree hiMask hiTable 0 = true := by decide +kernel

/-- K2 -/
theorem row1_pairs : hiTable.all (shiftsOk hiTree hiMask row01) = true := by decide +kernel

end Shards
end BtcVerif.Bech32

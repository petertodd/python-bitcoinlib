/-
  C06 — OP_CHECKSIG(VERIFY): the hypotheses on the context (`CodesepInsensitive`, `SigHashOK`),
  `_CheckSig` against `CheckECDSASignature` on related subscripts, and `arm_checksig`.
-/
import BtcVerif.Proofs.ScriptFad
import BtcVerif.Proofs.ScriptEquivStep

namespace BtcVerif.Model.ScriptEval
open BtcVerif BtcVerif.Spec BtcVerif.Spec.Script BtcVerif.Model.Script

/-- the signature check does not depend on a leading OP_CODESEPARATOR of the script code (the
    legacy signature hash removes every OP_CODESEPARATOR before hashing: C03) -/
def CodesepInsensitive (env : Env) : Prop :=
  ∀ body pk sc ht, env.sigCheck body pk ((0xab : UInt8) :: sc) ht = env.sigCheck body pk sc ht

/-- `RawSignatureHash` returns a digest for every script code of at most 10 000 bytes that tokenises
    and every hash type byte; true of the real one on `IdxOK` indices (`Real.sigHashOK_real`) -/
def SigHashOK (c : Ctx) : Prop :=
  ∀ script ht, script.length ≤ MAX_SCRIPT_SIZE → ht < 256 → (rawIter script).2 = none →
    ∃ d, c.sigHash script ht = .ok d

/-- the model's subscript is the reference's, possibly with the last executed OP_CODESEPARATOR in
    front of it -/
def SubRel (m r : Bytes) : Prop := m = r ∨ m = (0xab : UInt8) :: r

theorem CodeRel.subRel {script : Bytes} {pb : Nat} {code : Bytes} (h : CodeRel script pb code) :
    SubRel (script.drop pb) code := by
  rcases h with ⟨rfl, rfl⟩ | h
  · exact Or.inl rfl
  · exact Or.inr h

theorem subRel_fad {m r b : Bytes} (hb : PushPat b) (h : SubRel m r) :
    SubRel (Ref.findAndDelete m b) (Ref.findAndDelete r b) := by
  rcases h with rfl | rfl
  · left; rfl
  · right
    simp only [Ref.findAndDelete, hb.ne_nil, if_false]
    exact fadLoop_codesep hb r

theorem checkSig_sim (c : Ctx) (cap : Captured) (sig pk script' code' : Bytes) (hsh : SigHashOK c)
    (hcs : CodesepInsensitive c.env) (hrel : SubRel script' code')
    (hparse : (rawIter script').2 = none) (hlen : script'.length ≤ MAX_SCRIPT_SIZE) :
    checkSig c cap sig pk script' = .ok (Ref.checkSig c.env sig pk code') := by
  unfold checkSig Ref.checkSig
  have hsc : ∀ body ht, c.env.sigCheck body pk script' ht = c.env.sigCheck body pk code' ht := by
    intro body ht
    rcases hrel with rfl | rfl
    · rfl
    · exact hcs body pk code' ht
  cases sig with
  | nil => simp
  | cons x r =>
    have hl : (x :: r).getLast? = some ((x :: r).getLast (by simp)) := List.getLast?_eq_some_getLast (by simp)
    simp only [List.length_cons, Nat.add_one_ne_zero, if_false, hl]
    obtain ⟨d, hd⟩ := hsh script' ((x :: r).getLast (by simp)).toNat hlen (UInt8.toNat_lt _) hparse
    rw [← hsc]
    simp only [hd, Ctx.env]

theorem findAndDelete_parses (script b : Bytes) (hb : PushPat b) (h : (rawIter script).2 = none) :
    (rawIter (Ref.findAndDelete script b)).2 = none := by
  simp only [Ref.findAndDelete, hb.ne_nil, if_false]
  exact fadLoop_parses b hb 0 script h 0

section
variable (c : Ctx) (fl : Flags) (script pc code : Bytes) (fExec : Bool) (st : St)

theorem ref_execOp_checksig (env : Env) (sop : Nat) (hs : sop = 0xac ∨ sop = 0xad) (rs : Ref.State) :
    Ref.execOp env fl sop pc fExec rs =
      match rs.stack with
      | vchPubKey :: vchSig :: rest =>
        let ok := Ref.checkSig env vchSig vchPubKey (Ref.findAndDelete rs.codeHash (Ref.pushEnc vchSig))
        if sop = 0xad then (if ok then some { rs with stack := rest } else none)
        else some { rs with stack := Ref.boolVch ok :: rest }
      | _ => none := by
  rcases hs with rfl | rfl <;> rfl

theorem arm_checksig (sop : Nat) (hs : sop = 0xac ∨ sop = 0xad) (hsh : SigHashOK c)
    (hcs : CodesepInsensitive c.env) (hel : ∀ x ∈ st.stack, x.length < 2 ^ 32)
    (hcode : CodeRel script st.pbegin code) (hnop : st.nOpCount ≤ MAX_OPS_PER_SCRIPT)
    (hsl : script.length ≤ MAX_SCRIPT_SIZE) :
    ArmT ((rawIter (script.drop st.pbegin)).2.isSome) code st (opCheckSig c script sop st)
      (Ref.execOp c.env fl sop pc fExec (toRef st code)) := by
  rw [ref_execOp_checksig fl pc fExec c.env sop hs, opCheckSig, checkArgs, raiseNamed_eq]
  obtain ⟨s, al, vf, pb, n⟩ := st
  dsimp only at hel hcode hnop ⊢
  rcases s with _ | ⟨a, _ | ⟨b, rest⟩⟩
  · exact Or.inl rfl
  · exact Or.inl rfl
  · have hbl : b.length < 2 ^ 32 := hel b (by simp)
    have hpat := pushEnc_pat b hbl
    simp only [toRef, List.length_cons, len_lt_2, if_false, ok_bind, getTop?_1, getTop?_2, pyIdx_some,
      encodeOpPushdata_eq b hbl, findAndDelete_eq _ _ _ hpat]
    cases htl : (rawIter (script.drop pb)).2 with
    | some e => exact Or.inr ⟨rfl, _, rfl⟩
    | none =>
      have hck := checkSig_sim c (St.cap ⟨a :: b :: rest, al, vf, pb, n⟩) b a
        (Ref.findAndDelete (script.drop pb) (Ref.pushEnc b)) (Ref.findAndDelete code (Ref.pushEnc b)) hsh hcs
        (subRel_fad hpat hcode.subRel)
        (findAndDelete_parses (script.drop pb) (Ref.pushEnc b) hpat htl)
        (by have := ref_findAndDelete_length_le (script.drop pb) (Ref.pushEnc b)
            simp only [List.length_drop] at this; omega)
      simp only [Option.isSome_none, Bool.false_eq_true, if_false, ok_bind, hck, pop?_cons, pyIdx_some,
        raiseNamed_eq]
      rcases Bool.eq_false_or_eq_true (Ref.checkSig c.env b a (Ref.findAndDelete code (Ref.pushEnc b))) with
        hres | hres <;> simp only [hres]
      · rcases hs with rfl | rfl <;> exact ⟨rfl, rfl, hnop⟩
      · rcases hs with rfl | rfl
        · exact ⟨rfl, rfl, hnop⟩
        · exact Or.inl rfl

end

end BtcVerif.Model.ScriptEval

/-
  Corruption of segwit addresses (C11): `hamming` counts differing positions, `substitute` applies character
  substitutions.  Two valid addresses of one length under one prefix differ by an error pattern of zero syndrome
  whose weight is their distance (`valid_pair_syndrome`), so the distance is neither 1 nor 2 (`valid_hamming_gt2`);
  `k` substitutions move the lowercase form by at most `k` (`hamming_substitute_le`).
-/
import BtcVerif.Proofs.Bech32Addr

namespace BtcVerif.Bech32
open BtcVerif.Model.Bech32
open BtcVerif.Spec.Bech32 (charOf? dataChars? lowerStr Regroup Decodes ValidSegwit checksumValid)

/-- number of positions at which two strings (of the same length) differ -/
def hamming {α : Type} [DecidableEq α] : List α → List α → Nat
  | a :: as, b :: bs => (if a = b then 0 else 1) + hamming as bs
  | _, _ => 0

theorem hamming_append_left {α : Type} [DecidableEq α] (p a b : List α) :
    hamming (p ++ a) (p ++ b) = hamming a b := by
  induction p with
  | nil => rfl
  | cons x p ih => simp [hamming, ih]

theorem hamming_self {α : Type} [DecidableEq α] (a : List α) : hamming a a = 0 := by
  induction a with
  | nil => rfl
  | cons x a ih => simp [hamming, ih]

theorem hamming_chars (D D' : List Nat) (cs cs' : List Char) (h : dataChars? D = some cs)
    (h' : dataChars? D' = some cs') : hamming cs cs' = hamming D D' := by
  induction D generalizing D' cs cs' with
  | nil =>
    unfold dataChars? at h
    rw [mapM_nil_some] at h
    subst h
    simp [hamming]
  | cons d D ih =>
    unfold dataChars? at h
    rw [mapM_cons_some] at h
    obtain ⟨c, cs1, hc, hcs1, rfl⟩ := h
    cases D' with
    | nil =>
      unfold dataChars? at h'
      rw [mapM_nil_some] at h'
      subst h'
      simp [hamming]
    | cons d' D' =>
      unfold dataChars? at h'
      rw [mapM_cons_some] at h'
      obtain ⟨c', cs1', hc', hcs1', rfl⟩ := h'
      simp only [hamming]
      rw [ih D' cs1 cs1' hcs1 hcs1']
      congr 1
      by_cases hd : d = d'
      · subst hd
        rw [hc] at hc'
        simp only [Option.some.injEq] at hc'
        simp [hc']
      · have : c ≠ c' := by
          intro hcc
          subst hcc
          have h1 := (charsetFind_iff c d).2 hc
          have h2 := (charsetFind_iff c d').2 hc'
          rw [h1] at h2
          exact hd (Option.some.inj h2)
        simp [hd, this]

theorem weight_xorList (D D' : List Nat) (hl : D.length = D'.length) :
    weight (xorList D D') = hamming D D' := by
  induction D generalizing D' with
  | nil => cases D' <;> simp [xorList, weight, hamming]
  | cons d D ih =>
    cases D' with
    | nil => simp at hl
    | cons d' D' =>
      simp only [xorList, weight, hamming]
      rw [ih D' (by simpa using hl)]
      congr 1
      by_cases hd : d = d'
      · subst hd; simp
      · have : d ^^^ d' ≠ 0 := fun h => hd (xor_eq_zero h)
        simp [hd, this]

theorem xorList_facts (D D' : List Nat) (hl : D.length = D'.length) (h : ∀ v ∈ D, v < 32)
    (h' : ∀ v ∈ D', v < 32) : (xorList D D').length = D.length ∧ ∀ v ∈ xorList D D', v < 32 := by
  induction D generalizing D' with
  | nil => cases D' <;> simp [xorList]
  | cons d D ih =>
    cases D' with
    | nil => simp at hl
    | cons d' D' =>
      obtain ⟨i1, i2⟩ := ih D' (by simpa using hl) (fun v hv => h v (by simp [hv]))
        (fun v hv => h' v (by simp [hv]))
      refine ⟨by simp [xorList, i1], ?_⟩
      intro v hv
      simp only [xorList, List.mem_cons] at hv
      rcases hv with rfl | hv
      · exact Nat.xor_lt_two_pow (n := 5) (h d (by simp)) (h' d' (by simp))
      · exact i2 v hv

theorem valid_pair_syndrome (h s s' : List Char) (hs : ValidSegwit h s) (hs' : ValidSegwit h s')
    (hl : s'.length = s.length) :
    ∃ E : List Nat, (∀ v ∈ E, v < 32) ∧ E.length ≤ 88 ∧
      weight E = hamming (lowerStr s) (lowerStr s') ∧ run 0 E = 0 := by
  obtain ⟨v, p, _, _, hlen, hne, rest, ck, cs, _, hdc, hlow, hpm, _⟩ := hs
  obtain ⟨v', p', _, _, _, _, rest', ck', cs', _, hdc', hlow', hpm', _⟩ := hs'
  set D := v :: rest ++ ck
  set D' := v' :: rest' ++ ck'
  have hf := dataChars_facts _ _ hdc
  have hf' := dataChars_facts _ _ hdc'
  have hsl : (lowerStr s).length = s.length := by simp [lowerStr]
  have hsl' : (lowerStr s').length = s'.length := by simp [lowerStr]
  have hcl : cs.length = cs'.length := by
    rw [hlow] at hsl; rw [hlow'] at hsl'
    simp only [List.length_append, List.length_cons] at hsl hsl'
    omega
  have hDl : D.length = D'.length := by rw [← hf.1, ← hf'.1, hcl]
  have hD88 : D.length ≤ 88 := by
    rw [hlow] at hsl
    simp only [List.length_append, List.length_cons] at hsl
    have : 0 < h.length := List.length_pos_iff.2 hne
    rw [← hf.1]; omega
  obtain ⟨hEl, hE32⟩ := xorList_facts D D' hDl hf.2.1 hf'.2.1
  refine ⟨xorList D D', hE32, by omega, ?_, ?_⟩
  · rw [weight_xorList D D' hDl, hlow, hlow', hamming_append_left]
    simp only [hamming, if_true, Nat.zero_add]
    exact (hamming_chars D D' cs cs' hdc hdc').symm
  · unfold checksumValid at hpm hpm'
    rw [← polymod_eq_spec, ← hrpExpand_eq_spec, polymod_eq_run, run_append] at hpm hpm'
    have := run_xor (run 1 (hrpExpand h)) (run 1 (hrpExpand h)) D D' hDl
    rw [Nat.xor_self] at this
    rw [this, hpm, hpm', Nat.xor_self]

theorem valid_hamming_gt2 (h s s' : List Char) (hs : ValidSegwit h s) (hs' : ValidSegwit h s')
    (hl : s'.length = s.length) :
    hamming (lowerStr s) (lowerStr s') ≠ 1 ∧ hamming (lowerStr s) (lowerStr s') ≠ 2 := by
  obtain ⟨E, hE, hEl, hw, hrun⟩ := valid_pair_syndrome h s s' hs hs' hl
  constructor
  · intro h1
    exact syndrome_ne_zero_le2 E hE (by omega) (Or.inl (by omega)) hrun
  · intro h2
    exact syndrome_ne_zero_le2 E hE (by omega) (Or.inr (by omega)) hrun

/-! ### substitutions -/

/-- apply character substitutions `(position, new character)` one after the other (positions beyond
    the end change nothing, as a substitution cannot lengthen a string) -/
def substitute (s : List Char) (subs : List (Nat × Char)) : List Char :=
  subs.foldl (fun s pc => s.set pc.1 pc.2) s

theorem substitute_length (s : List Char) (subs : List (Nat × Char)) :
    (substitute s subs).length = s.length := by
  induction subs generalizing s with
  | nil => rfl
  | cons pc subs ih => simp [substitute, List.foldl_cons] at ih ⊢; rw [ih]; simp

theorem hamming_set_le {α : Type} [DecidableEq α] (a b : List α) (i : Nat) (x : α) :
    hamming a (b.set i x) ≤ hamming a b + 1 := by
  induction a generalizing b i with
  | nil => simp [hamming]
  | cons y a ih =>
    cases b with
    | nil => simp [hamming]
    | cons z b =>
      cases i with
      | zero =>
        simp only [List.set_cons_zero, hamming]
        split <;> split <;> omega
      | succ i =>
        simp only [List.set_cons_succ, hamming]
        have := ih b i
        omega

theorem lowerStr_set (s : List Char) (i : Nat) (c : Char) :
    lowerStr (s.set i c) = (lowerStr s).set i c.toLower := by
  unfold lowerStr
  exact List.map_set

theorem hamming_substitute_le (s : List Char) (subs : List (Nat × Char)) :
    hamming (lowerStr s) (lowerStr (substitute s subs)) ≤ subs.length := by
  suffices h : ∀ t : List Char, hamming (lowerStr s) (lowerStr (substitute t subs))
      ≤ hamming (lowerStr s) (lowerStr t) + subs.length by
    have := h s
    rw [hamming_self] at this
    omega
  induction subs with
  | nil => intro t; simp [substitute]
  | cons pc subs ih =>
    intro t
    have h1 := ih (t.set pc.1 pc.2)
    have h2 := hamming_set_le (lowerStr s) (lowerStr t) pc.1 pc.2.toLower
    rw [← lowerStr_set] at h2
    simp only [substitute, List.foldl_cons, List.length_cons] at h1 ⊢
    omega

theorem hamming_eq_zero {α : Type} [DecidableEq α] (a b : List α) (hl : a.length = b.length)
    (h : hamming a b = 0) : a = b := by
  induction a generalizing b with
  | nil => cases b with
    | nil => rfl
    | cons _ _ => simp at hl
  | cons x a ih =>
    cases b with
    | nil => simp at hl
    | cons y b =>
      simp only [hamming] at h
      by_cases hxy : x = y
      · subst hxy
        simp only [if_true, Nat.zero_add] at h
        rw [ih b (by simpa using hl) h]
      · simp [hxy] at h

end BtcVerif.Bech32

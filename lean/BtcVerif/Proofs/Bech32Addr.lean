/-
  Segwit addresses (C11): the model's `polymod`, `hrpExpand` and `createChecksum` are BIP173's; `decodeR` never
  raises and returns a pair exactly when `Spec.Bech32.Decodes` holds (`decodeR_iff`, `decodeR_eq`); a string is valid
  for one prefix only (`decodes_prefix_unique`); the checksum that `createChecksum` appends verifies (`verify_create`);
  `encode` on its domain (`encode_spec`); `CBech32Data(s)` as a match on `decode` (`cbech32New_eq`).
-/
import BtcVerif.Proofs.Bech32Str
import BtcVerif.Proofs.Bech32Bits

namespace BtcVerif.Bech32
open BtcVerif.Model.Bech32 BtcVerif.Positional
open BtcVerif.Spec.Bech32 (charOf? dataChars? lowerStr Regroup Decodes ValidSegwit checksumValid beDigits beValue)

/-! ### the model's checksum function is the BIP's -/

theorem polymodStep_eq_spec (c v : Nat) : polymodStep c v = Spec.Bech32.polymodStep c v := by
  unfold polymodStep Spec.Bech32.polymodStep generator Spec.Bech32.generator
  simp only [genXor, Nat.and_one_is_mod, Nat.shiftRight_eq_div_pow, Nat.shiftLeft_eq, and_m25]
  norm_num

theorem polymod_eq_spec (vs : List Nat) : polymod vs = Spec.Bech32.polymod vs := by
  unfold polymod Spec.Bech32.polymod
  congr 1
  funext c v
  exact polymodStep_eq_spec c v

theorem hrpExpand_eq_spec (h : List Char) : hrpExpand h = Spec.Bech32.hrpExpand h := by
  unfold hrpExpand Spec.Bech32.hrpExpand
  simp only [Nat.shiftRight_eq_div_pow, and_31]

/-! ### decode -/

/-- `decode` never raises: the `data[0]` IndexError branch is dead -/
theorem decodeR_ok (h s : List Char) : ∃ r, decodeR h s = .ok r := by
  unfold decodeR
  split
  · exact ⟨_, rfl⟩
  · split
    · exact ⟨_, rfl⟩
    · split
      · exact ⟨_, rfl⟩
      · split
        · exact ⟨_, rfl⟩
        · rename_i data _ _ decoded hcb hlen
          split
          · rw [show convertbits (([] : List Nat).drop 1) 5 8 false = some [] from rfl] at hcb
            simp only [Option.some.injEq] at hcb
            subst hcb
            simp at hlen
          · split
            · exact ⟨_, rfl⟩
            · split <;> exact ⟨_, rfl⟩

theorem decodeR_iff (h s : List Char) (v : Nat) (p : List Nat) :
    decodeR h s = .ok (some (v, p)) ↔ Decodes h s v p := by
  constructor
  · intro hd
    unfold decodeR at hd
    split at hd
    · simp at hd
    · rename_i hrpgot data hbd
      split at hd
      · simp at hd
      · rename_i hh
        simp only [bne_iff_ne, ne_eq, not_not] at hh
        subst hh
        split at hd
        · simp at hd
        · rename_i decoded hcb
          split at hd
          · simp at hd
          · rename_i hlen
            simp only [Bool.or_eq_true, decide_eq_true_eq, not_or, Nat.not_lt] at hlen
            split at hd
            · simp at hd
            · rename_i d0 rest
              split at hd
              · simp at hd
              · rename_i hv16
                split at hd
                · simp at hd
                · rename_i hv0
                  simp only [Except.ok.injEq, Option.some.injEq, Prod.mk.injEq] at hd
                  obtain ⟨rfl, rfl⟩ := hd
                  obtain ⟨hr, hcase, hl, hne, ck, dchars, hck, hdc, hs, hpm⟩ :=
                    (bech32Decode_iff s hrpgot (d0 :: rest)).1 hbd
                  have hfacts := dataChars_facts _ _ hdc
                  have hrest : ∀ x ∈ rest, x < 32 := fun x hx => hfacts.2.1 x (by simp [hx])
                  simp only [List.drop_succ_cons, List.drop_zero] at hcb
                  refine ⟨hr, hcase, hl, hne, rest, ck, dchars, hck, by simpa using hdc, hs, ?_, by omega,
                    (convertbits58_iff rest decoded hrest).1 hcb, hlen.1, hlen.2, ?_⟩
                  · unfold checksumValid
                    rw [← polymod_eq_spec, ← hrpExpand_eq_spec]
                    simpa using hpm
                  · intro h0
                    subst h0
                    simp only [beq_self_eq_true, Bool.true_and, Bool.and_eq_true, bne_iff_ne, ne_eq,
                      not_and, not_not] at hv0
                    by_cases h20 : decoded.length = 20
                    · exact Or.inl h20
                    · exact Or.inr (hv0 h20)
  · rintro ⟨hr, hcase, hl, hne, rest, ck, dchars, hck, hdc, hs, hpm, hv16, hreg, hl2, hl40, hv0⟩
    have hfacts := dataChars_facts _ _ hdc
    have hrest : ∀ x ∈ rest, x < 32 := fun x hx => hfacts.2.1 x (by simp [hx])
    have hbd : bech32Decode s = some (h, v :: rest) := by
      apply (bech32Decode_iff s h (v :: rest)).2
      refine ⟨hr, hcase, hl, hne, ck, dchars, hck, by simpa using hdc, hs, ?_⟩
      unfold checksumValid at hpm
      rw [← polymod_eq_spec, ← hrpExpand_eq_spec] at hpm
      simpa using hpm
    unfold decodeR
    rw [hbd]
    simp only [bne_self_eq_false, Bool.false_eq_true, if_false, List.drop_succ_cons, List.drop_zero]
    rw [(convertbits58_iff rest p hrest).2 hreg]
    simp only []
    have hc1 : ¬ ((decide (p.length < 2) || decide (p.length > 40)) = true) := by
      simp only [Bool.or_eq_true, decide_eq_true_eq, not_or, Nat.not_lt]; omega
    rw [if_neg hc1, if_neg (by omega : ¬ v > 16)]
    have hc2 : ¬ ((v == 0 && p.length != 20 && p.length != 32) = true) := by
      simp only [Bool.and_eq_true, beq_iff_eq, bne_iff_ne, ne_eq, not_and, not_not]
      rintro ⟨h0, h20⟩
      rcases hv0 h0 with h | h
      · exact absurd h h20
      · exact h
    rw [if_neg hc2]

theorem decode_eq_some_iff (h s : List Char) (v : Nat) (p : List Nat) :
    decode h s = some (v, p) ↔ Decodes h s v p := by
  rw [← decodeR_iff]
  unfold decode
  obtain ⟨r, hr⟩ := decodeR_ok h s
  rw [hr]
  simp

theorem decode_ne_none_iff (h s : List Char) : decode h s ≠ none ↔ ValidSegwit h s := by
  unfold ValidSegwit
  constructor
  · intro hn
    cases hd : decode h s with
    | none => exact absurd hd hn
    | some vp =>
      obtain ⟨v, p⟩ := vp
      exact ⟨v, p, (decode_eq_some_iff h s v p).1 hd⟩
  · rintro ⟨v, p, hd⟩
    rw [(decode_eq_some_iff h s v p).2 hd]
    simp

theorem decodeR_eq (h s : List Char) : decodeR h s = .ok (decode h s) := by
  obtain ⟨r, hr⟩ := decodeR_ok h s
  simp only [decode, hr]

theorem decodes_ver_le {h s : List Char} {v : Nat} {p : List Nat} (hd : Decodes h s v p) : v ≤ 16 := by
  obtain ⟨_, _, _, _, _, _, _, _, _, _, _, hv, _⟩ := hd
  exact hv

theorem decodes_prog_lt {h s : List Char} {v : Nat} {p : List Nat} (hd : Decodes h s v p) :
    ∀ x ∈ p, x < 256 := by
  obtain ⟨_, _, _, _, _, _, _, _, _, _, _, _, hreg, _⟩ := hd
  exact hreg.1

theorem decodes_v0_length {h s : List Char} {p : List Nat} (hd : Decodes h s 0 p) :
    p.length = 20 ∨ p.length = 32 := by
  obtain ⟨_, _, _, _, _, _, _, _, _, _, _, _, _, _, _, h0⟩ := hd
  exact h0 rfl

theorem sep_unique : ∀ (h h' d d' : List Char), '1' ∉ d → '1' ∉ d' →
    h ++ '1' :: d = h' ++ '1' :: d' → h = h'
  | [], [], _, _, _, _, _ => rfl
  | [], c :: t, d, d', hd, _, he => by
      simp only [List.nil_append, List.cons_append, List.cons.injEq] at he
      exact absurd (by rw [he.2]; simp) hd
  | c :: t, [], d, d', _, hd', he => by
      simp only [List.nil_append, List.cons_append, List.cons.injEq] at he
      exact absurd (by rw [← he.2]; simp) hd'
  | c :: t, c' :: t', d, d', hd, hd', he => by
      simp only [List.cons_append, List.cons.injEq] at he
      rw [he.1, sep_unique t t' d d' hd hd' he.2]

theorem decodes_prefix_unique {h h' s : List Char} {v v' : Nat} {p p' : List Nat}
    (a : Decodes h s v p) (b : Decodes h' s v' p') : h = h' := by
  obtain ⟨_, _, _, _, rest, ck, dchars, _, hdc, hs, _⟩ := a
  obtain ⟨_, _, _, _, rest', ck', dchars', _, hdc', hs', _⟩ := b
  have h1 : '1' ∉ dchars := fun hm => ((dataChars_facts _ _ hdc).2.2 _ hm).2.2.2 rfl
  have h1' : '1' ∉ dchars' := fun hm => ((dataChars_facts _ _ hdc').2.2 _ hm).2.2.2 rfl
  exact sep_unique h h' dchars dchars' h1 h1' (hs.symm.trans hs')

/-! ### byte strings as lists of numbers -/

theorem map_toNat_lt (b : Bytes) : ∀ x ∈ b.map UInt8.toNat, x < 256 := by
  intro x hx
  obtain ⟨y, _, rfl⟩ := List.mem_map.1 hx
  exact y.toNat_lt

theorem map_ofNat_toNat (l : List Nat) (h : ∀ x ∈ l, x < 256) :
    (l.map UInt8.ofNat).map UInt8.toNat = l := by
  rw [List.map_map]
  conv => rhs; rw [← List.map_id l]
  apply List.map_congr_left
  intro x hx
  have := h x hx
  simp [UInt8.toNat_ofNat', Nat.mod_eq_of_lt this]

theorem map_toNat_ofNat (b : Bytes) : (b.map UInt8.toNat).map UInt8.ofNat = b := by
  rw [List.map_map]
  conv => rhs; rw [← List.map_id b]
  apply List.map_congr_left
  intro x _
  simp

/-! ### the checksum that `create_checksum` appends verifies -/

theorem char_toNat_lt (c : Char) : c.toNat < 2 ^ 21 := by
  have := c.valid
  unfold UInt32.isValidChar Nat.isValidChar at this
  unfold Char.toNat
  omega

theorem hrpExpand_lt (h : List Char) : ∀ v ∈ hrpExpand h, v < 2 ^ 30 := by
  intro v hv
  unfold hrpExpand at hv
  simp only [List.mem_append, List.mem_map, List.mem_singleton] at hv
  rcases hv with (⟨c, _, rfl⟩ | rfl) | ⟨c, _, rfl⟩
  · rw [Nat.shiftRight_eq_div_pow]
    have := char_toNat_lt c
    omega
  · omega
  · rw [and_31]; omega

theorem run_state (E : List Nat) (c : Nat) : run c E = T^[E.length] c ^^^ run 0 E := by
  induction E generalizing c with
  | nil => simp
  | cons v E ih =>
    rw [run_cons, run_cons, ih, ih (T 0 ^^^ v), T_zero, Nat.zero_xor, iter_linear, List.length_cons,
      Function.iterate_succ_apply, Nat.xor_assoc]

theorem T_small {x : Nat} (hx : x < 2 ^ 25) : T x = x * 32 := by
  unfold T
  rw [Nat.mod_eq_of_lt hx, Nat.div_eq_of_lt hx, G_zero, Nat.xor_zero]

theorem range6 : List.range 6 = [0, 1, 2, 3, 4, 5] := by decide

/-- while no coefficient is shifted out, feeding 5-bit values writes them as base-32 digits -/
theorem run_eq_beFrom (ds : List Nat) (c : Nat) (hd : ∀ d ∈ ds, d < 32)
    (hc : (c + 1) * 32 ^ ds.length ≤ 2 ^ 30) : run c ds = beFrom 32 c ds := by
  induction ds generalizing c with
  | nil => rfl
  | cons d ds ih =>
    have hd32 : d < 32 := hd d (by simp)
    rw [List.length_cons, Nat.pow_succ, ← Nat.mul_assoc] at hc
    have h1 : (c + 1) * 32 ≤ (c + 1) * 32 ^ ds.length * 32 :=
      Nat.mul_le_mul_right 32 (Nat.le_mul_of_pos_right _ (Nat.pow_pos (by decide)))
    have h2 : (c * 32 + d + 1) * 32 ^ ds.length ≤ (c + 1) * 32 ^ ds.length * 32 := by
      rw [Nat.mul_right_comm]
      exact Nat.mul_le_mul_right _ (by omega)
    rw [run_cons, beFrom_cons, T_small (by omega), mul32_xor _ _ hd32]
    exact ih _ (fun x hx => hd x (by simp [hx])) (by omega)

theorem run_digits (pm : Nat) (hpm : pm < 2 ^ 30) :
    run 0 [(pm >>> 25) &&& 31, (pm >>> 20) &&& 31, (pm >>> 15) &&& 31, (pm >>> 10) &&& 31,
      (pm >>> 5) &&& 31, (pm >>> 0) &&& 31] = pm := by
  have e : [(pm >>> 25) &&& 31, (pm >>> 20) &&& 31, (pm >>> 15) &&& 31, (pm >>> 10) &&& 31,
      (pm >>> 5) &&& 31, (pm >>> 0) &&& 31] = beDigits 32 6 pm := by
    simp only [and_31, Nat.shiftRight_eq_div_pow, beDigits, Nat.div_div_eq_div_mul, List.nil_append,
      List.cons_append, Nat.reduceMul, Nat.reducePow, Nat.div_one]
  rw [e, run_eq_beFrom _ 0 (beDigits_lt 32 6 pm (by decide)) (by rw [beDigits_length]; decide), ← beValue_eq,
    beValue_beDigits (b := 32) (n := 6) hpm]

theorem run_zeros6 (c : Nat) : run c [0, 0, 0, 0, 0, 0] = T^[6] c := by
  simp [run_cons, Function.iterate_succ_apply]

theorem verify_create (hrp : List Char) (data : List Nat) (hd : ∀ v ∈ data, v < 32) :
    verifyChecksum hrp (data ++ createChecksum hrp data) = true := by
  rw [verifyChecksum_iff, ← List.append_assoc, polymod_eq_run, run_append 1 (hrpExpand hrp ++ data)]
  have hvs : ∀ v ∈ hrpExpand hrp ++ data, v < 2 ^ 30 := by
    intro v hv
    rcases List.mem_append.1 hv with hv | hv
    · exact hrpExpand_lt hrp v hv
    · have := hd v hv; omega
  have hc : run 1 (hrpExpand hrp ++ data) < 2 ^ 30 := run_lt (by omega) hvs
  unfold createChecksum
  simp only []
  rw [polymod_eq_run, run_append 1 (hrpExpand hrp ++ data), run_zeros6]
  generalize run 1 (hrpExpand hrp ++ data) = c at hc ⊢
  have hpm : T^[6] c ^^^ 1 < 2 ^ 30 := xor_lt30 (iter_lt 6 hc) (by omega)
  rw [run_state, range6]
  simp only [List.map_cons, List.map_nil, List.length_cons, List.length_nil]
  have := run_digits (T^[6] c ^^^ 1) hpm
  simp only [Nat.reduceSub, Nat.reduceMul, Nat.zero_add] at this ⊢
  rw [this, ← Nat.xor_assoc, Nat.xor_self, Nat.zero_xor]

theorem createChecksum_facts (hrp : List Char) (data : List Nat) :
    (createChecksum hrp data).length = 6 ∧ ∀ v ∈ createChecksum hrp data, v < 32 := by
  unfold createChecksum
  simp only [List.length_map, List.length_range, true_and]
  intro v hv
  simp only [List.mem_map] at hv
  obtain ⟨i, _, rfl⟩ := hv
  rw [and_31]; omega

theorem createChecksum_eq_spec (hrp : List Char) (data : List Nat) :
    createChecksum hrp data = Spec.Bech32.checksum hrp data := by
  unfold createChecksum Spec.Bech32.checksum
  simp only [range6, List.map_cons, List.map_nil, and_31, Nat.shiftRight_eq_div_pow, polymod_eq_spec,
    hrpExpand_eq_spec]
  norm_num

/-! ### encode -/

theorem mapM_charsetAt (l : List Nat) (hl : ∀ d ∈ l, d < 32) :
    ∃ cs, l.mapM charsetAt = .ok cs ∧ dataChars? l = some cs := by
  induction l with
  | nil => exact ⟨[], rfl, rfl⟩
  | cons d l ih =>
    obtain ⟨cs, h1, h2⟩ := ih (fun x hx => hl x (by simp [hx]))
    have hd : d < 32 := hl d (by simp)
    have hlen : d < charset.length := by simpa [charset, Spec.Bech32.charset] using hd
    refine ⟨charset[d] :: cs, ?_, ?_⟩
    · rw [List.mapM_cons, h1]
      simp only [charsetAt, List.getElem?_eq_getElem hlen]
      rfl
    · unfold dataChars? at h2 ⊢
      rw [mapM_cons_some]
      exact ⟨charset[d], cs, by unfold charOf?; exact List.getElem?_eq_getElem hlen, h2, rfl⟩

theorem lowerStr_eq_self (s : List Char) (h : ∀ c ∈ s, c.isUpper = false) : lowerStr s = s := by
  unfold lowerStr
  rw [map_eq_self_iff]
  intro c hc
  exact (toLower_eq_self_iff c).2 (h c hc)

theorem encode_spec (h : List Char) (v : Nat) (prog : Bytes)
    (hh : Spec.Bech32.validHrp h) (hv : v ≤ 16) (hl2 : 2 ≤ prog.length) (hl40 : prog.length ≤ 40)
    (hv0 : v = 0 → prog.length = 20 ∨ prog.length = 32)
    (hlen : h.length + 1 + (1 + (8 * prog.length + 4) / 5 + 6) ≤ 90) :
    ∃ a, encodeR h v prog = .ok (some a) ∧
      Spec.Bech32.encodeAddr h v (prog.map UInt8.toNat) = some a ∧
      Decodes h a v (prog.map UInt8.toNat) ∧
      (∀ c ∈ a, c.isUpper = false) := by
  set P := prog.map UInt8.toNat with hP
  have hPb : ∀ x ∈ P, x < 256 := map_toNat_lt prog
  have hPl : P.length = prog.length := by simp [hP]
  obtain ⟨conv, hconv, hconv32, hreg, hconvl⟩ := convertbits85 P hPb
  have hconv' := convertbits85_eq_spec P hPb
  rw [hconv] at hconv'
  simp only [Option.some.injEq] at hconv'
  set data := v :: conv with hdata
  have hdata32 : ∀ x ∈ data, x < 32 := by
    intro x hx
    simp only [hdata, List.mem_cons] at hx
    rcases hx with rfl | hx
    · omega
    · exact hconv32 x hx
  obtain ⟨hckl, hck32⟩ := createChecksum_facts h data
  have hall : ∀ x ∈ data ++ createChecksum h data, x < 32 := by
    intro x hx
    rcases List.mem_append.1 hx with hx | hx
    · exact hdata32 x hx
    · exact hck32 x hx
  obtain ⟨cs, hcs1, hcs2⟩ := mapM_charsetAt _ hall
  have hfacts := dataChars_facts _ _ hcs2
  have henc : bech32Encode h data = .ok (h ++ ['1'] ++ cs) := by
    unfold bech32Encode
    simp only []
    rw [hcs1]
    rfl
  have hret : h ++ ['1'] ++ cs = h ++ '1' :: cs := by simp
  have hup : ∀ c ∈ h ++ '1' :: cs, c.isUpper = false := by
    intro c hc
    simp only [List.mem_append, List.mem_cons] at hc
    rcases hc with hc | rfl | hc
    · exact (hh.2.2 c hc).2.2
    · decide
    · exact (hfacts.2.2 c hc).2.2.1
  have hdec : Decodes h (h ++ '1' :: cs) v P := by
    refine ⟨?_, ?_, ?_, ?_, conv, createChecksum h data, cs, hckl, hcs2, lowerStr_eq_self _ hup, ?_, hv, hreg,
      by omega, by omega, by rw [hPl]; exact hv0⟩
    · intro c hc
      simp only [List.mem_append, List.mem_cons] at hc
      rcases hc with hc | rfl | hc
      · exact ⟨(hh.2.2 c hc).1, (hh.2.2 c hc).2.1⟩
      · decide
      · exact ⟨(hfacts.2.2 c hc).1, (hfacts.2.2 c hc).2.1⟩
    · rintro ⟨_, c, hc, hcu⟩
      rw [hup c hc] at hcu
      exact absurd hcu (by simp)
    · have : cs.length = 1 + conv.length + 6 := by
        rw [hfacts.1, List.length_append, hckl, hdata, List.length_cons]; omega
      simp only [List.length_append, List.length_cons]
      omega
    · intro he; have := hh.1; rw [he] at this; simp at this
    · unfold checksumValid
      rw [← polymod_eq_spec, ← hrpExpand_eq_spec]
      exact (verifyChecksum_iff _ _).1 (verify_create h data hdata32)
  refine ⟨h ++ '1' :: cs, ?_, ?_, hdec, hup⟩
  · unfold encodeR
    rw [hconv]
    simp only []
    rw [henc]
    simp only [hret]
    rw [(decodeR_iff _ _ _ _).2 hdec]
  · unfold Spec.Bech32.encodeAddr
    simp only []
    rw [← hconv', ← createChecksum_eq_spec, hcs2]
    rfl

theorem bytesOfInts_ok (l : List Nat) (h : ∀ x ∈ l, x < 256) : bytesOfInts l = .ok (l.map UInt8.ofNat) := by
  unfold bytesOfInts
  rw [if_pos]
  rw [List.all_eq_true]
  intro x hx
  simpa using h x hx

theorem cbech32New_eq (h s : List Char) :
    cbech32New h s = match decode h s with
                     | none => .error .bech32err
                     | some (v, p) => .ok (v, p.map UInt8.ofNat) := by
  unfold cbech32New
  rw [decodeR_eq]
  cases hd : decode h s with
  | none => rfl
  | some vp =>
    obtain ⟨v, p⟩ := vp
    have hD := (decode_eq_some_iff h s v p).1 hd
    simp [fromBytes, decodes_ver_le hD, bytesOfInts_ok p (decodes_prog_lt hD)]

end BtcVerif.Bech32

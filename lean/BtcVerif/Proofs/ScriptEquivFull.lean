/-
  C06 — the simulation for every opcode class, the signature-checking opcodes included: the arms
  simulate on the states of C07's invariant `Pre` (elements below 2³² bytes, so that
  `CScript([sig])` can be built), under the hypotheses on the context.
-/
import BtcVerif.Proofs.ScriptEquivMulti
import BtcVerif.Proofs.ScriptEquivVerify
import BtcVerif.Proofs.ScriptVerify

namespace BtcVerif.Model.ScriptEval
open BtcVerif BtcVerif.Spec BtcVerif.Spec.Script BtcVerif.Model.Script

theorem execOp_checksig (c : Ctx) (fl : Flags) (script : Bytes) (op : RawOp) (fExec : Bool) (st : St)
    (h : op.opcode = 0xac ∨ op.opcode = 0xad) :
    execOp c fl script op fExec st = opCheckSig c script op.opcode st := by
  rcases h with h | h <;> simp only [execOp, h] <;> rfl

theorem execOp_multisig (c : Ctx) (fl : Flags) (script : Bytes) (op : RawOp) (fExec : Bool) (st : St)
    (h : op.opcode = 0xae ∨ op.opcode = 0xaf) :
    execOp c fl script op fExec st = checkMultiSig c fl op.opcode (script.drop st.pbegin) st := by
  rcases h with h | h <;> simp only [execOp, h] <;> rfl

theorem execOp_armT (c : Ctx) (fl : Flags) (script : Bytes) (op : RawOp) (pc code : Bytes) (fExec : Bool)
    (st : St) (hsep : op.opcode ≠ 0xab) (hsh : SigHashOK c) (hcs : CodesepInsensitive c.env)
    (hel : ∀ x ∈ st.stack, x.length < 2 ^ 32) (hcode : CodeRel script st.pbegin code)
    (hnop : st.nOpCount ≤ MAX_OPS_PER_SCRIPT) (hsl : script.length ≤ MAX_SCRIPT_SIZE) :
    ArmT ((rawIter (script.drop st.pbegin)).2.isSome) code st (execOp c fl script op fExec st)
      (Ref.execOp c.env fl op.opcode pc fExec (toRef st code)) := by
  by_cases hcov : op.opcode ∈ uncoveredOps
  · simp only [uncoveredOps, List.mem_cons, List.mem_nil_iff, or_false] at hcov
    by_cases hsig : op.opcode = 0xac ∨ op.opcode = 0xad
    · rw [execOp_checksig c fl script op fExec st hsig]
      exact (arm_checksig c fl script pc code fExec st op.opcode hsig hsh hcs hel hcode hnop hsl)
    · have hms : op.opcode = 0xae ∨ op.opcode = 0xaf := by omega
      have hr : Ref.execOp c.env fl op.opcode pc fExec (toRef st code) =
          Ref.opCheckMultiSig c.env fl (decide (op.opcode = 0xaf)) (toRef st code) := by
        rcases hms with h | h <;> rw [h] <;> rfl
      rw [execOp_multisig c fl script op fExec st hms, hr]
      exact (multisig_sim c fl script code st op.opcode hms hsh hcs hel hcode hnop hsl)
  · exact armT_of_sim (execOp_sim c fl script op pc code fExec st hcov hsep) hnop

theorem step_simT (c : Ctx) (fl : Flags) (script : Bytes) (op : RawOp) (pc' code : Bytes) (st : St)
    (tailP : Prop)
    (hd1 : op.opcode ≤ 0x4e → op.data.isSome) (hd2 : op.opcode > 0x4e → op.data = none)
    (hsep : op.opcode = 0xab → script.drop op.sopIdx = 0xab :: pc')
    (hcode : CodeRel script st.pbegin code) (hnop : st.nOpCount ≤ MAX_OPS_PER_SCRIPT)
    (hsh : SigHashOK c) (hcs : CodesepInsensitive c.env) (hel : ∀ x ∈ st.stack, x.length < 2 ^ 32)
    (htl : (rawIter (script.drop st.pbegin)).2.isSome → tailP) (hsl : script.length ≤ MAX_SCRIPT_SIZE) :
    StepSimT tailP script st.pbegin op.sopIdx (step c fl script op st)
      (Ref.loopBody c.env fl op.opcode (op.data.getD []) pc' (toRef st code)) :=
  step_simG c fl script op pc' code st tailP hd1 hd2 hsep hcode hnop fun hne n' hn' =>
    (execOp_armT c fl script op pc' code _ { st with nOpCount := n' } hne hsh hcs hel hcode hn' hsl).mono htl

theorem armsSim_pre (c : Ctx) (fl : Flags) (script : Bytes) (B : Nat) (hB : 520 ≤ B) (hB2 : B < 2 ^ 32)
    (hh : HashesOK c.env.hashes) (hsh : SigHashOK c) (hcs : CodesepInsensitive c.env)
    (hsl : script.length ≤ MAX_SCRIPT_SIZE) (ops : List RawOp) (hops : ∀ o ∈ ops, OpOK o) :
    ArmsSim c fl script (Pre B) ops := by
  refine ⟨fun st h => h.2.1, fun op ho st st' h hm _ => ?_, fun op ho hne pc code fExec st n' h hcode hn' => ?_⟩
  · have := step_ok (c := c) fl script hsl op h (hops op ho) hB hB2 hh
    rw [hm] at this
    exact this
  · exact execOp_armT c fl script op pc code fExec { st with nOpCount := n' } hne hsh hcs
      (fun x hx => by have := h.2.2.1 x hx; omega) hcode hn' hsl

theorem evalScript_simT (c : Ctx) (fl : Flags) (stack : List Bytes) (script : Bytes) (B : Nat)
    (hB : 520 ≤ B) (hB2 : B < 2 ^ 32) (hh : HashesOK c.env.hashes) (hsh : SigHashOK c)
    (hcs : CodesepInsensitive c.env) (hs : stack.length ≤ 1000) (he : ElemsLe B stack) :
    EvalSim (evalScript c fl stack script) (Ref.evalScript c.env fl stack script) :=
  evalScript_simG c fl stack script (Pre B)
    (fun hsl => armsSim_pre c fl script B hB hB2 hh hsh hcs hsl _ (rawIter_data script))
    ⟨by simp; omega, by simp, he, fun x hx => by simp at hx⟩

theorem verifyScript_simT (c : Ctx) (fl : Flags) (sig spk : Bytes) (hf : fl.admissible = true)
    (hh : HashesOK c.env.hashes) (hsh : SigHashOK c) (hcs : CodesepInsensitive c.env) :
    VerSim (verifyScript c fl sig spk) (Ref.verifyScript c.env fl sig spk) := by
  have hB2 : (520 : Nat) < 2 ^ 32 := by decide
  have e1 := (evalScript_ok (c := c) (B := 520) fl [] sig (by simp) (elemsLe_nil _) (Nat.le_refl _) hB2 hh).1
  have sim := fun stack script hs he =>
    evalScript_simT c fl stack script 520 (Nat.le_refl _) hB2 hh hsh hcs hs he
  refine verifyScript_simG c fl sig spk hf (sim [] sig (by simp) (elemsLe_nil _)) (fun s1 h1 => ?_)
    (fun x r h1 => ?_)
  · rw [h1] at e1
    exact sim s1 spk e1.1 e1.2
  · rw [h1] at e1
    exact sim r x (by have := e1.1; simp only [List.length_cons] at this; omega)
      (fun y hy => e1.2 y (List.mem_cons_of_mem _ hy))

end BtcVerif.Model.ScriptEval

/-
  C09, operations with reference arguments: the plans of the model are `GoodX`; typed updates of reference
  slots and lists.
-/
import BtcVerif.Proofs.HeapAliasAlloc

namespace BtcVerif.Model.Heap
open BtcVerif BtcVerif.Spec.ValueSem BtcVerif.Spec.AliasSem BtcVerif.Model.HeapX

theorem mapO_const {α : Type} (f : α → Option Nat) (k : Nat) : ∀ (l : List α), (∀ x ∈ l, f x = some k) →
    mapO f l = some (l.map fun _ => k)
  | [], _ => rfl
  | x :: l, h => by simp [mapO, h x (by simp), mapO_const f k l (fun y hy => h y (by simp [hy]))]

theorem goodX_planOutPoint (h0 : Heap) (m : Bool) (o : OutPoint) : GoodX h0 (planOutPoint m o) := by
  simp [planOutPoint, GoodX, GoodXL, mapO, refKindsOK, refKindsK, Scalars.kind, Scalars.alwaysImm]

theorem goodX_planTxOut (h0 : Heap) (m : Bool) (o : TxOut) : GoodX h0 (planTxOut m o) := by
  simp [planTxOut, GoodX, GoodXL, mapO, refKindsOK, refKindsK, Scalars.kind, Scalars.alwaysImm]

theorem goodX_planTxIn (h0 : Heap) (m : Bool) (i : TxIn) : GoodX h0 (planTxIn m i) := by
  simp [planTxIn, planOutPoint, GoodX, GoodXL, mapO, refKindsOK, refKindsK, Scalars.kind, Scalars.alwaysImm,
    rootFrozenP, rootKindP]

theorem goodX_planIns (h0 : Heap) (m : Bool) (l : List TxIn) : GoodX h0 (planIns m l) := by
  simp only [planIns, GoodX]
  refine ⟨by simp [Scalars.alwaysImm], ?_, ⟨l.map (fun _ => 1), ?_, ?_⟩, ?_⟩
  · intro hm k hk
    obtain ⟨i, _, rfl⟩ := List.mem_map.mp hk
    exact hm
  · exact (mapO_const _ 1 _ (fun p hp => by obtain ⟨i, _, rfl⟩ := List.mem_map.mp hp; rfl)).trans (by simp)
  · simp [refKindsOK, refKindsK, Scalars.kind]
  · rw [goodXL_iff]
    intro p hp
    obtain ⟨i, _, rfl⟩ := List.mem_map.mp hp
    exact goodX_planTxIn h0 m i

theorem goodX_planOuts (h0 : Heap) (m : Bool) (l : List TxOut) : GoodX h0 (planOuts m l) := by
  simp only [planOuts, GoodX]
  refine ⟨by simp [Scalars.alwaysImm], ?_, ⟨l.map (fun _ => 2), ?_, ?_⟩, ?_⟩
  · intro hm k hk
    obtain ⟨i, _, rfl⟩ := List.mem_map.mp hk
    exact hm
  · exact (mapO_const _ 2 _ (fun p hp => by obtain ⟨i, _, rfl⟩ := List.mem_map.mp hp; rfl)).trans (by simp)
  · simp [refKindsOK, refKindsK, Scalars.kind]
  · rw [goodXL_iff]
    intro p hp
    obtain ⟨i, _, rfl⟩ := List.mem_map.mp hp
    exact goodX_planTxOut h0 m i

theorem goodX_inwit (h0 : Heap) (st : WitStack) : GoodX h0 (.node false (.inwit st) []) := by
  refine ⟨fun _ => rfl, fun _ k hk => by simp at hk, ⟨[], rfl, rfl⟩, trivial⟩

theorem goodX_witOver (h0 : Heap) (items : List Plan)
    (hit : ∀ p ∈ items, ∃ st, p = .node false (.inwit st) []) :
    GoodX h0 (.node false .wit [.node false (.seq .stacks) items]) := by
  refine ⟨fun _ => rfl, ?_, ⟨[10], rfl, rfl⟩, ⟨fun _ => rfl, ?_, ⟨items.map (fun _ => 3), ?_, ?_⟩, ?_⟩,
    trivial⟩
  · intro _ k hk
    simp only [List.mem_singleton] at hk
    subst hk; exact rfl
  · intro _ k hk
    obtain ⟨st, rfl⟩ := hit k hk
    exact rfl
  · exact mapO_const _ 3 _ (fun p hp => by obtain ⟨st, rfl⟩ := hit p hp; rfl)
  · show refKindsK 10 _
    simp only [refKindsK]
    intro k hk
    obtain ⟨_, _, rfl⟩ := List.mem_map.mp hk
    rfl
  · rw [goodXL_iff]
    intro p hp
    obtain ⟨st, rfl⟩ := hit p hp
    exact goodX_inwit h0 st

theorem goodX_planWit (h0 : Heap) (w : List WitStack) : GoodX h0 (planWit w) :=
  goodX_witOver h0 _ (fun p hp => by obtain ⟨st, _, rfl⟩ := List.mem_map.mp hp; exact ⟨st, rfl⟩)

/-- `CTxWitness([CTxInWitness() …])`: the constructor freezes the list (`tuple(vtxinwit)`) -/
theorem goodX_defaultWit (h0 : Heap) (n : Nat) :
    GoodX h0 (.node false .wit [.node false (.seq .stacks) (List.replicate n (.node false (.inwit []) []))]) :=
  goodX_witOver h0 _ (fun p hp => ⟨[], List.eq_of_mem_replicate hp⟩)

theorem goodX_planTx {h0 : Heap} (m : Bool) (v : Tx) {wp : Plan} (hw : GoodX h0 wp) (hwf : rootFrozenP h0 wp)
    (hwk : rootKindP h0 wp = some 4) : GoodX h0 (planTx m v wp) := by
  simp only [planTx, GoodX, GoodXL, and_true]
  refine ⟨by simp [Scalars.alwaysImm], ?_, ⟨[8, 9, 4], ?_, by simp [refKindsOK, refKindsK, Scalars.kind]⟩,
    goodX_planIns h0 m v.vin, goodX_planOuts h0 m v.vout, hw⟩
  · intro hm k hk
    simp only [List.mem_cons, List.mem_nil_iff, or_false] at hk
    rcases hk with rfl | rfl | rfl
    · exact hm
    · exact hm
    · exact hwf
  · have e1 : rootKindP h0 (planIns m v.vin) = some 8 := rfl
    have e2 : rootKindP h0 (planOuts m v.vout) = some 9 := rfl
    simp only [mapO, e1, e2, hwk]

theorem planClone_goodX {h : Heap} (hinv : InvX h) (tm : Bool) : ∀ {f : Nat} {a : Addr} {p : Plan},
    planClone tm f h a = some p → GoodX h p ∧ rootKindP h p = kindAt h a ∧ (tm = false → rootFrozenP h p)
  | 0, _, _, hp => by simp [planClone] at hp
  | f + 1, a, p, hp => by
    simp only [planClone] at hp
    cases ho : h[a]? with
    | none => simp [ho] at hp
    | some o =>
      simp only [ho] at hp
      have hka : kindAt h a = some o.sc.kind := by simp [kindAt, ho]
      split at hp
      · rename_i hcond
        cases hp
        simp only [Bool.and_eq_true, Bool.not_eq_true', Bool.or_eq_true] at hcond
        exact ⟨(List.getElem?_eq_some_iff.mp ho).1, rfl, fun _ => ⟨o, ho, hcond.1.2⟩⟩
      · rename_i hcond
        cases hm : mapO (planClone tm f h) o.refs with
        | none => simp [hm] at hp
        | some plans =>
          simp only [hm, Option.map_some, Option.some.injEq] at hp
          subst hp
          have hkid : ∀ (c : Addr) (pl : Plan), planClone tm f h c = some pl →
              GoodX h pl ∧ rootKindP h pl = kindAt h c ∧ (tm = false → rootFrozenP h pl) :=
            fun c pl hc => planClone_goodX hinv tm hc
          obtain ⟨ks, hks, hok⟩ := hinv.typed a o ho
          refine ⟨?_, by rw [hka]; rfl, fun htm => htm⟩
          simp only [GoodX]
          refine ⟨?_, ?_, ⟨ks, ?_, hok⟩, ?_⟩
          · intro hai
            have := planClone_rebuilt_flag hinv.kindOK ho hcond
            rw [hai] at this
            exact this.symm.trans (Bool.and_false tm)
          · intro htm k hk
            obtain ⟨c, _, hc⟩ := mapO_mem hm hk
            exact (hkid c k hc).2.2 htm
          · rw [← hks]
            apply mapO_congr_idx (mapO_length hm)
            intro i pl c hpl hc
            obtain ⟨c', hc', hpc⟩ := mapO_getElem' hm i pl hpl
            rw [hc] at hc'; cases hc'
            exact (hkid c pl hpc).2.1
          · rw [goodXL_iff]
            intro pl hpl
            obtain ⟨c, _, hc⟩ := mapO_mem hm hpl
            exact (hkid c pl hc).1

theorem typed_setSlot {h : Heap} {o : Obj} (ht : TypedObj h o) {i : Nat} {cur y : Addr}
    (hcur : o.refs[i]? = some cur) (hk : kindAt h cur = kindAt h y) :
    TypedObj h { o with refs := o.refs.set i y } := by
  obtain ⟨ks, hks, hok⟩ := ht
  obtain ⟨k, hki, hkc⟩ := mapO_getElem hks i cur hcur
  have hset := mapO_list_set (f := kindAt h) i hks (a' := y) (b' := k) (by rw [← hk]; exact hkc)
  have : ks.set i k = ks := by
    apply List.ext_getElem? ; intro j
    by_cases hij : i = j
    · subst hij
      rw [List.getElem?_set_self (List.getElem?_eq_some_iff.mp hki).1, hki]
    · rw [List.getElem?_set_ne hij]
  rw [this] at hset
  exact ⟨ks, hset, hok⟩

theorem seq_refKinds {sc : Scalars} {ek : Nat} (he : elemKind sc.kind = some ek) (ks : List Nat) :
    refKindsOK sc ks ↔ ∀ k ∈ ks, k = ek := by
  have : (sc.kind = 8 ∧ ek = 1) ∨ (sc.kind = 9 ∧ ek = 2) := by
    generalize sc.kind = n at he
    match n, he with
    | 8, he => simp [elemKind] at he; exact Or.inl ⟨rfl, he.symm⟩
    | 9, he => simp [elemKind] at he; exact Or.inr ⟨rfl, he.symm⟩
  rcases this with ⟨h1, rfl⟩ | ⟨h1, rfl⟩ <;> simp [refKindsOK, h1, refKindsK]

theorem typed_listAppend {h : Heap} {o : Obj} {ek : Nat} (ht : TypedObj h o) (he : elemKind o.sc.kind = some ek)
    {y : Addr} (hy : kindAt h y = some ek) : TypedObj h { o with refs := o.refs ++ [y] } := by
  obtain ⟨ks, hks, hok⟩ := ht
  refine ⟨ks ++ [ek], mapO_append hks (by simp [mapO, hy]), ?_⟩
  rw [seq_refKinds he] at hok ⊢
  intro k hk
  rcases List.mem_append.mp hk with h1 | h1
  · exact hok k h1
  · simpa using h1

theorem typed_listSet {h : Heap} {o : Obj} {ek : Nat} (ht : TypedObj h o) (he : elemKind o.sc.kind = some ek)
    (i : Nat) {y : Addr} (hy : kindAt h y = some ek) : TypedObj h { o with refs := o.refs.set i y } := by
  obtain ⟨ks, hks, hok⟩ := ht
  refine ⟨ks.set i ek, mapO_list_set i hks hy, ?_⟩
  rw [seq_refKinds he] at hok ⊢
  intro k hk
  rcases List.mem_or_eq_of_mem_set hk with h1 | h1
  · exact hok k h1
  · exact h1

theorem typed_listErase {h : Heap} {o : Obj} {ek : Nat} (ht : TypedObj h o) (he : elemKind o.sc.kind = some ek)
    (i : Nat) : TypedObj h { o with refs := o.refs.eraseIdx i } := by
  obtain ⟨ks, hks, hok⟩ := ht
  refine ⟨ks.eraseIdx i, mapO_eraseIdx i hks, ?_⟩
  rw [seq_refKinds he] at hok ⊢
  intro k hk
  exact hok k (List.mem_of_mem_eraseIdx hk)

theorem txParts_kinds {h : Heap} (ht : TypedRefs h) {a : Addr} {o : Obj} {vi vo w : Addr}
    (hp : txParts h a = some (o, vi, vo, w)) :
    h[a]? = some o ∧ o.sc.kind = 5 ∧ o.refs = [vi, vo, w] ∧ kindAt h vi = some 8 ∧ kindAt h vo = some 9 ∧
      kindAt h w = some 4 := by
  simp only [txParts] at hp
  cases ho : h[a]? with
  | none => simp [ho] at hp
  | some o' =>
    simp only [ho] at hp
    cases hsc : o'.sc <;> simp only [hsc] at hp <;> try (cases hp)
    rename_i ver lock
    match hr : o'.refs, hp with
    | [x, y, z], hp =>
      simp only [Option.some.injEq, Prod.mk.injEq] at hp
      obtain ⟨rfl, rfl, rfl, rfl⟩ := hp
      obtain ⟨ks, hks, hok⟩ := ht a o' ho
      simp only [refKindsOK, hsc, Scalars.kind, refKindsK] at hok
      subst hok
      rw [hr] at hks
      simp only [mapO] at hks
      cases h1 : kindAt h x with
      | none => simp [h1] at hks
      | some k1 =>
        cases h2 : kindAt h y with
        | none => simp [h1, h2] at hks
        | some k2 =>
          cases h3 : kindAt h z with
          | none => simp [h1, h2, h3] at hks
          | some k3 =>
            simp only [h1, h2, h3, Option.some.injEq, List.cons.injEq, and_true] at hks
            obtain ⟨rfl, rfl, rfl⟩ := hks
            exact ⟨rfl, by rw [hsc]; rfl, hr, rfl, rfl, rfl⟩

end BtcVerif.Model.Heap

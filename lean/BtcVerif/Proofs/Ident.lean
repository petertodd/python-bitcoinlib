/-
  Identifiers (C02): `GetTxid` / `GetHash` / block and header hash as `H` of the Spec bytes, for an arbitrary
  `H : Bytes → Bytes`; `Serializable.__eq__`; `CMutableTransaction.stream_deserialize`; injectivity of
  `txBytes` up to the normal form.
-/
import BtcVerif.Proofs.Wire
import BtcVerif.Model.Ident
import BtcVerif.Spec.Ident

namespace BtcVerif.Codec
open BtcVerif BtcVerif.Model.Wire BtcVerif.Model.Ident BtcVerif.Spec.Wire
open BtcVerif.Spec.Merkle (TxRange)

theorem compactSize_ne_nil (n : Nat) : compactSize n ≠ [] := by
  unfold compactSize
  split
  · simp
  · split
    · simp
    · split <;> simp

theorem witStack_ne_nil (s : WitStack) : witStack s ≠ [] := by
  unfold witStack vec
  intro h
  exact compactSize_ne_nil _ (List.append_eq_nil_iff.1 h).1

theorem witness_bytes_eq_nil_iff (w : List WitStack) : (w.map witStack).flatten = [] ↔ w = [] := by
  cases w with
  | nil => simp
  | cons s w =>
    simp only [List.map_cons, List.flatten_cons, List.append_eq_nil_iff, reduceCtorEq, iff_false, not_and]
    intro h
    exact absurd h (witStack_ne_nil s)

/-- `self.wit != CTxWitness()` is true exactly when the witness object has at least one entry
    (all-empty stacks included) -/
theorem witNeDefault_ok {w : List WitStack} (h : ∀ s ∈ w, WFWitStack s) :
    witNeDefault w = .ok (!w.isEmpty) := by
  unfold witNeDefault
  rw [serWitness_ok h]
  have h0 : serWitness [] = .ok [] := rfl
  simp only [ok_bind, h0]
  cases w with
  | nil => rfl
  | cons s w =>
    have : (List.map witStack (s :: w)).flatten ≠ [] := by
      rw [Ne, witness_bytes_eq_nil_iff]; simp
    show (Except.ok ((List.map witStack (s :: w)).flatten != []) : Res Bool) = _
    rw [bne_iff_ne.2 this]
    rfl

/-- with at least one input the two forms differ (at byte 4: marker `00` against a non-zero count) -/
theorem txExtended_ne_txLegacy (t : Tx) (h : 1 ≤ t.vin.length) : txExtended t ≠ txLegacy t := by
  intro heq
  have := congrArg (List.drop 4) heq
  rw [txExtended_eq, txLegacy_eq, List.drop_left' (leBytesInt_length 4 _),
    List.drop_left' (leBytesInt_length 4 _)] at this
  obtain ⟨b, c, E, hE, hb⟩ := legacyBody_shape t h
  rw [hE] at this
  simp only [List.cons_append, List.cons.injEq] at this
  exact hb this.1.symm

theorem ctorValid_of_range {t : Tx} (h : TxRange t) : ctorValid t = true := by
  obtain ⟨_, _, _, _, hvin, _, _, _, hlock⟩ := h
  unfold ctorValid
  simp only [Bool.and_eq_true, decide_eq_true_eq, List.all_eq_true, beq_iff_eq]
  refine ⟨by omega, ?_⟩
  intro i hi
  obtain ⟨⟨h1, h2⟩, _, h3⟩ := hvin i hi
  exact ⟨⟨h1, by omega⟩, by omega⟩

theorem ctorValid_wit (t : Tx) (w : List WitStack) : ctorValid { t with wit := w } = ctorValid t := rfl

theorem getTxidWith_eq (H : Bytes → Bytes) (t : Tx) (hw : ∀ s ∈ t.wit, WFWitStack s)
    (hc : ctorValid t = true) :
    getTxidWith H t = (serTx { t with wit := [] }).map H := by
  unfold getTxidWith
  rw [witNeDefault_ok hw]
  simp only [ok_bind]
  cases hwit : t.wit with
  | nil =>
    have : t = { t with wit := [] } := by
      cases t; simp_all
    simp only [List.isEmpty_nil, Bool.not_true, Bool.false_eq_true, if_false]
    rw [← this]
    cases serTx t <;> rfl
  | cons s w =>
    simp only [List.isEmpty_cons, Bool.not_false, if_true, hc, Bool.not_true, Bool.false_eq_true, if_false]
    cases serTx { t with wit := [] } <;> rfl

theorem getTxidWith_ok (H : Bytes → Bytes) {t : Tx} (h : TxRange t) :
    getTxidWith H t = .ok (H (txLegacy t)) := by
  rw [getTxidWith_eq H t h.2.2.2.2.2.2.2.1 (ctorValid_of_range h)]
  exact congrArg (Except.map H) (serTx_strip h)

theorem getTxidWith_valueerr (H : Bytes → Bytes) (t : Tx) (hw : ∀ s ∈ t.wit, WFWitStack s)
    (hne : t.wit ≠ []) (hc : ctorValid t = false) : getTxidWith H t = .error .valueerr := by
  unfold getTxidWith
  rw [witNeDefault_ok hw]
  cases hwit : t.wit with
  | nil => exact absurd hwit hne
  | cons s w =>
    simp only [ok_bind, List.isEmpty_cons, Bool.not_false, if_true, hc]
    rfl

theorem blockHashWith_eq (H : Bytes → Bytes) {b : Block} (hp : b.hdr.hashPrevBlock.length = 32)
    (hm : b.hdr.hashMerkleRoot.length = 32) : blockHashWith H b = headerHashWith H b.hdr := by
  unfold blockHashWith getHeader
  simp only [hp, hm, ne_eq, not_true_eq_false, if_false]
  rfl

theorem headerHashWith_ok (H : Bytes → Bytes) {h : Header} (wf : WFHeader h) :
    headerHashWith H h = .ok (H (header h)) := by
  unfold headerHashWith
  rw [serHeader_ok wf]
  rfl

/-- `Serializable.__eq__` compares two serialisations: it answers `True` exactly when both exist and
    are the same byte string -/
theorem beq_bind_ok_true_iff (x y : Res Bytes) :
    (x >>= fun a => y >>= fun b => (pure (a == b) : Res Bool)) = .ok true ↔ ∃ bs, x = .ok bs ∧ y = .ok bs := by
  cases x with
  | error e =>
    constructor
    · intro h; cases h
    · rintro ⟨_, h, _⟩; cases h
  | ok a =>
    cases y with
    | error e =>
      constructor
      · intro h; cases h
      · rintro ⟨_, _, h⟩; cases h
    | ok b =>
      show (Except.ok (a == b) : Res Bool) = .ok true ↔ _
      constructor
      · intro h
        injection h with h
        exact ⟨a, rfl, by rw [eq_of_beq h]⟩
      · rintro ⟨bs, h1, h2⟩
        injection h1 with h1
        injection h2 with h2
        rw [h1, h2, beq_self_eq_true]

theorem mutableDefaultWit_of_hasWitness {t : Tx} (h : t.hasWitness = true) : mutableDefaultWit t = t := by
  unfold mutableDefaultWit
  have := hasWitness_wit_ne_nil h
  cases hw : t.wit with
  | nil => exact absurd hw this
  | cons s w => simp

theorem hasWitness_replicate (t : Tx) (n : Nat) :
    ({ t with wit := List.replicate n [] } : Tx).hasWitness = false := by
  simp [Tx.hasWitness]

theorem wf_mutableDefaultWit {t : Tx} (wf : WFTx t) : WFTx (mutableDefaultWit t) := by
  unfold mutableDefaultWit
  split
  · obtain ⟨hv1, hv2, h1, hin, hout, hvin, hvout, _, _, hlock⟩ := wf
    refine ⟨hv1, hv2, h1, hin, hout, hvin, hvout, Or.inr (by simp), ?_, hlock⟩
    intro s hs
    have : s = [] := (List.mem_replicate.1 hs).2
    subst this
    exact ⟨by decide, by simp⟩
  · exact wf

theorem txBytes_mutableDefaultWit (t : Tx) : txBytes (mutableDefaultWit t) = txBytes t := by
  unfold mutableDefaultWit
  split
  · rename_i h
    have h0 : t.wit = [] := List.isEmpty_iff.1 h
    have hw : t.hasWitness = false := by simp [Tx.hasWitness, h0]
    simp only [txBytes, hasWitness_replicate, hw, Bool.false_eq_true, if_false]
    rfl
  · rfl

theorem dec_deTxMutable (t : Tx) (wf : WFTx t) :
    Dec deTxMutable (txBytes t) (mutableDefaultWit (normTx t)) := by
  unfold deTxMutable
  exact Dec.bind_last (dec_deTx t wf) (fun _ => rfl)

theorem dec_deTxMutable_ser {t : Tx} (wf : WFTx t) {bs : Bytes} (h : serTx t = .ok bs) :
    Dec deTxMutable bs (mutableDefaultWit (normTx t)) :=
  (dec_deTxMutable t wf).of_ser (serTx_ok (txRange_of_wf wf)) h

theorem clean_deTxMutable : Clean deTxMutable := by
  intro s; unfold deTxMutable
  clean_step (clean_deTx s)
  exact LibErr.ok _

theorem txBytes_inj {a b : Tx} (wa : WFTx a) (wb : WFTx b) (h : txBytes a = txBytes b) :
    normTx a = normTx b := by
  have ha := (dec_deTx a wa).exact
  have hb := (dec_deTx b wb).exact
  rw [h, hb] at ha
  injection ha with ha
  exact (Prod.mk.inj ha).1.symm

end BtcVerif.Codec

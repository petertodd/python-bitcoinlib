/-
  Big-endian byte strings as numbers.  `beNat` is the little-endian value of the reversed string, so
  bounds and the inverse of `beBytes` come from the little-endian lemmas of Basic/Bytes.lean; on top of
  that: a value has exactly one representation without a leading zero byte.  Mathlib-free.
-/
import BtcVerif.Basic.Bytes

namespace BtcVerif

theorem toNat_ofNat_lt {k : Nat} (h : k < 256) : (UInt8.ofNat k).toNat = k := by
  rw [UInt8.toNat_ofNat', Nat.mod_eq_of_lt h]

theorem byte_eq_ofNat {b : UInt8} {k : Nat} (h : b.toNat = k) : b = UInt8.ofNat k := by
  rw [← h, UInt8.ofNat_toNat]

/-! ### big-endian value -/

theorem foldl_be (bs : Bytes) (a : Nat) :
    bs.foldl (fun acc b => acc * 256 + b.toNat) a = a * 256 ^ bs.length + beNat bs := by
  induction bs generalizing a with
  | nil => simp [beNat]
  | cons b bs ih =>
    simp only [List.foldl_cons, beNat, List.length_cons]
    rw [ih, ih (0 * 256 + b.toNat)]
    simp [Nat.pow_succ, Nat.add_mul, Nat.mul_assoc, Nat.mul_comm 256, Nat.add_assoc]

theorem beNat_nil : beNat [] = 0 := rfl

theorem beNat_append (as bs : Bytes) : beNat (as ++ bs) = beNat as * 256 ^ bs.length + beNat bs := by
  rw [beNat, List.foldl_append, foldl_be]; rfl

theorem beNat_cons (b : UInt8) (bs : Bytes) : beNat (b :: bs) = b.toNat * 256 ^ bs.length + beNat bs := by
  rw [← List.singleton_append, beNat_append]; simp [beNat]

theorem beNat_snoc (bs : Bytes) (b : UInt8) : beNat (bs ++ [b]) = beNat bs * 256 + b.toNat := by
  rw [beNat_append]; simp [beNat]

theorem beNat_zero_cons (bs : Bytes) : beNat (0 :: bs) = beNat bs := by
  rw [beNat_cons]; simp

theorem beNat_replicate_zero_append (k : Nat) (l : Bytes) : beNat (List.replicate k (0 : UInt8) ++ l) = beNat l := by
  induction k with
  | zero => simp
  | succ k ih => rw [List.replicate_succ, List.cons_append, beNat_zero_cons, ih]

theorem beNat_reverse (bs : Bytes) : beNat bs.reverse = leNat bs := by
  induction bs with
  | nil => rfl
  | cons x xs ih => rw [List.reverse_cons, beNat_snoc, ih, leNat]; omega

theorem beNat_eq_leNat_reverse (l : Bytes) : beNat l = leNat l.reverse := by
  rw [← beNat_reverse, List.reverse_reverse]

theorem beNat_lt (bs : Bytes) : beNat bs < 256 ^ bs.length := by
  rw [beNat_eq_leNat_reverse, ← List.length_reverse]; exact leNat_lt _

theorem beBytes_length (w n : Nat) : (beBytes w n).length = w := by simp [beBytes]

theorem beNat_beBytes_mod (w n : Nat) : beNat (beBytes w n) = n % 256 ^ w := by
  rw [beNat_eq_leNat_reverse, beBytes, List.reverse_reverse, leNat_leBytes]

theorem beBytes_beNat (bs : Bytes) : beBytes bs.length (beNat bs) = bs := by
  rw [beBytes, beNat_eq_leNat_reverse, ← List.length_reverse, leBytes_leNat, List.reverse_reverse]

theorem beNat_inj {as bs : Bytes} (hl : as.length = bs.length) (h : beNat as = beNat bs) : as = bs := by
  rw [← beBytes_beNat as, ← beBytes_beNat bs, hl, h]

/-! ### no leading zero: the length follows from the value -/

/-- the first byte, if there is one, is not zero -/
def NoLead0 : Bytes → Prop
  | [] => True
  | b :: _ => b.toNat ≠ 0

theorem beNat_pos_of_head {b : UInt8} {bs : Bytes} (hb : b.toNat ≠ 0) : 256 ^ bs.length ≤ beNat (b :: bs) := by
  rw [beNat_cons]
  have : 1 * 256 ^ bs.length ≤ b.toNat * 256 ^ bs.length := Nat.mul_le_mul_right _ (by omega)
  omega

theorem beNat_lt_beNat_cons {b : UInt8} {l r : Bytes} (hb : b.toNat ≠ 0) (hl : l.length ≤ r.length) :
    beNat l < beNat (b :: r) :=
  Nat.lt_of_lt_of_le (beNat_lt l)
    (Nat.le_trans (Nat.pow_le_pow_right (by decide) hl) (beNat_pos_of_head hb))

theorem length_le_of_beNat_lt {bs : Bytes} (h0 : NoLead0 bs) {k : Nat} (h : beNat bs < 256 ^ k) : bs.length ≤ k := by
  cases bs with
  | nil => exact Nat.zero_le k
  | cons b t =>
    have := beNat_pos_of_head (bs := t) h0
    exact (Nat.pow_lt_pow_iff_right (by decide)).mp (Nat.lt_of_le_of_lt this h)

theorem eq_of_beNat_eq {as bs : Bytes} (ha : NoLead0 as) (hb : NoLead0 bs) (h : beNat as = beNat bs) : as = bs :=
  beNat_inj (Nat.le_antisymm (length_le_of_beNat_lt ha (h ▸ beNat_lt bs))
    (length_le_of_beNat_lt hb (h ▸ beNat_lt as))) h

end BtcVerif

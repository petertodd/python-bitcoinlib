/-
  `_CheckMultiSig` on the decomposed stack as one equation (`checkMultiSig_eq`, with `msTail_eq` for
  its last part), and from it the C07 arm invariant `checkMultiSig_good`; the outcomes of its two
  loops are `msDropSigs_cases` and `msLoop_cases`.
-/
import BtcVerif.Proofs.ScriptEvalInv3

namespace BtcVerif.Model.ScriptEval
open BtcVerif BtcVerif.Spec BtcVerif.Spec.Script BtcVerif.Model.Script

theorem msDropSigs_cases (st : St) (isig : Int) (n k : Nat) (script : Bytes)
    (hel : ∀ x ∈ st.stack, x.length < 2 ^ 32) (hlen : script.length ≤ MAX_SCRIPT_SIZE)
    (hidx : ∀ j : Nat, k ≤ j → j < k + n → 1 ≤ isig + j ∧ isig + j ≤ st.stack.length) :
    (∃ r, msDropSigs st isig n k script = .ok r ∧ r.length ≤ MAX_SCRIPT_SIZE) ∨
    msDropSigs st isig n k script = .error (.invalid st.cap) := by
  induction n generalizing k script with
  | zero => left; exact ⟨script, rfl, hlen⟩
  | succ n ih =>
    obtain ⟨h1, h2⟩ := hidx k (Nat.le_refl _) (by omega)
    obtain ⟨x, hx, hxm, _⟩ := getTop?_pos st.stack (isig + k) h1 h2
    have he := encodeOpPushdata_eq x (hel x hxm)
    have hpat := pushEnc_pat x (hel x hxm)
    simp only [msDropSigs, hx, pyIdx, he, bind, Except.bind]
    rcases findAndDelete_cases st.cap script (Ref.pushEnc x) with ⟨r, hf⟩ | hf
    · simp only [hf]
      have hrl : r.length ≤ MAX_SCRIPT_SIZE := by have := findAndDelete_length_le hpat hf; omega
      exact ih (k + 1) r hrl (fun j hj1 hj2 => hidx j (by omega) (by omega))
    · right; simp only [hf]

/-- the `while success and sigs_count > 0` loop returns `success`, raises VerifyOpFailedError for
    OP_CHECKMULTISIGVERIFY, or lets through what `_CheckSig` raised -/
def MsOut (c : Ctx) (st : St) (sop : Nat) (r : M Bool) : Prop :=
  (∃ b, r = .ok b) ∨ r = raiseNamed sop st ∨ r = .error (.invalid st.cap) ∨
    (∃ cls, r = .error (.py cls) ∧ c.Raises cls)

theorem msLoop_cases (c : Ctx) (sop : Nat) (script : Bytes) (hlen : script.length ≤ MAX_SCRIPT_SIZE) (st : St)
    (m : Nat) :
    ∀ (isig sigs ikey keys : Int), keys.toNat = m → 1 ≤ sigs → sigs ≤ keys → 1 ≤ isig → 1 ≤ ikey →
      isig + sigs ≤ st.stack.length + 1 → ikey + keys ≤ st.stack.length + 1 →
      MsOut c st sop (msLoop c sop script st isig sigs ikey keys) := by
  induction m using Nat.strongRecOn with
  | _ m ih =>
    intro isig sigs ikey keys hm hs1 hs2 hi1 hk1 hi2 hk2
    obtain ⟨sig, hsig, _, _⟩ := getTop?_pos st.stack isig hi1 (by omega)
    obtain ⟨pk, hpk, _, _⟩ := getTop?_pos st.stack ikey hk1 (by omega)
    rw [msLoop]
    simp only [hsig, hpk, pyIdx, bind, Except.bind]
    rcases checkSig_cases c st.cap sig pk script hlen with ⟨ok, hk⟩ | hk | ⟨cls, hk, hneg⟩
    · simp only [hk]
      cases ok
      · simp only [Bool.false_eq_true, if_false]
        split_ifs with h1 h2 h3
        · right; left; rfl
        · left; exact ⟨_, rfl⟩
        · exact ih (keys - 1).toNat (by omega) _ _ _ _ rfl h3 (by omega) (by omega) (by omega) (by omega)
            (by omega)
        · left; exact ⟨_, rfl⟩
      · simp only [if_true]
        split_ifs with h1 h2 h3
        · right; left; rfl
        · left; exact ⟨_, rfl⟩
        · exact ih (keys - 1).toNat (by omega) _ _ _ _ rfl h3 (by omega) (by omega) (by omega) (by omega)
            (by omega)
        · left; exact ⟨_, rfl⟩
    · right; right; left; simp only [hk]
    · right; right; right; simp only [hk]; exact ⟨cls, rfl, hneg⟩

theorem msTail_eq (fl : Flags) (sop : Nat) (success : Bool) (s al : List Bytes) (vf : List Bool) (pb n' m : Nat)
    (dummy : Bytes) (rest : List Bytes) (hd : s.drop m = dummy :: rest) (hm : m ≤ s.length) :
    (do
      let stack ← popN m s
      let st : St := ⟨stack, al, vf, pb, n'⟩
      nullDummyCheck fl sop st
      let (_, stack) ← pyIdx (pop? stack)
      let st : St := { st with stack := stack }
      if sop = 0xae then
        .ok { st with stack := (if success then [1] else []) :: stack }
      else .ok st : M St) =
    if fl.nullDummy = true ∧ dummy ≠ [] then raiseNamed sop ⟨dummy :: rest, al, vf, pb, n'⟩
    else if sop = 0xae then .ok ⟨(if success then [1] else []) :: rest, al, vf, pb, n'⟩
    else .ok ⟨rest, al, vf, pb, n'⟩ := by
  rw [popN_eq m s hm, hd]
  simp only [bind, Except.bind, nullDummyCheck, getTop?_1, pyIdx, pop?_cons, List.length_cons]
  by_cases hnd : fl.nullDummy = true
  · by_cases hde : dummy = []
    · simp [hnd, hde]
    · simp [hnd, hde]
  · simp [hnd]

/-- `_CheckMultiSig` on the stack `keys_count :: keys… :: sigs_count :: sigs… :: dummy :: rest` (top
    first), with the index arithmetic (`i`, `ikey`, `isig`, `len(stack) < i`) resolved into the
    take / drop decomposition Bitcoin Core uses.  The two `[]` arms are not reachable. -/
theorem checkMultiSig_eq (c : Ctx) (fl : Flags) (sop : Nat) (script : Bytes) (st : St) :
    checkMultiSig c fl sop script st =
      match st.stack with
      | [] => raiseNamed sop st
      | kv :: s1 =>
        castToBigNum kv st >>= fun keys =>
        if keys < 0 ∨ keys > 20 then raiseNamed sop st else
        let st1 : St := { st with nOpCount := st.nOpCount + keys.toNat }
        if st1.nOpCount > MAX_OPS_PER_SCRIPT then raise st1 else
        if s1.length < keys.toNat + 1 then raiseNamed sop st1 else
        match s1.drop keys.toNat with
        | [] => .error (.py "IndexError")
        | sv :: s2 =>
          castToBigNum sv st1 >>= fun sigs =>
          if sigs < 0 ∨ sigs > keys then raiseNamed sop st1 else
          if s2.length < sigs.toNat + 1 then raiseNamed sop st1 else
          msDropSigs st1 (2 + keys + 1) sigs.toNat 0 script >>= fun script' =>
          (if sigs > 0 then msLoop c sop script' st1 (2 + keys + 1) sigs 2 keys else .ok true) >>= fun success =>
          match s2.drop sigs.toNat with
          | [] => .error (.py "IndexError")
          | dummy :: rest =>
            if fl.nullDummy = true ∧ dummy ≠ [] then raiseNamed sop { st1 with stack := dummy :: rest }
            else if sop = 0xae then .ok { st1 with stack := (if success then [1] else []) :: rest }
            else .ok { st1 with stack := rest } := by
  obtain ⟨s, al, vf, pb, n⟩ := st
  unfold checkMultiSig
  dsimp only
  rcases s with _ | ⟨kv, s1⟩
  · rfl
  · rw [if_neg (by simp only [List.length_cons]; omega), getTop?_1, pyIdx_some, ok_bind]
    congr 1
    funext keys
    by_cases hk : keys < 0 ∨ keys > 20
    · rw [if_pos hk, if_pos hk]
    rw [if_neg hk, if_neg hk]
    by_cases hop : n + keys.toNat > MAX_OPS_PER_SCRIPT
    · rw [if_pos hop, if_pos hop]
    rw [if_neg hop, if_neg hop]
    by_cases hlen : ((kv :: s1).length : Int) < 2 + keys
    · rw [if_pos hlen, if_pos (by simp only [List.length_cons] at hlen; omega)]
    have hl1 : ¬ s1.length < keys.toNat + 1 := by simp only [List.length_cons] at hlen; omega
    rw [if_neg hlen, if_neg hl1]
    have hkn : keys.toNat < s1.length := by omega
    rw [List.drop_eq_getElem_cons hkn]
    have hgt : getTop? (kv :: s1) (2 + keys) = some s1[keys.toNat] := by
      have e : 2 + keys = (keys + 1) + 1 := by omega
      rw [e, getTop?_succ _ _ (by omega)]
      have e2 : (keys + 1).toNat = keys.toNat + 1 := by omega
      rw [e2, List.getElem?_cons_succ, List.getElem?_eq_getElem hkn]
    rw [hgt, pyIdx_some, ok_bind]
    dsimp only
    congr 1
    funext sigs
    by_cases hsr : sigs < 0 ∨ sigs > keys
    · rw [if_pos hsr, if_pos hsr]
    rw [if_neg hsr, if_neg hsr]
    have hs2 : (s1.drop (keys.toNat + 1)).length = s1.length - (keys.toNat + 1) := List.length_drop ..
    by_cases hl2 : ((kv :: s1).length : Int) < 2 + keys + 1 + sigs
    · have hR : (s1.drop (keys.toNat + 1)).length < sigs.toNat + 1 := by
        rw [hs2]; simp only [List.length_cons] at hl2; omega
      rw [if_pos hR]
      by_cases hl1' : ((kv :: s1).length : Int) < 2 + keys + 1 + sigs - 1
      · rw [if_pos hl1']
      · rw [if_neg hl1', if_pos hl2]
    have hR : ¬ (s1.drop (keys.toNat + 1)).length < sigs.toNat + 1 := by
      rw [hs2]; simp only [List.length_cons] at hl2; omega
    have hl1' : ¬ ((kv :: s1).length : Int) < 2 + keys + 1 + sigs - 1 := by omega
    rw [if_neg hR, if_neg hl1', if_neg hl2]
    congr 1
    funext script'
    have hm : (2 + keys + 1 + sigs - 1).toNat = (keys.toNat + 1 + sigs.toNat) + 1 := by omega
    have hdd : (kv :: s1).drop (2 + keys + 1 + sigs - 1).toNat = (s1.drop (keys.toNat + 1)).drop sigs.toNat := by
      rw [hm, List.drop_succ_cons, List.drop_drop]
    obtain ⟨dummy, rest, hdr⟩ : ∃ dummy rest, (s1.drop (keys.toNat + 1)).drop sigs.toNat = dummy :: rest := by
      cases hdr : (s1.drop (keys.toNat + 1)).drop sigs.toNat with
      | nil =>
        have := congrArg List.length hdr
        simp only [List.length_drop, List.length_nil, List.length_cons] at this hl2; omega
      | cons d r => exact ⟨d, r, rfl⟩
    have htail := fun success => msTail_eq fl sop success (kv :: s1) al vf pb (n + keys.toNat) _ dummy rest
      (hdd.trans hdr) (by simp only [List.length_cons] at hl2 ⊢; omega)
    rw [hdr]
    by_cases hpos : sigs > 0
    · rw [if_pos hpos, if_pos hpos]
      congr 1
      funext success
      exact htail success
    · rw [if_neg hpos, if_neg hpos]
      exact htail true

section arms
variable {c : Ctx} {B : Nat} {st : St} {sop : Nat}

theorem pre_suffix {s s' al : List Bytes} {vf : List Bool} {pb n : Nat} (h : Pre B ⟨s, al, vf, pb, n⟩)
    (hs : s' <:+ s) : Pre B ⟨s', al, vf, pb, n⟩ := by
  obtain ⟨p1, p2, p3, p4⟩ := h
  exact ⟨by have := hs.length_le; dsimp only at p1 ⊢; omega, p2, fun x hx => p3 x (hs.subset hx), p4⟩

theorem checkMultiSig_good (fl : Flags) (script : Bytes) (hsl : script.length ≤ MAX_SCRIPT_SIZE) (h : Pre B st) (hn : Named sop) (hB : 520 ≤ B)
    (hB2 : B < 2 ^ 32) : Good c B (checkMultiSig c fl sop script st) := by
  rw [checkMultiSig_eq]
  obtain ⟨s, al, vf, pb, n⟩ := st
  rcases s with _ | ⟨kv, s1⟩
  · exact good_raiseNamed hn h
  obtain ⟨p1, p2, p3, p4⟩ := id h
  have hlt : ∀ x ∈ kv :: s1, x.length < 2 ^ 32 := fun x hx => Nat.lt_of_le_of_lt (p3 x hx) hB2
  refine good_castToBigNum h (hlt kv List.mem_cons_self) fun keys _ _ => ?_
  by_cases hk : keys < 0 ∨ keys > 20
  · rw [if_pos hk]; exact good_raiseNamed hn h
  rw [if_neg hk]
  dsimp only
  by_cases hop : n + keys.toNat > MAX_OPS_PER_SCRIPT
  · rw [if_pos hop]
    refine ⟨?_, ?_, p3, p4⟩
    · show (kv :: s1).length + al.length ≤ 1003
      have : (kv :: s1).length + al.length ≤ 1000 := p1
      omega
    · show n + keys.toNat ≤ 221
      have : n ≤ 201 := p2
      omega
  rw [if_neg hop]
  -- the keys are counted: from here on the state is within the loop-head limits again
  have h1 : Pre B ⟨kv :: s1, al, vf, pb, n + keys.toNat⟩ :=
    ⟨p1, by simp only [MAX_OPS_PER_SCRIPT] at hop; dsimp only at hop ⊢; omega, p3, p4⟩
  by_cases hl1 : s1.length < keys.toNat + 1
  · rw [if_pos hl1]; exact good_raiseNamed hn h1
  rw [if_neg hl1]
  have hdrop := List.drop_eq_getElem_cons (show keys.toNat < s1.length by omega)
  generalize s1[keys.toNat] = sv at hdrop
  generalize hs2e : s1.drop (keys.toNat + 1) = s2 at hdrop
  rw [hdrop]
  dsimp only
  have hs2 : sv :: s2 <:+ s1 := hdrop ▸ List.drop_suffix _ _
  have hsv : sv ∈ kv :: s1 := List.mem_cons_of_mem _ (hs2.subset List.mem_cons_self)
  refine good_castToBigNum h1 (hlt sv hsv) fun sigs _ _ => ?_
  by_cases hsr : sigs < 0 ∨ sigs > keys
  · rw [if_pos hsr]; exact good_raiseNamed hn h1
  rw [if_neg hsr]
  by_cases hl2 : s2.length < sigs.toNat + 1
  · rw [if_pos hl2]; exact good_raiseNamed hn h1
  rw [if_neg hl2]
  have hlen1 : s2.length + 1 + keys.toNat = s1.length := by
    have := congrArg List.length hdrop
    simp only [List.length_drop, List.length_cons] at this; omega
  have hdr := List.drop_eq_getElem_cons (show sigs.toNat < s2.length by omega)
  generalize s2[sigs.toNat] = dummy at hdr
  generalize s2.drop (sigs.toNat + 1) = rest at hdr
  have hsuf : dummy :: rest <:+ kv :: s1 :=
    ((hdr ▸ List.drop_suffix _ _ : dummy :: rest <:+ s2).trans (List.suffix_cons sv s2)).trans
      (hs2.trans (List.suffix_cons kv s1))
  have hp := pre_suffix h1 hsuf
  rw [hdr]
  dsimp only
  rcases msDropSigs_cases ⟨kv :: s1, al, vf, pb, n + keys.toNat⟩ (2 + keys + 1) sigs.toNat 0 script hlt hsl
      (by intro j _ hj; simp only [List.length_cons]; omega) with ⟨sc, hds, hscl⟩ | hds
  · rw [hds, ok_bind]
    have hloop : MsOut c ⟨kv :: s1, al, vf, pb, n + keys.toNat⟩ sop
        (if sigs > 0 then msLoop c sop sc ⟨kv :: s1, al, vf, pb, n + keys.toNat⟩ (2 + keys + 1) sigs 2 keys
         else .ok true) := by
      by_cases hpos : sigs > 0
      · rw [if_pos hpos]
        exact msLoop_cases c sop sc hscl _ keys.toNat (2 + keys + 1) sigs 2 keys rfl (by omega) (by omega) (by omega)
          (by omega) (by simp only [List.length_cons]; omega) (by simp only [List.length_cons]; omega)
      · rw [if_neg hpos]; exact Or.inl ⟨true, rfl⟩
    rcases hloop with ⟨b, hb⟩ | hb | hb | ⟨cls, hb, hneg⟩
    · rw [hb, ok_bind]
      by_cases hnd : fl.nullDummy = true ∧ dummy ≠ []
      · rw [if_pos hnd]; exact good_raiseNamed hn hp
      · rw [if_neg hnd]
        by_cases hae : sop = 0xae
        · rw [if_pos hae]
          exact good_stack hp _ 1 (elemsLe_flag hB _) (Nat.le_add_left 1 3) (Nat.le_add_left 1 _)
        · rw [if_neg hae]; exact good_ok (pre_tail hp)
    · rw [hb, raiseNamed_eq, error_bind]; exact good_namedErr hn h1
    · rw [hb]; exact h1.lim
    · rw [hb]; exact hneg
  · rw [hds]; exact h1.lim

end arms

end BtcVerif.Model.ScriptEval

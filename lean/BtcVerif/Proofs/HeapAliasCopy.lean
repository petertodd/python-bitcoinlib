/-
  C09, operations with reference arguments: a copy made by `CMutableX.from_x` shares no mutable object with
  anything that existed before, under arbitrary user-made aliasing: separation as a property of the copy
  operations.
-/
import BtcVerif.Proofs.HeapAliasSteps

namespace BtcVerif.Model.Heap
open BtcVerif BtcVerif.Spec.ValueSem BtcVerif.Spec.AliasSem BtcVerif.Model.HeapX

theorem copy_fresh {h : Heap} (hinv : InvX h) {a : Addr} {ta : ATree} {p : Plan}
    (hu : unfoldA D h a = some ta) (hp : planClone true D h a = some p) :
    InvX (allocPlan h p).1 ∧ (∃ e, (allocPlan h p).1 = h ++ e) ∧
    ∃ t', unfoldA D (allocPlan h p).1 (allocPlan h p).2 = some t' ∧
      ∀ (x : Addr) (ox : Obj), x ∈ addrs t' → (allocPlan h p).1[x]? = some ox → ox.isMut = true →
        h.length ≤ x := by
  obtain ⟨hfit, hrefs, himm, hall, _⟩ := planClone_ok hinv.kindOK true hu hp
  have hres := allocPlan_spec h _ p D h ⟨[], by simp⟩ hfit hall himm
  obtain ⟨t', ht', hpt⟩ := hres.tree
  obtain ⟨hi1, hext, _⟩ := invx_alloc hinv (planClone_goodX hinv true hp).1
  refine ⟨hi1, hext, t', ht', ?_⟩
  intro x ox hx hox hmx
  have hc := (PT.cnt_le x hpt hrefs).2
  by_cases hlt : h.length ≤ x
  · exact hlt
  · exfalso
    have c : ¬(h.length ≤ x ∧ x < (allocPlan h p).1.length) := fun c => hlt c.1
    rw [if_neg c] at hc
    exact not_mem_of_cnt_zero hi1.immClosed hox hmx ht' (Nat.le_zero.mp hc) hx

end BtcVerif.Model.Heap

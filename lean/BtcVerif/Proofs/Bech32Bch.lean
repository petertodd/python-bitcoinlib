/-
  BIP173's `polymod` is the residue computation of the BCH code over GF(32) with generator
  g(x) = x⁶ + {29}x⁵ + {22}x⁴ + {20}x³ + {21}x² + {29}x + {18}: one step in coefficients (`unpack_step`), the whole
  run (`unpack_polymod`), and `unpack` is injective on 30-bit states.
-/
import BtcVerif.Proofs.Bech32Addr

namespace BtcVerif.Bech32
open BtcVerif.Spec.Bech32 (gfMul bchStep bchResidue unpack Residue)

theorem unpack_xor (a b : Nat) :
    unpack (a ^^^ b) = ⟨(unpack a).c5 ^^^ (unpack b).c5, (unpack a).c4 ^^^ (unpack b).c4,
      (unpack a).c3 ^^^ (unpack b).c3, (unpack a).c2 ^^^ (unpack b).c2, (unpack a).c1 ^^^ (unpack b).c1,
      (unpack a).c0 ^^^ (unpack b).c0⟩ := by
  have h : ∀ k, (a ^^^ b) / 2 ^ k % 32 = (a / 2 ^ k % 32) ^^^ (b / 2 ^ k % 32) := by
    intro k
    rw [Nat.xor_div_two_pow, show (32 : Nat) = 2 ^ 5 by rfl, Nat.xor_mod_two_pow]
  have h0 : (a ^^^ b) % 32 = (a % 32) ^^^ (b % 32) := by
    rw [show (32 : Nat) = 2 ^ 5 by rfl, Nat.xor_mod_two_pow]
  simp only [unpack, h, h0]

/-- the generator part is `top · g(x)` (coefficientwise product in GF(32)) -/
theorem unpack_G : ∀ t < 32, unpack (G t) =
    ⟨gfMul t 29, gfMul t 22, gfMul t 20, gfMul t 21, gfMul t 29, gfMul t 18⟩ := by decide

theorem unpack_shift (c v : Nat) (hv : v < 32) :
    unpack ((c % 2 ^ 25) * 32 + v) =
      ⟨(unpack c).c4, (unpack c).c3, (unpack c).c2, (unpack c).c1, (unpack c).c0, v⟩ := by
  simp only [unpack, Residue.mk.injEq]
  refine ⟨?_, ?_, ?_, ?_, ?_, ?_⟩ <;> omega

theorem unpack_step (c v : Nat) (hc : c < 2 ^ 30) (hv : v < 32) :
    unpack (Spec.Bech32.polymodStep c v) = bchStep (unpack c) v := by
  rw [← polymodStep_eq_spec, polymodStep_eq]
  unfold T
  rw [Nat.xor_assoc, Nat.xor_comm (G _) v, ← Nat.xor_assoc, mul32_xor _ _ hv, unpack_xor,
    unpack_shift c v hv, unpack_G _ (by omega)]
  have hm : c / 2 ^ 25 % 32 = c / 2 ^ 25 := by omega
  simp only [bchStep, unpack, hm]

theorem polymodStep_lt (c v : Nat) (hv : v < 32) : Spec.Bech32.polymodStep c v < 2 ^ 30 := by
  rw [← polymodStep_eq_spec, polymodStep_eq]
  exact xor_lt30 (T_lt c) (by omega)

theorem unpack_polymod (vs : List Nat) (hvs : ∀ v ∈ vs, v < 32) :
    unpack (Spec.Bech32.polymod vs) = bchResidue vs := by
  unfold Spec.Bech32.polymod bchResidue
  have : unpack 1 = ⟨0, 0, 0, 0, 0, 1⟩ := by decide
  rw [← this]
  generalize hc : (1 : Nat) = c
  have hc30 : c < 2 ^ 30 := by omega
  clear hc this
  induction vs generalizing c with
  | nil => rfl
  | cons v vs ih =>
    simp only [List.foldl_cons]
    have hv := hvs v (by simp)
    rw [ih (fun x hx => hvs x (by simp [hx])) _ (polymodStep_lt c v hv), unpack_step c v hc30 hv]

theorem unpack_inj {a b : Nat} (ha : a < 2 ^ 30) (hb : b < 2 ^ 30) (h : unpack a = unpack b) : a = b := by
  simp only [unpack, Residue.mk.injEq] at h
  omega

end BtcVerif.Bech32

/-
  C09, operations with reference arguments: the steps of the `RawSignatureHash` surgery keep every reference
  slot typed, hence `InvX` (`steps_invx`); with `rawSigHash_steps` the heap only grows.  Every operation of the
  extended catalogue is a transition `TrX` (`trx_step`), hence every history (`trx_run`, `invx_run`).
-/
import BtcVerif.Proofs.HeapAliasCopy

namespace BtcVerif.Model.Heap
open BtcVerif BtcVerif.Spec.ValueSem BtcVerif.Spec.AliasSem BtcVerif.Model.HeapX

theorem refsOK_typed {hh : Heap} {ox o' : Obj} (ht : TypedObj hh ox) (hk : o'.sc.kind = ox.sc.kind)
    (hr : RefsOK hh ox o'.refs) : TypedObj hh o' := by
  obtain ⟨ks, hks, hok⟩ := ht
  unfold TypedObj
  generalize o'.refs = r at hr
  cases hr with
  | same => exact ⟨ks, hks, (refKindsOK_of_kind hk ks).mpr hok⟩
  | @slot i y k h5 hi hy hj =>
    -- the slot held an object of the class of `y`
    obtain ⟨k', hk1, hk2⟩ := mapO_getElem hks i _ (List.getElem?_eq_getElem hi)
    have hks5 : ks = [8, 9, 4] := by simpa only [refKindsOK, h5, refKindsK] using hok
    rw [hks5, hj] at hk1
    cases hk1
    obtain ⟨ks', h1, h2⟩ := typed_setSlot (o := ox) ⟨ks, hks, hok⟩ (List.getElem?_eq_getElem hi) (hk2.trans hy.symm)
    exact ⟨ks', h1, (refKindsOK_of_kind hk ks').mpr h2⟩
  | @items _ ek he hl =>
    have hall : ∀ y ∈ r, kindAt hh y = some ek := fun y hy => (hl y hy).elim (fun hmem => by
      obtain ⟨k, hk1, hk2⟩ := mapO_mem' hks hmem
      rw [hk2, (seq_refKinds he ks).mp hok k hk1]) id
    exact ⟨_, mapO_const _ ek r hall, (seq_refKinds (by rw [hk]; exact he) _).mpr (by simp)⟩

theorem newOK_typed {hh : Heap} {o : Obj} (hn : NewOK hh o) : TypedObj (hh ++ [o]) o := by
  rcases hn with ⟨hr, hk⟩ | ⟨h4, y, hr, hy⟩
  · refine ⟨[], by rw [hr]; rfl, ?_⟩
    rcases hk with hk | hk | hk <;> simp [refKindsOK, hk, refKindsK]
  · exact ⟨[10], by simp [hr, mapO, kindAt_append_some _ hy], by simp [refKindsOK, h4, refKindsK]⟩

theorem steps_invx {h hh hh' : Heap} (hinv : InvX hh) (st : Steps h hh hh') : InvX hh' := by
  induction st with
  | refl => exact hinv
  | tail _ s ih =>
    cases s with
    | alloc o c1 c2 ck ci ct =>
      exact invx_ext ih (e := [o]) (by simp [c1, c2]) (immClosedX_append_one ih.immClosed ci)
        (kindOKX_append_one ih.kindOK ck) (typedRefs_append_one ih.typed (newOK_typed ct))
    | write x ox o' hx hox hm hm' c1 c2 hk hr =>
      exact invx_write ih hox hm hm' hk (refsOK_typed (ih.typed x ox hox) hk hr)

theorem rawSigHash_ext {h h' : Heap} (hinv : InvX h) {a : Addr} {sub : Bytes} {inIdx ht : Nat}
    {d : BtcVerif.Res Bytes} (hr : rawSigHash h a sub inIdx ht = some (h', d)) :
    InvX h' ∧ ∃ e, h' = h ++ e := by
  obtain ⟨tv, habs⟩ := rawSigHash_some_tx hr
  obtain ⟨h2, d2, e2, hs⟩ := rawSigHash_steps hinv.immClosed hinv.kindOK hinv.defaults habs sub inIdx ht
  cases hr.symm.trans e2
  rcases hs with rfl | ⟨ta, p, hu, hp, g1, st⟩
  · exact ⟨hinv, [], (List.append_nil _).symm⟩
  · obtain ⟨⟨e, he, _⟩, _⟩ := steps_good g1 st
    exact ⟨steps_invx (copy_fresh hinv hu hp).1 st, e, he⟩

theorem rawSigHashes_ext {h : Heap} (hinv : InvX h) {a : Addr} {inIdx : Nat} :
    ∀ (calls : List (Bytes × Nat)) {hh h' : Heap}, InvX hh → (∃ e, hh = h ++ e) →
      rawSigHashes hh a inIdx calls = some h' → InvX h' ∧ ∃ e, h' = h ++ e
  | [], hh, h', hi, he, hr => by simp [rawSigHashes] at hr; subst hr; exact ⟨hi, he⟩
  | (sub, ht) :: cs, hh, h', hi, ⟨e, he⟩, hr => by
    simp only [rawSigHashes] at hr
    cases h1 : rawSigHash hh a sub inIdx ht with
    | none => simp [h1] at hr
    | some pr =>
      obtain ⟨h2, d⟩ := pr
      simp only [h1] at hr
      obtain ⟨i2, e2, he2⟩ := rawSigHash_ext hi h1
      exact rawSigHashes_ext hinv cs i2 ⟨e ++ e2, by rw [he2, he]; simp⟩ hr

/-! ### every operation preserves `InvX` and the slots of immutable objects (`TrX`); histories -/

theorem trx_of_ext {h h' : Heap} (r : InvX h' ∧ ∃ e, h' = h ++ e) : TrX h h' := by
  obtain ⟨hi, e, rfl⟩ := r
  exact ⟨hi, fun _ o ho _ => ⟨o, getElem?_append_of_some e ho, rfl, rfl, rfl⟩⟩

theorem trx_step {s : St} (hinv : InvX s.heap) (op : OpX) : TrX s.heap (HeapX.stepX s op).1.heap := by
  cases op with
  | base b =>
    show TrX s.heap (Model.Heap.step s b).1.heap
    cases hc : coreOp b with
    | true => exact invx_base_core hinv b (Or.inl hc)
    | false =>
      cases b with
      | sighash r sb i ht =>
        rcases step_sighash_heap s r sb i ht with h | ⟨a, d, hr⟩
        · rw [h]; exact TrX.refl hinv
        · exact trx_of_ext (rawSigHash_ext hinv hr)
      | verify r i cs =>
        rcases step_verify_heap s r i cs with h | ⟨a, hr⟩
        · rw [h]; exact TrX.refl hinv
        · exact trx_of_ext (rawSigHashes_ext hinv cs hinv ⟨[], by simp⟩ hr)
      | newBlock hd t => exact invx_base_core hinv _ (Or.inr ⟨hd, t, rfl⟩)
      | _ => simp [coreOp] at hc
  | _ => exact invx_newOps hinv _ (fun b hb => by cases hb)

theorem invx_step {s : St} (hinv : InvX s.heap) (op : OpX) : InvX (HeapX.stepX s op).1.heap :=
  (trx_step hinv op).inv

theorem invx_init : InvX Model.Heap.init.heap := by
  have hi := inv_init'
  refine ⟨hi.immClosed, hi.kindOK, hi.cacheOK, ?_, hi.defaults⟩
  intro a o ho
  match a, ho with
  | 0, ho => simp [Model.Heap.init] at ho; subst ho; exact ⟨[], rfl, by simp [refKindsOK, refKindsK, Scalars.kind]⟩
  | 1, ho =>
    simp [Model.Heap.init] at ho; subst ho
    exact ⟨[10], by simp [mapO, kindAt, Model.Heap.init, emptyTuple, Scalars.kind], rfl⟩
  | a + 2, ho => simp [Model.Heap.init] at ho

theorem trx_run (ops : List OpX) : ∀ {s : St}, InvX s.heap → TrX s.heap (HeapX.runX s ops).1.heap := by
  induction ops with
  | nil => intro s h; exact TrX.refl h
  | cons op ops ih =>
    intro s h
    simp only [HeapX.runX]
    exact (trx_step h op).trans (ih (invx_step h op))

theorem invx_run (ops : List OpX) {s : St} (h : InvX s.heap) : InvX (HeapX.runX s ops).1.heap := (trx_run ops h).inv

end BtcVerif.Model.Heap

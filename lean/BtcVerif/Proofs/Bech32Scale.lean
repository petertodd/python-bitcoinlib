/-
  C11 helper lemmas: the GF(32)-scaling symmetry of the BIP173 checksum.

  A 30-bit state is six coefficients in GF(32) = GF(2)[x]/(x⁵+x³+1), and `T` is GF(32)-linear, not only
  GF(2)-linear: it commutes with multiplying every coefficient by a constant.  `D` multiplies every
  coefficient by the field element `2`; as 31 is prime, the powers `D, D², …` reach every non-zero
  constant, so an error pattern can be rescaled until its first error value is `1` without changing
  whether its syndrome is zero.  The exhaustive part of the distance bound then only has to follow
  patterns that start with the value `1`.
-/
import BtcVerif.Proofs.Bech32Code

namespace BtcVerif.Bech32

theorem linear_zero {f : Nat → Nat} (hf : ∀ a b, f (a ^^^ b) = f a ^^^ f b) : f 0 = 0 := by
  have := hf 0 0
  rwa [Nat.xor_self, Nat.xor_self] at this

theorem split_at (c n : Nat) : c = c % 2 ^ n ^^^ c / 2 ^ n * 2 ^ n := by
  apply Nat.eq_of_testBit_eq
  intro i
  rw [Nat.testBit_xor, Nat.testBit_mod_two_pow, Nat.testBit_mul_two_pow, Nat.testBit_div_two_pow]
  by_cases hi : i < n
  · simp [hi, Nat.not_le_of_lt hi]
  · simp [hi, Nat.le_of_not_lt hi, Nat.sub_add_cancel (Nat.le_of_not_lt hi)]

theorem linear_ext {f g : Nat → Nat} (hf : ∀ a b, f (a ^^^ b) = f a ^^^ f b)
    (hg : ∀ a b, g (a ^^^ b) = g a ^^^ g b) (n : Nat) (h : ∀ j < n, f (2 ^ j) = g (2 ^ j)) :
    ∀ c < 2 ^ n, f c = g c := by
  induction n with
  | zero => intro c hc; rw [show c = 0 by omega, linear_zero hf, linear_zero hg]
  | succ n ih =>
    intro c hc
    have ih' := ih (fun j hj => h j (by omega)) (c % 2 ^ n) (Nat.mod_lt _ (Nat.two_pow_pos n))
    rw [split_at c n, hf, hg, ih']
    congr 1
    have : c / 2 ^ n = 0 ∨ c / 2 ^ n = 1 := by
      have : c / 2 ^ n < 2 := Nat.div_lt_of_lt_mul (by rwa [Nat.pow_succ] at hc)
      generalize c / 2 ^ n = q at this
      omega
    rcases this with h0 | h1
    · rw [h0, Nat.zero_mul, linear_zero hf, linear_zero hg]
    · rw [h1, Nat.one_mul]; exact h n (by omega)

/-- every coefficient times the field element `2`: shift each 5-bit lane left by one and reduce the bit that
    leaves the lane by `x⁵ = x³ + 1` -/
def D (c : Nat) : Nat :=
  let carry := (c >>> 4) &&& 0x2108421
  ((c &&& 0x1ef7bdef) <<< 1) ^^^ (carry ^^^ carry <<< 3)

theorem D_linear (a b : Nat) : D (a ^^^ b) = D a ^^^ D b := by
  simp only [D, Nat.and_xor_distrib_right, Nat.shiftLeft_xor_distrib, Nat.shiftRight_xor_distrib]
  ac_rfl

theorem D_small : ∀ v < 32, D v < 32 ∧ (D v = 0 → v = 0) := by decide

/-- 31 is prime, so the powers of the field element `2` are all non-zero elements -/
theorem D_reaches_one : ∀ v < 32, v ≠ 0 → ∃ k < 31, D^[k] v = 1 := by decide

theorem T_D_basis : ∀ j < 30, T (D (2 ^ j)) = D (T (2 ^ j)) := by decide

/-- `T` is GF(32)-linear -/
theorem T_D {c : Nat} (hc : c < 2 ^ 30) : T (D c) = D (T c) :=
  linear_ext (f := T ∘ D) (g := D ∘ T) (fun a b => by simp only [Function.comp, D_linear, T_linear])
    (fun a b => by simp only [Function.comp, D_linear, T_linear]) 30 T_D_basis c hc

theorem run_D (E : List Nat) {c : Nat} (hc : c < 2 ^ 30) (hE : ∀ v ∈ E, v < 32) :
    run (D c) (E.map D) = D (run c E) := by
  induction E generalizing c with
  | nil => rfl
  | cons v E ih =>
    have hv : v < 32 := hE v (by simp)
    rw [List.map_cons, run_cons, run_cons, T_D hc, ← D_linear]
    exact ih (xor_lt30 (T_lt _) (by omega)) (fun x hx => hE x (by simp [hx]))

theorem weight_map_D (E : List Nat) (hE : ∀ v ∈ E, v < 32) : weight (E.map D) = weight E := by
  induction E with
  | nil => rfl
  | cons v E ih =>
    have hv := D_small v (hE v (by simp))
    have : D v = 0 ↔ v = 0 := ⟨hv.2, fun h => by rw [h]; rfl⟩
    simp only [List.map_cons, weight, this, ih (fun x hx => hE x (by simp [hx]))]

/-- a pattern followed from a non-zero 5-bit state has the same zero-syndrome question as one followed from
    state `1`, with the same length and weight -/
theorem run_from_one (E : List Nat) (hE : ∀ v ∈ E, v < 32) {v : Nat} (hv : v < 32) (hv0 : v ≠ 0) :
    ∃ E', E'.length = E.length ∧ weight E' = weight E ∧ (∀ x ∈ E', x < 32) ∧
      (run v E = 0 → run 1 E' = 0) := by
  obtain ⟨k, -, hk⟩ := D_reaches_one v hv hv0
  rw [← hk]
  clear hk
  induction k generalizing v E with
  | zero => exact ⟨E, rfl, rfl, hE, id⟩
  | succ k ih =>
    obtain ⟨E', hl, hw, hE', h⟩ := ih (E.map D) (fun x hx => by
      obtain ⟨y, hy, rfl⟩ := List.mem_map.1 hx
      exact (D_small y (hE y hy)).1) (D_small v hv).1 (fun h0 => hv0 ((D_small v hv).2 h0))
    refine ⟨E', by simpa using hl, by rw [hw, weight_map_D E hE], hE', fun hz => h ?_⟩
    rw [run_D E (by omega) hE, hz]; rfl

theorem NZ_scale {k n v : Nat} (hv1 : 1 ≤ v) (hv : v < 32) (h : NZ k n 1) : NZ k n v := by
  intro E hE hw hl hz
  obtain ⟨E', hl', hw', hE', hrun⟩ := run_from_one E hE hv (by omega)
  exact h E' hE' (hw' ▸ hw) (hl' ▸ hl) (hrun hz)

end BtcVerif.Bech32

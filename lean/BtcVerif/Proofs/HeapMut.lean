/-
  C09: a write to a mutable object below a named root.
-/
import BtcVerif.Proofs.HeapInv

namespace BtcVerif.Model.Heap
open BtcVerif BtcVerif.Spec.ValueSem

theorem unfold_new_node {h1 : Heap} {x : Addr} {o' : Obj} (hx : x < h1.length) {g : Nat} {tcs : List ATree}
    (hk : mapO (unfoldA g h1) o'.refs = some tcs) (hnot : ∀ tc ∈ tcs, x ∉ addrs tc) :
    unfoldA (g + 1) (h1.set x o') x = some (.node x o'.isMut o'.sc tcs) := by
  have hself : (h1.set x o')[x]? = some o' := by simp [List.getElem?_set_self hx]
  refine unfoldA_mk hself ?_
  apply mapO_congr_some _ hk
  intro c hc b hb
  obtain ⟨b', hb', hcb⟩ := mapO_mem' hk hc
  rw [hb] at hcb; cases hcb
  exact unfoldA_set_frame hb (hnot b hb')

theorem immClosed_set_mut {h : Heap} {x : Addr} {ox o' : Obj} (hic : ImmClosed h) (hox : h[x]? = some ox)
    (hmx : ox.isMut = true) (hm' : o'.isMut = true) : ImmClosed (h.set x o') := by
  have hxl := (List.getElem?_eq_some_iff.mp hox).1
  intro a oa hoa hm c hc
  by_cases hax : a = x
  · subst hax
    rw [List.getElem?_set_self hxl] at hoa
    cases hoa
    rw [hm'] at hm; cases hm
  · rw [List.getElem?_set_ne (fun e => hax e.symm)] at hoa
    obtain ⟨oc, hoc, hmc⟩ := hic a oa hoa hm c hc
    have hcx : c ≠ x := by
      intro e; subst e
      rw [hox] at hoc; cases hoc
      rw [hmx] at hmc; cases hmc
    exact ⟨oc, by rw [List.getElem?_set_ne (fun e => hcx e.symm)]; exact hoc, hmc⟩

/-- **mutation**: after appending fresh objects `e`, the mutable object `x` — found at path `p`
    below the named root `a` — is overwritten with `o'` -/
theorem inv_mutate {s : St} (hinv : Inv s) {r : Nat} {a : Addr} (hr : s.root r = some a)
    {t : ATree} (ht : unfoldA D s.heap a = some t)
    {p : List Nat} {tx : ATree} (hs : sub t p = some tx) {x : Addr} (hx : tx.addr = x)
    {ox : Obj} (hox : s.heap[x]? = some ox) (hmx : ox.isMut = true)
    {h1 e : Heap} (he : h1 = s.heap ++ e)
    (hnew : ∀ o ∈ e, o.cHash = none ∧ o.cPy = none ∧ (o.sc.alwaysImm = true → o.isMut = false))
    (hic1 : ImmClosed h1)
    {o' : Obj} (hm' : o'.isMut = true) (hk' : o'.sc.alwaysImm = false)
    {g : Nat} (hD : D = p.length + g) {t' : ATree} (ht' : unfoldA g (h1.set x o') x = some t')
    {v' : Val} (hv' : decode (replaceAt t p t') = some v')
    (hai : t'.sc.alwaysImm = tx.sc.alwaysImm) (hf' : flagsOK true t')
    (hcnt : ∀ y, cnt y t' ≤ 1 ∧ (y < s.heap.length → cnt y t' ≤ cnt y tx)) :
    Inv (s.bind (h1.set x o') none) ∧ unfoldA D (h1.set x o') a = some (replaceAt t p t') ∧
      (∀ (r' : Nat) (b : Addr) (tb : ATree), r' ≠ r → s.root r' = some b → unfoldA D s.heap b = some tb →
        unfoldA D (h1.set x o') b = some tb) := by
  subst he
  have hicS := hinv.immClosed
  have hx1 : (s.heap ++ e)[x]? = some ox := getElem?_append_of_some e hox
  subst hx
  have htxm : tx.isMut = true := by rw [(sub_isMut ht hs hox).1]; exact hmx
  have hmp := mutPath_of_sub hicS hox hmx ht hs rfl
  have hc1 : 1 ≤ cnt tx.addr t := cnt_pos_of_mutPath hs rfl htxm hmp
  have hnr : s.names[r]? = some (some a) := root_mem hr
  have hsepx := hinv.sep tx.addr
  have hta : nameCnt s.heap tx.addr (some a) = cnt tx.addr t := by simp [nameCnt, cntAt, ht]
  have hle : cnt tx.addr t ≤ 1 := by
    have h0 := nameCnt_le_total (h := s.heap) (y := tx.addr) hnr
    rw [hta] at h0; exact Nat.le_trans h0 hsepx
  have hnewtree : unfoldA D ((s.heap ++ e).set tx.addr o') a = some (replaceAt t p t') := by
    rw [hD]
    exact unfoldA_set_path hic1 hx1 hmx p g a t tx t' (by rw [← hD]; exact unfoldA_ext e ht) hs rfl hle ht'
  -- other roots do not see the write
  have hother : ∀ (r' : Nat) (b : Addr), r' ≠ r → s.names[r']? = some (some b) →
      ∃ tb, unfoldA D s.heap b = some tb ∧ unfoldA D ((s.heap ++ e).set tx.addr o') b = some tb := by
    intro r' b hrr hb
    have hrb : s.root r' = some b := by simp [St.root, hb]
    obtain ⟨tb, _, hub, _⟩ := hinv.roots r' b hrb
    have h2 := total_two (h := s.heap) (y := tx.addr) hrr hb hnr
    have htb : nameCnt s.heap tx.addr (some b) = cnt tx.addr tb := by simp [nameCnt, cntAt, hub]
    rw [hta, htb] at h2
    have hz : cnt tx.addr tb = 0 := by omega
    exact ⟨tb, hub, unfoldA_set_frame (unfoldA_ext e hub) (not_mem_of_cnt_zero hicS hox hmx hub hz)⟩
  refine ⟨?_, hnewtree, ?_⟩
  rotate_left
  · intro r' b tb hrr hb hub
    obtain ⟨tb', hub1, hub2⟩ := hother r' b hrr (root_mem hb)
    rw [hub] at hub1; cases hub1; exact hub2
  apply Inv.mk' (immClosed_set_mut hic1 hx1 hmx hm')
    (kindOK_set_mut (kindOK_ext hinv.kindOK fun o ho => (hnew o ho).2.2) hk')
    (cacheOK_set_mut (cacheOK_ext hinv.cacheOK fun o ho => ⟨(hnew o ho).1, (hnew o ho).2.1⟩) hic1 hx1 hmx hm')
  · intro y
    rw [total_snoc]
    have hupd := total_update (h := s.heap) (h' := (s.heap ++ e).set tx.addr o') (y := y) hnr (by
      intro r' n' hrr hn'
      cases n' with
      | none => rfl
      | some b =>
        obtain ⟨tb, hub, hub'⟩ := hother r' b hrr hn'
        simp [nameCnt, cntAt, hub, hub'])
    have h1 : nameCnt s.heap y (some a) = cnt y t := by simp [nameCnt, cntAt, ht]
    have h2 : nameCnt ((s.heap ++ e).set tx.addr o') y (some a) = cnt y (replaceAt t p t') := by
      simp [nameCnt, cntAt, hnewtree]
    rw [h1, h2] at hupd
    have hrep := cnt_replaceAt y t' hs hmp
    have hsep := hinv.sep y
    obtain ⟨hc1', hc2'⟩ := hcnt y
    show total ((s.heap ++ e).set tx.addr o') s.names y + 0 ≤ 1
    rw [Nat.add_zero]
    by_cases hy : y < s.heap.length
    · -- an old address: the new subtree counts it at most as often as the one it replaces
      have := hc2' hy
      omega
    · have hz := total_fresh (h := s.heap) (Nat.not_lt.mp hy) s.names
      have hz2 : cnt y tx = 0 := by
        apply cnt_zero_of_not_mem
        intro hmem
        obtain ⟨f', hu'⟩ := sub_unfold ht hs
        have hlt : y < s.heap.length := addrs_lt hu' y hmem
        exact hy hlt
      -- a fresh address: it occurred nowhere, and occurs at most once in the new subtree
      omega
  · intro r' b hb
    rcases join_append_one hb with h1 | ⟨_, h1⟩
    · by_cases hrr : r' = r
      · rw [hrr] at h1
        have h1' : s.root r = some b := h1
        rw [hr] at h1'; cases h1'
        obtain ⟨t0, v0, hu0, hd0, hf0⟩ := hinv.roots r a hr
        rw [ht] at hu0; cases hu0
        have hfl := flagsOK_replaceAt (t' := t') hs hf0 hai (by rw [htxm]; exact hf')
        refine ⟨replaceAt t p t', v', hnewtree, hv', ?_⟩
        rw [flagsOK_isMut hfl]; exact hfl
      · have hnb : s.names[r']? = some (some b) := root_mem h1
        obtain ⟨tb, hub, hub'⟩ := hother r' b hrr hnb
        obtain ⟨t0, v0, hu0, hd0, hf0⟩ := hinv.roots r' b h1
        rw [hub] at hu0; cases hu0
        exact ⟨tb, v0, hub', hd0, hf0⟩
    · cases h1
  · apply defaults_set (defaults_ext e hinv.defaults)
    intro o2 ho2 hm2
    rw [hx1] at ho2; cases ho2
    rw [hmx] at hm2; cases hm2

end BtcVerif.Model.Heap

/-
  C09: a mutable target below a named root; simulation of field assignment.
-/
import BtcVerif.Proofs.HeapOpsObserve

namespace BtcVerif.Model.Heap
open BtcVerif BtcVerif.Spec.ValueSem

theorem cnt_sub_le (y : Addr) : ∀ {p : List Nat} {t tx : ATree}, sub t p = some tx → mutPath t p = true →
    cnt y tx ≤ cnt y t
  | [], t, tx, hs, _ => by simp [sub] at hs; subst hs; exact Nat.le_refl _
  | i :: p, .node a m sc kids, tx, hs, hp => by
    simp only [sub] at hs
    simp only [mutPath, Bool.and_eq_true] at hp
    cases hki : kids[i]? with
    | none => simp [hki] at hs
    | some k =>
      simp only [hki] at hs hp
      have ih := cnt_sub_le y hs hp.2
      have h2 := cntL_le_of_getElem (x := y) hki
      simp only [cnt, hp.1, if_true]
      omega

theorem TInfo.mut_facts {s : St} {sp : Store} {tg : Target} {x : Addr} (hinv : Inv s)
    (I : TInfo s sp tg x) (hm : I.o.isMut = true) :
    ∃ kids, I.tx = .node x true I.o.sc kids ∧ mapO (unfoldA I.g s.heap) I.o.refs = some kids ∧
      (∀ k ∈ kids, x ∉ addrs k) ∧ (∀ y, cnt y I.tx ≤ 1) ∧ flagsOKL true kids := by
  obtain ⟨o, kids, ho, hk, htx⟩ := unfoldA_succ I.hux
  rw [I.ho] at ho; cases ho
  have hmp := mutPath_of_sub hinv.immClosed I.ho hm I.hu I.hsub I.haddr
  have hle : ∀ y, cnt y I.tx ≤ 1 := by
    intro y
    have h1 := cnt_sub_le y I.hsub hmp
    have h2 := nameCnt_le_total (h := s.heap) (y := y) (root_mem I.hroot)
    have h3 : nameCnt s.heap y (some I.a) = cnt y I.t := by simp [nameCnt, cntAt, I.hu]
    have h4 := hinv.sep y
    rw [h3] at h2
    exact Nat.le_trans h1 (Nat.le_trans h2 h4)
  rw [hm] at htx
  refine ⟨kids, htx, hk, ?_, hle, ?_⟩
  · intro k hkm
    have hx := hle x
    rw [htx] at hx
    simp only [cnt, if_true] at hx
    have hz : cntL x kids = 0 := by omega
    obtain ⟨c, _, huc⟩ := mapO_mem hk hkm
    exact not_mem_of_cnt_zero hinv.immClosed I.ho hm huc (cntL_eq_zero.mp hz k hkm)
  · have := I.hfx
    rw [htx] at this
    exact this.2

theorem sim_assign {s : St} {sp : Store} (hinv : Inv s) (hrel : Rel s sp) (tg : Target) (f : Field) :
    Sim s sp (.assign tg f) := by
  simp only [Sim, step, Spec.ValueSem.step]
  cases ht : s.target tg with
  | none =>
    rw [target_none hinv hrel ht]
    exact ⟨inv_skip hinv, rel_skip hrel, rfl⟩
  | some x =>
    obtain ⟨I⟩ := target_some hinv hrel ht
    simp only [I.ho, I.hlook, I.isSeq_eq, assignAt]
    cases hseq : I.vx.isSeq with
    | true => exact ⟨inv_skip hinv, rel_skip hrel, by simp⟩
    | false =>
      simp only [Bool.false_eq_true, if_false, I.hom]
      cases hm : I.o.isMut with
      | false => exact ⟨inv_skip hinv, rel_skip hrel, by simp⟩
      | true =>
        simp only [Bool.not_true, Bool.false_eq_true, if_false]
        obtain ⟨kids, htx, hk, hnot, hle, hfl⟩ := I.mut_facts hinv hm
        have hdx := I.hdx
        rw [htx] at hdx
        obtain ⟨vs, hvs, hasm⟩ := decode_inv hdx
        obtain ⟨hnone, hsome⟩ := assemble_applySc hasm f
        cases hap : applySc f I.o.sc with
        | none =>
          simp only [hnone hap]
          exact ⟨inv_skip hinv, rel_skip hrel, trivial⟩
        | some sc' =>
          obtain ⟨w, hw, hasm', hai, hkw, hnseq⟩ := hsome sc' hap
          simp only [hw]
          have hlook := I.hlook
          simp only [lookup, I.hentry, Option.bind_eq_bind, Option.bind_some] at hlook
          obtain ⟨v', hput, _⟩ := put_some hlook hkw
          simp only [update, I.hentry, hput, Option.bind_eq_bind, Option.bind_some, pure]
          let o' : Obj := { isMut := true, sc := sc', refs := I.o.refs, cHash := I.o.cHash, cPy := I.o.cPy }
          let t' : ATree := .node x true sc' kids
          have hxl : x < s.heap.length := (List.getElem?_eq_some_iff.mp I.ho).1
          have ht' : unfoldA (I.g + 1) (s.heap.set x o') x = some t' := by
            have := unfold_new_node (o' := o') hxl (g := I.g) (tcs := kids) hk hnot
            simpa [o', t', hm] using this
          have hdt' : decode t' = some w := by
            simp only [t', decode_node, hvs, Option.bind_some]; exact hasm'
          have hdec := decode_replaceAt I.hsub I.hd hdt' hput
          have hsc : I.tx.sc = I.o.sc := I.hosc
          have hmut := inv_mutate hinv I.hroot I.hu I.hsub I.haddr I.ho hm (h1 := s.heap) (e := [])
            (by simp) (by simp) hinv.immClosed (o' := o') rfl
            (by
              have := hinv.kindOK x I.o I.ho
              simp only [o']
              rw [hai]
              cases hh : I.o.sc.alwaysImm with
              | false => rfl
              | true => rw [this hh] at hm; cases hm)
            I.hD ht' hdec
            (by show sc'.alwaysImm = I.tx.sc.alwaysImm; rw [hai, hsc])
            (by exact ⟨rfl, hfl⟩)
            (by
              intro y
              have h1 := hle y
              rw [htx] at h1 ⊢
              exact ⟨h1, fun _ => Nat.le_refl _⟩)
          obtain ⟨hinv', hnewtree, hoth⟩ := hmut
          refine ⟨hinv', ?_, trivial⟩
          have hrootflag : (replaceAt I.t tg.path t').isMut = I.e.isMut := by
            have hfl' := flagsOK_replaceAt (t' := t') I.hsub I.hf
              (by show sc'.alwaysImm = I.tx.sc.alwaysImm; rw [hai, hsc])
              (by rw [htx]; exact ⟨rfl, hfl⟩)
            rw [flagsOK_isMut hfl', I.hm]
          exact rel_mutate hrel I.hroot I.hentry hnewtree hdec hrootflag hoth

end BtcVerif.Model.Heap

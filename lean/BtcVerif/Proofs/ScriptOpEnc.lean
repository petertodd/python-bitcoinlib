/-
  C06 — operations as byte chunks: every operation `GetOp` yields is the parse of its own
  encoding `encBytes`, independently of what follows.
-/
import BtcVerif.Proofs.ScriptEquivBasic

namespace BtcVerif.Model.ScriptEval
open BtcVerif BtcVerif.Spec BtcVerif.Spec.Script BtcVerif.Model.Script

/-- width of the length field of a push opcode -/
def lenWidth (opc : Nat) : Nat := if opc < 0x4c then 0 else if opc = 0x4c then 1 else if opc = 0x4d then 2 else 4

/-- the bytes of an operation: opcode byte, length field, data -/
def encBytes (opc : Nat) (push : Bool) (d : Bytes) : Bytes :=
  if push then UInt8.ofNat opc :: (leBytes (lenWidth opc) d.length ++ d) else [UInt8.ofNat opc]

def encOp (o : RawOp) : Bytes := encBytes o.opcode o.data.isSome (o.data.getD [])

/-- well-formed (opcode, data) pairs: what `GetOp` can return -/
def WFEnc (opc : Nat) (v : Bytes) : Prop :=
  opc < 256 ∧ (opc < 0x4c → v.length = opc) ∧
  (0x4c ≤ opc → opc ≤ 0x4e → v.length < 256 ^ lenWidth opc) ∧ (0x4e < opc → v = [])

theorem u8_toNat_ofNat {n : Nat} (h : n < 256) : (UInt8.ofNat n).toNat = n := by
  rw [UInt8.toNat_ofNat']; omega

theorem getOp_cons (b : UInt8) (t : Bytes) :
    Ref.getOp (b :: t) =
      if 0x4e < b.toNat then some (b.toNat, [], t)
      else if t.length < lenWidth b.toNat then none
      else
        let n := if b.toNat < 0x4c then b.toNat else leNat (t.take (lenWidth b.toNat))
        let r := t.drop (lenWidth b.toNat)
        if r.length < n then none else some (b.toNat, r.take n, r.drop n) := by
  have : b.toNat < 0x4c ∨ 0x4e < b.toNat ∨ b.toNat = 0x4c ∨ b.toNat = 0x4d ∨ b.toNat = 0x4e := by omega
  rcases this with h | h | h | h | h
  · simp [Ref.getOp, lenWidth, h, show b.toNat ≤ 0x4e by omega, show ¬ 0x4e < b.toNat by omega]
  · simp [Ref.getOp, h, show ¬ b.toNat ≤ 0x4e by omega]
  · by_cases hl : t.length < 1 <;> simp [Ref.getOp, lenWidth, h, hl]
  · by_cases hl : t.length < 2 <;> simp [Ref.getOp, lenWidth, h, hl]
  · by_cases hl : t.length < 4 <;> simp [Ref.getOp, lenWidth, h, hl]

theorem getOp_enc {s : Bytes} {opc : Nat} {v rest : Bytes} (h : Ref.getOp s = some (opc, v, rest)) :
    s = encBytes opc (decide (opc ≤ 0x4e)) v ++ rest ∧ WFEnc opc v := by
  cases s with
  | nil => simp [Ref.getOp] at h
  | cons b t =>
    have hb := b.toNat_lt
    rw [getOp_cons] at h
    by_cases hgt : 0x4e < b.toNat
    · simp only [if_pos hgt, Option.some.injEq, Prod.mk.injEq] at h
      obtain ⟨rfl, rfl, rfl⟩ := h
      exact ⟨by simp [encBytes, Nat.not_le.mpr hgt], hb, by omega, by omega, fun _ => rfl⟩
    · by_cases hw : t.length < lenWidth b.toNat
      · rw [if_neg hgt, if_pos hw] at h; cases h
      · simp only [if_neg hgt, if_neg hw] at h
        generalize hN : (if b.toNat < 0x4c then b.toNat else leNat (t.take (lenWidth b.toNat))) = n at h
        by_cases hn : (t.drop (lenWidth b.toNat)).length < n
        · rw [if_pos hn] at h; cases h
        · simp only [if_neg hn, Option.some.injEq, Prod.mk.injEq] at h
          obtain ⟨rfl, rfl, rfl⟩ := h
          have hv : ((t.drop (lenWidth b.toNat)).take n).length = n := by rw [List.length_take]; omega
          have htk : (t.take (lenWidth b.toNat)).length = lenWidth b.toNat := by rw [List.length_take]; omega
          -- the length field read is the length field written
          have hf : leBytes (lenWidth b.toNat) n = t.take (lenWidth b.toNat) := by
            by_cases h1 : b.toNat < 0x4c
            · simp [lenWidth, h1, leBytes]
            · rw [← hN, if_neg h1]
              have := leBytes_leNat (t.take (lenWidth b.toNat))
              rwa [htk] at this
          refine ⟨?_, hb, ?_, ?_, by omega⟩
          · simp only [encBytes, Nat.le_of_not_lt hgt, decide_true, if_true, hv, hf, UInt8.ofNat_toNat,
              List.cons_append, List.append_assoc, List.take_append_drop]
          · intro h1; rw [hv, ← hN, if_pos h1]
          · intro h1 _
            rw [if_neg (show ¬ b.toNat < 0x4c by omega)] at hN
            have := leNat_lt (t.take (lenWidth b.toNat))
            rwa [htk, hN, ← hv] at this

theorem getOp_encBytes (opc : Nat) (v X : Bytes) (hw : WFEnc opc v) :
    Ref.getOp (encBytes opc (decide (opc ≤ 0x4e)) v ++ X) = some (opc, v, X) := by
  obtain ⟨h256, hsmall, hpush, hnon⟩ := hw
  by_cases hle : opc ≤ 0x4e
  · have hn : (if opc < 0x4c then opc else leNat (leBytes (lenWidth opc) v.length)) = v.length := by
      split
      · exact (hsmall ‹_›).symm
      · rw [leNat_leBytes]; exact Nat.mod_eq_of_lt (hpush (by omega) hle)
    simp [encBytes, hle, getOp_cons, u8_toNat_ofNat h256, Nat.not_lt.mpr hle, hn]
  · cases hnon (by omega)
    simp [encBytes, hle, getOp_cons, u8_toNat_ofNat h256, Nat.lt_of_not_le hle]

end BtcVerif.Model.ScriptEval

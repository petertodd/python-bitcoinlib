/-
  C06 — simulation of the opcode dispatcher (`execOp_sim`, with the reference's `default:` arm as
  `ref_execOp_default`), the relation `CodeRel` between the two `pbegincodehash`, and the equations
  of the reference loop (`evalLoop_nil / _fail / _op`).
-/
import BtcVerif.Proofs.ScriptEquivNum
import BtcVerif.Proofs.ScriptEquivParse

namespace BtcVerif.Model.ScriptEval
open BtcVerif BtcVerif.Spec BtcVerif.Spec.Script BtcVerif.Model.Script

/-- the signature-checking opcodes: the simulation of their arms needs hypotheses on the context
    (`SigHashOK`, `CodesepInsensitive`), that of every other arm none -/
def uncoveredOps : List Nat := [0xac, 0xad, 0xae, 0xaf]

theorem sim_ite {code : Bytes} {st : St} {p : Prop} [Decidable p] {a b : M St} {r : Option Ref.State}
    (ha : p → Sim code st a r) (hb : ¬p → Sim code st b r) : Sim code st (if p then a else b) r := by
  split
  · exact ha ‹_›
  · exact hb ‹_›


/-- the opcodes for which the reference `switch` has no `case` -/
def NoCase (sop : Nat) : Prop :=
  sop ≤ 0x4e ∨ sop = 0x50 ∨ sop = 0x62 ∨ sop = 0x65 ∨ sop = 0x66 ∨ (0x7e ≤ sop ∧ sop ≤ 0x81) ∨
  (0x83 ≤ sop ∧ sop ≤ 0x86) ∨ sop = 0x89 ∨ sop = 0x8a ∨ sop = 0x8d ∨ sop = 0x8e ∨ (0x95 ≤ sop ∧ sop ≤ 0x99) ∨
  0xba ≤ sop

instance (sop : Nat) : Decidable (NoCase sop) := by unfold NoCase; infer_instance

theorem ref_execOp_default (env : Env) (fl : Flags) (pc : Bytes) (fExec : Bool) (sop : Nat) (rs : Ref.State)
    (h : NoCase sop) : Ref.execOp env fl sop pc fExec rs = none := by
  unfold Ref.execOp
  split <;> first | rfl | exact absurd h (by decide)

theorem execOp_sim (c : Ctx) (fl : Flags) (script : Bytes) (op : RawOp) (pc code : Bytes) (fExec : Bool)
    (st : St) (hcov : op.opcode ∉ uncoveredOps) (hsep : op.opcode ≠ 0xab) :
    Sim code st (execOp c fl script op fExec st)
      (Ref.execOp c.env fl op.opcode pc fExec (toRef st code)) := by
  simp only [uncoveredOps, List.mem_cons, List.mem_nil_iff, or_false, not_or] at hcov
  unfold execOp
  dsimp only
  refine sim_ite (fun hx => arm_smallint c.env fl pc code fExec st _ hx) (fun n1 => ?_)
  refine sim_ite (fun hx => arm_binary c.env fl pc code fExec st _ hx) (fun n2 => ?_)
  refine sim_ite (fun hx => arm_unary c.env fl pc code fExec st _ hx) (fun n3 => ?_)
  refine sim_ite (fun hx => by rw [hx]; exact arm_2drop c.env fl pc code fExec st) (fun n4 => ?_)
  refine sim_ite (fun hx => by rw [hx]; exact arm_2dup c.env fl pc code fExec st) (fun n5 => ?_)
  refine sim_ite (fun hx => by rw [hx]; exact arm_2over c.env fl pc code fExec st) (fun n6 => ?_)
  refine sim_ite (fun hx => by rw [hx]; exact arm_2rot c.env fl pc code fExec st) (fun n7 => ?_)
  refine sim_ite (fun hx => by rw [hx]; exact arm_2swap c.env fl pc code fExec st) (fun n8 => ?_)
  refine sim_ite (fun hx => by rw [hx]; exact arm_3dup c.env fl pc code fExec st) (fun n9 => ?_)
  refine sim_ite (fun hx => by omega) (fun n10 => ?_)
  refine sim_ite (fun hx => by omega) (fun n11 => ?_)
  refine sim_ite (fun hx => absurd hx hsep) (fun n12 => ?_)
  refine sim_ite (fun hx => by rw [hx]; exact arm_depth c.env fl pc code fExec st) (fun n13 => ?_)
  refine sim_ite (fun hx => by rw [hx]; exact arm_drop c.env fl pc code fExec st) (fun n14 => ?_)
  refine sim_ite (fun hx => by rw [hx]; exact arm_dup c.env fl pc code fExec st) (fun n15 => ?_)
  refine sim_ite (fun hx => by rw [hx]; exact arm_else c.env fl pc code fExec st) (fun n16 => ?_)
  refine sim_ite (fun hx => by rw [hx]; exact arm_endif c.env fl pc code fExec st) (fun n17 => ?_)
  refine sim_ite (fun hx => by rw [hx]; exact arm_equal c.env fl pc code fExec st) (fun n18 => ?_)
  refine sim_ite (fun hx => by rw [hx]; exact arm_equalverify c.env fl pc code fExec st) (fun n19 => ?_)
  refine sim_ite (fun hx => by rw [hx]; exact arm_fromalt c.env fl pc code fExec st) (fun n20 => ?_)
  refine sim_ite (fun hx => by
    rw [hx]; exact arm_hash c.env fl pc code fExec st _ _ rfl (by omega)) (fun n21 => ?_)
  refine sim_ite (fun hx => by
    rw [hx]; exact arm_hash c.env fl pc code fExec st _ _ rfl (by omega)) (fun n22 => ?_)
  refine sim_ite (fun hx => arm_if c.env fl pc code fExec st _ hx) (fun n23 => ?_)
  refine sim_ite (fun hx => by rw [hx]; exact arm_ifdup c.env fl pc code fExec st) (fun n24 => ?_)
  refine sim_ite (fun hx => by rw [hx]; exact arm_nip c.env fl pc code fExec st) (fun n25 => ?_)
  refine sim_ite (fun hx => by rw [hx]; simp [Sim, Ref.execOp, toRef]) (fun n26 => ?_)
  refine sim_ite (fun hx => arm_nop c.env fl pc code fExec st _ hx.1 hx.2) (fun n27 => ?_)
  refine sim_ite (fun hx => by rw [hx]; exact arm_over c.env fl pc code fExec st) (fun n28 => ?_)
  refine sim_ite (fun hx => arm_pickroll c.env fl pc code fExec st _ hx) (fun n29 => ?_)
  refine sim_ite (fun hx => by rw [hx]; simp [Sim, Ref.execOp]) (fun n30 => ?_)
  refine sim_ite (fun hx => by
    rw [hx]; exact arm_hash c.env fl pc code fExec st _ _ rfl (by omega)) (fun n31 => ?_)
  refine sim_ite (fun hx => by rw [hx]; exact arm_rot c.env fl pc code fExec st) (fun n32 => ?_)
  refine sim_ite (fun hx => by rw [hx]; exact arm_size c.env fl pc code fExec st) (fun n33 => ?_)
  refine sim_ite (fun hx => by
    rw [hx]; exact arm_hash c.env fl pc code fExec st _ _ rfl (by omega)) (fun n34 => ?_)
  refine sim_ite (fun hx => by
    rw [hx]; exact arm_hash c.env fl pc code fExec st _ _ rfl (by omega)) (fun n35 => ?_)
  refine sim_ite (fun hx => by rw [hx]; exact arm_swap c.env fl pc code fExec st) (fun n36 => ?_)
  refine sim_ite (fun hx => by rw [hx]; exact arm_toalt c.env fl pc code fExec st) (fun n37 => ?_)
  refine sim_ite (fun hx => by rw [hx]; exact arm_tuck c.env fl pc code fExec st) (fun n38 => ?_)
  refine sim_ite (fun hx => by rw [hx]; exact arm_verify c.env fl pc code fExec st) (fun n39 => ?_)
  refine sim_ite (fun hx => by rw [hx]; exact arm_within c.env fl pc code fExec st) (fun n40 => ?_)
  -- 'unsupported opcode': the reference reaches `default:`
  simp only [binaryNumOps, unaryNumOps, List.mem_cons, List.mem_nil_iff, or_false, not_or] at n2 n3
  exact ref_execOp_default c.env fl pc fExec op.opcode _ (by unfold NoCase; omega)

/-- relation between the model's `pbegincodehash` (index of the last executed OP_CODESEPARATOR,
    separator included) and the reference's (the bytes after it) -/
def CodeRel (script : Bytes) (pb : Nat) (code : Bytes) : Prop :=
  (pb = 0 ∧ code = script) ∨ script.drop pb = 0xab :: code

theorem evalLoop_nil (env : Env) (fl : Flags) (st : Ref.State) : Ref.evalLoop env fl [] st = some st := by
  rw [Ref.evalLoop]; simp

theorem evalLoop_fail (env : Env) (fl : Flags) (pc : Bytes) (st : Ref.State) (hne : pc ≠ [])
    (h : Ref.getOp pc = none) : Ref.evalLoop env fl pc st = none := by
  rw [Ref.evalLoop]; simp only [hne, if_false]; split <;> simp_all

theorem evalLoop_op (env : Env) (fl : Flags) (pc : Bytes) (st : Ref.State) (hne : pc ≠ [])
    {opcode : Nat} {v pc' : Bytes} (h : Ref.getOp pc = some (opcode, v, pc')) :
    Ref.evalLoop env fl pc st =
      match Ref.loopBody env fl opcode v pc' st with
      | none => none
      | some st' => Ref.evalLoop env fl pc' st' := by
  rw [Ref.evalLoop]; simp only [hne, if_false]
  split
  · simp_all
  · rename_i h'
    rw [h] at h'
    simp only [Option.some.injEq, Prod.mk.injEq] at h'
    obtain ⟨rfl, rfl, rfl⟩ := h'
    rfl

end BtcVerif.Model.ScriptEval

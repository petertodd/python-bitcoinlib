/-
  C06 — `is_push_only` and `is_p2sh` against the reference predicates (`isPushOnly_eq`, `isP2sh_eq`),
  and `VerifyScript` from the agreement of the evaluations it chains (`verifyScript_simG`).
-/
import BtcVerif.Proofs.ScriptEquivLoop

namespace BtcVerif.Model.ScriptEval
open BtcVerif BtcVerif.Spec BtcVerif.Spec.Script BtcVerif.Model.Script

theorem isP2sh_eq (s : Bytes) : isP2sh s = Ref.isPayToScriptHash s := rfl

theorem ref_isPushOnly_nil : Ref.isPushOnly [] = true := by rw [Ref.isPushOnly]; simp

theorem ref_isPushOnly_fail (s : Bytes) (hne : s ≠ []) (h : Ref.getOp s = none) : Ref.isPushOnly s = false := by
  rw [Ref.isPushOnly]; simp only [hne, if_false]; split <;> simp_all

theorem ref_isPushOnly_op (s : Bytes) (hne : s ≠ []) {opc : Nat} {v rest : Bytes}
    (h : Ref.getOp s = some (opc, v, rest)) :
    Ref.isPushOnly s = if opc > 0x60 then false else Ref.isPushOnly rest := by
  rw [Ref.isPushOnly]; simp only [hne, if_false]
  split
  · simp_all
  · rename_i h'
    rw [h] at h'
    simp only [Option.some.injEq, Prod.mk.injEq] at h'
    obtain ⟨rfl, rfl, rfl⟩ := h'
    rfl

theorem isPushOnly_from (idx : Nat) (s : Bytes) :
    (if (rawIterFrom idx s).1.any (fun o => o.opcode > 0x60) then false else (rawIterFrom idx s).2.isNone) =
      Ref.isPushOnly s := by
  induction idx, s using rawIter_ind with
  | nil idx => rw [rawIterFrom_nil, ref_isPushOnly_nil]; rfl
  | err idx s e hne hget hit => rw [hit, ref_isPushOnly_fail s hne hget]; rfl
  | op idx o pre rest hne hf hit ih =>
    rw [hit, ref_isPushOnly_op _ (by simp [hne]) hf.1]
    simp only [List.any_cons]
    by_cases h60 : o.opcode > 0x60
    · simp [h60]
    · simp only [h60, decide_false, Bool.false_or, if_false]
      exact ih

theorem isPushOnly_eq (s : Bytes) : isPushOnly s = Ref.isPushOnly s := by
  unfold isPushOnly rawIter
  exact isPushOnly_from 0 s

/-- the model returns exactly when the reference accepts -/
def VerSim (m : M Unit) (r : Bool) : Prop :=
  match m with
  | .ok _ => r = true
  | .error _ => r = false

/-- coverage hypothesis of the partial theorems: the script contains none of the signature opcodes -/
def ScriptCovered (script : Bytes) : Prop := ∀ o ∈ (rawIter script).1, o.opcode ∉ uncoveredOps

theorem checkTopTrue_sim (stack : List Bytes) :
    match checkTopTrue stack with
    | .ok _ => ∃ top rest, stack = top :: rest ∧ Ref.castToBool top = true
    | .error _ => stack = [] ∨ ∃ top rest, stack = top :: rest ∧ Ref.castToBool top = false := by
  unfold checkTopTrue
  cases stack with
  | nil => simp
  | cons top rest =>
    simp only [List.length_cons, Nat.add_one_ne_zero, if_false, getTop?_1, pyIdx, bind, Except.bind,
      castToBool_eq]
    cases hcb : Ref.castToBool top <;> simp [hcb]

theorem verifyScript_simG (c : Ctx) (fl : Flags) (sig spk : Bytes) (hf : fl.admissible = true)
    (h1 : EvalSim (evalScript c fl [] sig) (Ref.evalScript c.env fl [] sig))
    (h2 : ∀ s1, evalScript c fl [] sig = .ok s1 →
      EvalSim (evalScript c fl s1 spk) (Ref.evalScript c.env fl s1 spk))
    (h3 : ∀ x r, evalScript c fl [] sig = .ok (x :: r) →
      EvalSim (evalScript c fl r x) (Ref.evalScript c.env fl r x)) :
    VerSim (verifyScript c fl sig spk) (Ref.verifyScript c.env fl sig spk) := by
  unfold verifyScript Ref.verifyScript
  have hadm : ¬ (¬ fl.admissible = true) := by simp [hf]
  rw [if_neg hadm]
  cases hm1 : evalScript c fl [] sig with
  | error e => rw [hm1] at h1; simp [show _ = none from h1, VerSim, bind, Except.bind]
  | ok s1 =>
    rw [hm1] at h1
    replace h1 : Ref.evalScript c.env fl [] sig = some s1 := h1
    simp only [h1, bind, Except.bind]
    have h2 := h2 s1 hm1
    cases hm2 : evalScript c fl s1 spk with
    | error e => rw [hm2] at h2; simp [show _ = none from h2, VerSim]
    | ok s2 =>
      rw [hm2] at h2
      replace h2 : Ref.evalScript c.env fl s1 spk = some s2 := h2
      simp only [h2]
      have ht := checkTopTrue_sim s2
      cases hc : checkTopTrue s2 with
      | error e =>
        rw [hc] at ht
        rcases ht with rfl | ⟨top, rest, rfl, hcb⟩
        · simp [VerSim]
        · simp [VerSim, hcb]
      | ok u =>
        rw [hc] at ht
        obtain ⟨top, rest, rfl, hcb⟩ := ht
        simp only [hcb, not_true_eq_false, if_false]
        by_cases hp : fl.p2sh = true ∧ isP2sh spk = true
        · have hp' : fl.p2sh = true ∧ Ref.isPayToScriptHash spk = true := hp
          rw [if_pos hp, if_pos hp', if_pos hp.1]
          unfold verifyP2sh
          rw [isPushOnly_eq]
          by_cases hpo : Ref.isPushOnly sig = true
          · simp only [hpo, Bool.not_true, Bool.false_eq_true, if_false, not_true_eq_false]
            cases s1 with
            | nil => simp [VerSim]
            | cons x r =>
              simp only [List.length_cons, Nat.add_one_ne_zero, if_false, pop?_cons, pyIdx, bind, Except.bind]
              have h3 := h3 x r hm1
              cases hm3 : evalScript c fl r x with
              | error e => rw [hm3] at h3; simp [show _ = none from h3, VerSim]
              | ok s3 =>
                rw [hm3] at h3
                replace h3 : Ref.evalScript c.env fl r x = some s3 := h3
                simp only [h3]
                have ht3 := checkTopTrue_sim s3
                cases hc3 : checkTopTrue s3 with
                | error e =>
                  rw [hc3] at ht3
                  rcases ht3 with rfl | ⟨top3, rest3, rfl, hcb3⟩
                  · simp [VerSim]
                  · simp [VerSim, hcb3]
                | ok u3 =>
                  rw [hc3] at ht3
                  obtain ⟨top3, rest3, rfl, hcb3⟩ := ht3
                  simp only [hcb3, if_true]
                  unfold verifyCleanStack
                  by_cases hcs : fl.cleanStack = true
                  · simp only [hcs, if_true, hp.1, Bool.not_true, Bool.false_eq_true, if_false]
                    cases rest3 <;> simp [VerSim]
                  · simp [hcs, VerSim]
          · simp [hpo, VerSim]
        · have hp' : ¬ (fl.p2sh = true ∧ Ref.isPayToScriptHash spk = true) := hp
          rw [if_neg hp, if_neg hp']
          simp only [bind, Except.bind]
          unfold verifyCleanStack
          by_cases hcs : fl.cleanStack = true
          · have hp2 : fl.p2sh = true := by
              simp only [Flags.admissible, hcs, Bool.not_true, Bool.false_or] at hf; exact hf
            simp only [hcs, if_true, hp2, Bool.not_true, Bool.false_eq_true, if_false]
            cases rest <;> simp [VerSim]
          · simp [hcs, VerSim]

theorem verifyScript_sim (c : Ctx) (fl : Flags) (sig spk : Bytes) (hf : fl.admissible = true)
    (hsig : ScriptCovered sig) (hspk : ScriptCovered spk)
    (hredeem : ∀ s1 x r, evalScript c fl [] sig = .ok s1 → s1 = x :: r → ScriptCovered x) :
    VerSim (verifyScript c fl sig spk) (Ref.verifyScript c.env fl sig spk) :=
  verifyScript_simG c fl sig spk hf (evalScript_sim c fl [] sig hsig) (fun s1 _ => evalScript_sim c fl s1 spk hspk)
    (fun x r h => evalScript_sim c fl r x (hredeem _ x r h rfl))

theorem VerSim.iff {m : M Unit} {r : Bool} (h : VerSim m r) : m = .ok () ↔ r = true := by
  cases m with
  | ok u => simp [show r = true from h]
  | error e => simp [show r = false from h]

end BtcVerif.Model.ScriptEval

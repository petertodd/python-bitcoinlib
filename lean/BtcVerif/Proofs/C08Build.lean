/-
  Helper lemmas for C08's builder: `__coerce_instance` / `CScript(iterable)` against the
  reference builder, and reading a built script back.
-/
import BtcVerif.Proofs.C08Pred

namespace BtcVerif
open BtcVerif.Spec.Script BtcVerif.Model.Script

/-- the push opcode `CScript << vector` chooses for a payload of `n` bytes -/
def pushOp (n : Nat) : Nat := if n < 0x4c then n else if n ≤ 0xff then 0x4c else if n ≤ 0xffff then 0x4d else 0x4e

theorem pushOp_le (n : Nat) : pushOp n ≤ 0x4e := by unfold pushOp; split <;> (try split) <;> (try split) <;> omega

theorem pushOp_eq_zero_iff (n : Nat) : pushOp n = 0 ↔ n = 0 := by
  unfold pushOp; split <;> (try split) <;> (try split) <;> omega

theorem lenBytes_pushOp (n : Nat) :
    lenBytes (pushOp n) = if n < 0x4c then 0 else if n ≤ 0xff then 1 else if n ≤ 0xffff then 2 else 4 := by
  unfold pushOp lenBytes
  by_cases h1 : n < 0x4c
  · simp [h1]
  · by_cases h2 : n ≤ 0xff
    · simp [h1, h2]
    · by_cases h3 : n ≤ 0xffff <;> simp [h1, h2, h3]

theorem lenBytes_pushOp_le {o : Nat} {d : Bytes} (hv : ValidOp o d) (ho : o ≤ 0x4e) :
    lenBytes (pushOp d.length) ≤ lenBytes o := by
  have h := hv.2
  rw [if_neg (by omega), lenBytes] at h
  rw [lenBytes_pushOp, lenBytes]
  by_cases c1 : o < 0x4c
  · simp only [c1, if_true] at h ⊢
    rw [if_pos (by omega)]
  · by_cases c2 : o = 0x4c
    · simp only [c2, if_true, Nat.lt_irrefl, if_false, Nat.pow_one] at h ⊢
      split <;> (try split) <;> (try split) <;> omega
    · by_cases c3 : o = 0x4d
      · simp only [c3, if_true, if_false, Nat.reduceLT, Nat.reduceEqDiff, Nat.reducePow] at h ⊢
        split <;> (try split) <;> (try split) <;> omega
      · simp only [c1, c2, c3, if_false] at h ⊢
        split <;> (try split) <;> (try split) <;> omega

theorem validOp_pushOp {d : Bytes} (h : d.length < 2 ^ 32) : ValidOp (pushOp d.length) d := by
  refine ⟨Nat.lt_of_le_of_lt (pushOp_le _) (by omega), ?_⟩
  rw [if_neg (Nat.not_lt.mpr (pushOp_le _)), lenBytes_pushOp]
  unfold pushOp
  by_cases h1 : d.length < 0x4c
  · simp only [h1, if_true]
  · by_cases h2 : d.length ≤ 0xff
    · simp only [h1, h2, if_true, if_false, Nat.lt_irrefl, Nat.pow_one]; omega
    · by_cases h3 : d.length ≤ 0xffff
      · simp only [h1, h2, h3, if_true, if_false, Nat.reduceLT, Nat.reducePow]; omega
      · simp only [h1, h2, h3, if_false, Nat.reduceLT, Nat.reducePow]; omega

theorem pushEncode_eq (d : Bytes) :
    pushEncode d = if d.length < 2 ^ 32 then some (opEnc (pushOp d.length) d) else none := by
  unfold pushEncode pushOp opEnc lenBytes
  by_cases h1 : d.length < 0x4c
  · simp [h1, leBytes, show d.length < 4294967296 by omega, show ¬ d.length > 78 by omega]
  · by_cases h2 : d.length ≤ 0xff
    · simp [h1, h2, leBytes, show d.length < 4294967296 by omega, Nat.mod_eq_of_lt (show d.length < 256 by omega)]
    · by_cases h3 : d.length ≤ 0xffff
      · simp [h1, h2, h3, show d.length < 4294967296 by omega]
      · by_cases h4 : d.length ≤ 0xffffffff
        · simp [h1, h2, h3, h4, show d.length < 4294967296 by omega]
        · simp [h1, h2, h3, h4, show ¬ d.length < 4294967296 by omega]

theorem opEnc_head (o : Nat) (d : Bytes) : (opEnc o d).head? = some (UInt8.ofNat o) := by
  unfold opEnc; split <;> rfl

theorem pushOp_spec (n : Nat) :
    (n < 0x4c → pushOp n = n) ∧ (0x4c ≤ n → n ≤ 0xff → pushOp n = 0x4c) ∧
      (0xff < n → n ≤ 0xffff → pushOp n = 0x4d) ∧ (0xffff < n → pushOp n = 0x4e) := by
  unfold pushOp
  refine ⟨fun h => if_pos h, fun h1 h2 => ?_, fun h1 h2 => ?_, fun h => ?_⟩
  · rw [if_neg (by omega), if_pos h2]
  · rw [if_neg (by omega), if_neg (by omega), if_pos h2]
  · rw [if_neg (by omega), if_neg (by omega), if_neg (by omega)]

theorem validOp_push_bounds {o : Nat} {d : Bytes} (hv : ValidOp o d) (ho : o ≤ 0x4e) :
    (o < 0x4c → d.length = o) ∧ (o = 0x4c → d.length < 256) ∧ (o = 0x4d → d.length < 65536) ∧
      (o = 0x4e → d.length < 2 ^ 32) := by
  have h := hv.2
  rw [if_neg (by omega)] at h
  refine ⟨fun c => by rwa [if_pos c] at h, ?_, ?_, ?_⟩ <;> rintro rfl <;> exact h

theorem validOp_length_lt {o : Nat} {d : Bytes} (hv : ValidOp o d) : d.length < 2 ^ 32 := by
  by_cases ho : o ≤ 0x4e
  · have := validOp_push_bounds hv ho; omega
  · rw [validOp_nonpush hv (by omega)]; exact Nat.pos_of_ne_zero (by decide)

theorem pushEncode_eq_opEnc_iff {o : Nat} {d : Bytes} (hv : ValidOp o d) :
    pushEncode d = some (opEnc o d) ↔ o = pushOp d.length := by
  rw [pushEncode_eq, if_pos (validOp_length_lt hv), Option.some.injEq]
  constructor
  · intro h
    have := congrArg List.head? h
    rw [opEnc_head, opEnc_head, Option.some.injEq] at this
    have := congrArg UInt8.toNat this
    rwa [u8_ofNat_toNat _ (Nat.lt_of_le_of_lt (pushOp_le _) (by omega)), u8_ofNat_toNat _ hv.1, eq_comm] at this
  · rintro rfl; rfl

theorem pushEncode_none_iff (d : Bytes) : pushEncode d = none ↔ d.length ≥ 2 ^ 32 := by
  rw [pushEncode_eq]; split <;> simp <;> omega

theorem encodeOpPushdata_eq (d : Bytes) :
    encodeOpPushdata d = match pushEncode d with
      | some b => .ok b
      | none => .error .valueerr := by
  unfold encodeOpPushdata pushEncode
  by_cases h1 : d.length < 0x4c
  · simp [h1]
  · by_cases h2 : d.length ≤ 0xff
    · simp [h1, h2]
    · by_cases h3 : d.length ≤ 0xffff
      · simp [h1, h2, h3]
      · by_cases h4 : d.length ≤ 0xffffffff <;> simp [h1, h2, h3, h4]

theorem tokenBytes_int_isSome {z : Int} {n : Nat} (hz : z.natAbs < 128 * 256 ^ n) (hn : n + 1 < 2 ^ 32) :
    ∃ a, tokenBytes (.int z) = some a := by
  have hl : (numEncode z).length < 2 ^ 32 := by
    rw [numEncode_length]; exact Nat.lt_of_le_of_lt (numLen_le_of_lt hz) hn
  simp only [tokenBytes]
  split; · exact ⟨_, rfl⟩
  split; · exact ⟨_, rfl⟩
  split; · exact ⟨_, rfl⟩
  rcases hp : pushEncode (numEncode z) with _ | e
  · exact absurd ((pushEncode_none_iff _).mp hp) (Nat.not_le.mpr hl)
  · exact ⟨e, rfl⟩

/-- the error `__coerce_instance` raises for a token the reference builder cannot encode -/
def coerceErr : Token → Exc
  | .int z => if (numEncode z).length < 2 ^ 32 then .valueerr else structError
  | _ => .valueerr

theorem coerceInstance_eq (t : Token) :
    coerceInstance t =
      if t = .other then .ok none
      else match tokenBytes t with
        | some b => .ok (some b)
        | none => .error (coerceErr t) := by
  rcases t with n | z | d | b | u | _
  · by_cases h : n < 256 <;> simp [coerceInstance, tokenBytes, coerceErr, h]
  · unfold coerceInstance tokenBytes
    simp only [reduceCtorEq, if_false]
    by_cases h0 : z = 0
    · subst h0; simp [encodeOpN]
    · by_cases h1 : 1 ≤ z ∧ z ≤ 16
      · have h1' : 0 ≤ z ∧ z ≤ 16 := by omega
        simp only [h0, h1, h1', and_self, if_true, if_false, encodeOpN, not_true_eq_false]
        congr 4; omega
      · have h1' : ¬ (0 ≤ z ∧ z ≤ 16) := by omega
        simp only [h0, h1, h1', if_false]
        by_cases h2 : z = -1
        · simp [h2]
        · simp only [h2, if_false, bn2vch_eq]
          by_cases h3 : (numEncode z).length < 2 ^ 32
          · simp only [h3, if_true, encodeOpPushdata_eq, coerceErr]
            rcases pushEncode (numEncode z) with _ | e <;> rfl
          · have : pushEncode (numEncode z) = none := (pushEncode_none_iff _).mpr (by omega)
            simp only [h3, if_false, this, coerceErr]
  · simp only [coerceInstance, tokenBytes, encodeOpPushdata_eq, coerceErr, reduceCtorEq, if_false]
    rcases pushEncode d with _ | e <;> rfl
  · rcases b <;> simp [coerceInstance, tokenBytes, encodeOpN]
  · simp [coerceInstance, tokenBytes]
  · simp [coerceInstance]

theorem coerceAll_spec (ts : List Token) :
    (∀ l, coerceAll ts = .ok l → (joinBytes l).toOption = Spec.Script.build ts) ∧
    (∀ e, coerceAll ts = .error e → Spec.Script.build ts = none) := by
  induction ts with
  | nil =>
    constructor
    · intro l h; simp only [coerceAll, Except.ok.injEq] at h; subst h; rfl
    · intro e h; simp [coerceAll] at h
  | cons t ts ih =>
    obtain ⟨ih1, ih2⟩ := ih
    simp only [coerceAll, coerceInstance_eq, Spec.Script.build]
    by_cases ho : t = .other
    · subst ho
      simp only [if_true, tokenBytes]
      rcases hr : coerceAll ts with e | lr
      · exact ⟨fun l h => by simp at h, fun e' _ => trivial⟩
      · refine ⟨fun l h => ?_, fun e' h => by simp at h⟩
        simp only [Except.ok.injEq] at h; subst h
        simp [joinBytes, Except.toOption]
    · simp only [ho, if_false]
      rcases ht : tokenBytes t with _ | a
      · exact ⟨fun l h => by simp at h, fun e' _ => rfl⟩
      · simp only
        rcases hr : coerceAll ts with e | lr
        · have := ih2 e hr
          exact ⟨fun l h => by simp at h, fun e' _ => by rw [this]⟩
        · have := ih1 lr hr
          refine ⟨fun l h => ?_, fun e' h => by simp at h⟩
          simp only [Except.ok.injEq] at h; subst h
          simp only [joinBytes]
          rcases hj : joinBytes lr with e | x
          · rw [hj] at this; simp [Except.toOption] at this ⊢; rw [← this]
          · rw [hj] at this; simp [Except.toOption] at this ⊢; rw [← this]

theorem build_toOption (ts : List Token) : (Model.Script.build ts).toOption = Spec.Script.build ts := by
  obtain ⟨h1, h2⟩ := coerceAll_spec ts
  unfold Model.Script.build
  rcases hc : coerceAll ts with e | l
  · simp [Except.toOption, h2 e hc]
  · exact h1 l hc

theorem build_ok_iff (ts : List Token) (b : Bytes) :
    Model.Script.build ts = .ok b ↔ Spec.Script.build ts = some b := by
  rw [← build_toOption]
  rcases Model.Script.build ts with e | r <;> simp [Except.toOption]

theorem specBuild_append (a b : List Token) :
    Spec.Script.build (a ++ b) =
      match Spec.Script.build a, Spec.Script.build b with
      | some x, some y => some (x ++ y)
      | _, _ => none := by
  induction a with
  | nil => rcases h : Spec.Script.build b <;> simp [Spec.Script.build, h]
  | cons t a ih =>
    simp only [List.cons_append, Spec.Script.build, ih]
    rcases tokenBytes t with _ | x <;> rcases Spec.Script.build a with _ | y <;>
      rcases Spec.Script.build b with _ | z <;> simp

theorem getOp_pushEncode {d e : Bytes} (h : pushEncode d = some e) (rest : Bytes) :
    ∃ o, getOp (e ++ rest) = some (o, d, rest) ∧ o ≤ 0x4e ∧ (o = 0 ↔ d = []) := by
  rw [pushEncode_eq] at h
  split at h
  · rename_i hl
    obtain rfl := Option.some.inj h
    exact ⟨_, getOp_opEnc (validOp_pushOp hl) rest, pushOp_le _,
      (pushOp_eq_zero_iff _).trans List.length_eq_zero_iff⟩
  · cases h

theorem specBuild_singleton (t : Token) : Spec.Script.build [t] = tokenBytes t := by
  simp only [Spec.Script.build]
  rcases tokenBytes t with _ | a
  · rfl
  · simp

theorem rawIterFrom_of_getOp {s : Bytes} {o : Nat} {d rest : Bytes} (hg : getOp s = some (o, d, rest))
    (idx : Nat) :
    rawIterFrom idx s =
      (⟨o, if o > 0x4e then none else some d, idx⟩ :: (rawIterFrom (idx + (s.length - rest.length)) rest).1,
        (rawIterFrom (idx + (s.length - rest.length)) rest).2) := by
  rcases s with _ | ⟨b, t⟩
  · simp [getOp] at hg
  · rw [rawIterFrom_cons, hg]

theorem numEncode_ne_nil {z : Int} (h : z ≠ 0) : numEncode z ≠ [] := by
  intro hc
  have := numEncode_length z
  rw [hc] at this
  have h2 : numLen z.natAbs = 0 := by simpa using this.symm
  rw [numLen_eq_zero_iff] at h2; omega

theorem readback_token (t : Token) (a : Bytes) (h : tokenBytes t = some a) (hd : Token.inDomain t)
    (idx : Nat) (rest : Bytes) :
    ∃ idx', (rawIterFrom idx (a ++ rest)).1.map cookTok =
        canonTok t :: (rawIterFrom idx' rest).1.map cookTok ∧
      (rawIterFrom idx (a ++ rest)).2 = (rawIterFrom idx' rest).2 := by
  suffices hs : ∃ o d, getOp (a ++ rest) = some (o, d, rest) ∧
      cookTok ⟨o, if o > 0x4e then none else some d, idx⟩ = canonTok t by
    obtain ⟨o, d, hg, hc⟩ := hs
    refine ⟨idx + ((a ++ rest).length - rest.length), ?_, ?_⟩
    · rw [rawIterFrom_of_getOp hg]; simp only [List.map_cons, hc]
    · rw [rawIterFrom_of_getOp hg]
  rcases t with n | z | d | b | u | _
  · -- opcode
    simp only [Token.inDomain] at hd
    simp only [tokenBytes] at h
    by_cases hn : n < 256
    · simp only [hn, if_true, Option.some.injEq] at h
      subst h
      refine ⟨n, [], ?_, ?_⟩
      · simp [getOp, u8_ofNat_toNat _ hn, show 78 < n by omega]
      · simp only [cookTok, canonTok, show n > 0x4e by omega, if_true, show ¬ n = 0 by omega, if_false]
    · simp [hn] at h
  · -- integer
    simp only [tokenBytes] at h
    by_cases h0 : z = 0
    · subst h0
      simp only [if_true, Option.some.injEq] at h
      subst h
      refine ⟨0, [], ?_, ?_⟩
      · simp [getOp, lenBytes, declaredSize]
      · simp [cookTok, canonTok]
    · simp only [h0, if_false] at h
      by_cases h1 : 1 ≤ z ∧ z ≤ 16
      · simp only [h1, and_self, if_true, Option.some.injEq] at h
        subst h
        have hz : 0x50 + z.toNat < 256 := by omega
        refine ⟨0x50 + z.toNat, [], ?_, ?_⟩
        · simp [getOp, Nat.mod_eq_of_lt hz, show 78 < 0x50 + z.toNat by omega]
        · have c1 : 0x50 + z.toNat > 0x4e := by omega
          have c2 : ¬ 0x50 + z.toNat = 0 := by omega
          have c3 : 0x51 ≤ 0x50 + z.toNat ∧ 0x50 + z.toNat ≤ 0x60 := by omega
          have c4 : 0 ≤ z ∧ z ≤ 16 := by omega
          simp only [cookTok, canonTok, c1, c2, c3, c4, and_self, if_true, if_false, Nat.add_sub_cancel_left]
          congr 1; omega
      · simp only [h1, if_false] at h
        have c4 : ¬ (0 ≤ z ∧ z ≤ 16) := by omega
        by_cases h2 : z = -1
        · simp only [h2, if_true, Option.some.injEq] at h
          subst h
          refine ⟨0x4f, [], ?_, ?_⟩
          · simp [getOp]
          · subst h2; simp [cookTok, canonTok]
        · simp only [h2, if_false] at h
          obtain ⟨o, hg, ho, hz⟩ := getOp_pushEncode h rest
          refine ⟨o, numEncode z, hg, ?_⟩
          have : ¬ o = 0 := fun hc => numEncode_ne_nil h0 (hz.mp hc)
          simp only [cookTok, canonTok, this, show ¬ o > 0x4e by omega, if_false, c4, h2]
  · -- bytes
    simp only [tokenBytes] at h
    obtain ⟨o, hg, ho, hz⟩ := getOp_pushEncode h rest
    refine ⟨o, d, hg, ?_⟩
    by_cases hd0 : d = []
    · have : o = 0 := hz.mpr hd0
      simp [cookTok, canonTok, this, hd0]
    · have : ¬ o = 0 := fun hc => hd0 (hz.mp hc)
      simp only [cookTok, canonTok, this, show ¬ o > 0x4e by omega, if_false, hd0]
  · -- bool
    simp only [tokenBytes, Option.some.injEq] at h
    subst h
    rcases b
    · refine ⟨0, [], ?_, ?_⟩
      · simp [getOp, lenBytes, declaredSize]
      · simp [cookTok, canonTok]
    · refine ⟨0x51, [], ?_, ?_⟩
      · simp [getOp]
      · simp [cookTok, canonTok]
  · exact absurd hd (by simp [Token.inDomain])
  · simp [tokenBytes] at h

theorem readback (ts : List Token) : ∀ (s : Bytes) (idx : Nat), Spec.Script.build ts = some s →
    (∀ t ∈ ts, Token.inDomain t) →
    (rawIterFrom idx s).1.map cookTok = canon ts ∧ (rawIterFrom idx s).2 = none := by
  induction ts with
  | nil =>
    intro s idx h _
    simp only [Spec.Script.build, Option.some.injEq] at h
    subst h; simp [rawIterFrom_nil, canon]
  | cons t ts ih =>
    intro s idx h hd
    simp only [Spec.Script.build] at h
    rcases ha : tokenBytes t with _ | a
    · simp [ha] at h
    · rcases hr : Spec.Script.build ts with _ | r
      · simp [ha, hr] at h
      · simp only [ha, hr, Option.some.injEq] at h
        subst h
        obtain ⟨idx', e1, e2⟩ := readback_token t a ha (hd t (by simp)) idx r
        obtain ⟨i1, i2⟩ := ih r idx' hr (fun x hx => hd x (by simp [hx]))
        refine ⟨?_, by rw [e2, i2]⟩
        rw [e1, i1]; simp [canon]

theorem tokenBytes_canonTok (t : Token) (hd : Token.inDomain t) : tokenBytes (canonTok t) = tokenBytes t := by
  rcases t with n | z | d | b | u | _
  · simp only [Token.inDomain] at hd
    by_cases h : 0x51 ≤ n ∧ n ≤ 0x60
    · have h1 : n < 256 := by omega
      have h2 : ¬ ((n - 0x50 : Nat) : Int) = 0 := by omega
      have h3 : 1 ≤ ((n - 0x50 : Nat) : Int) ∧ ((n - 0x50 : Nat) : Int) ≤ 16 := by omega
      simp only [canonTok, h, and_self, if_true, tokenBytes, h1, h2, h3, if_false]
      congr 3; omega
    · simp only [canonTok, h, if_false]
  · by_cases h : 0 ≤ z ∧ z ≤ 16
    · simp only [canonTok, h, and_self, if_true]
    · simp only [canonTok, h, if_false]
      by_cases h2 : z = -1
      · subst h2; simp [tokenBytes]
      · have h0 : ¬ z = 0 := by omega
        have h1 : ¬ (1 ≤ z ∧ z ≤ 16) := by omega
        simp only [h2, if_false, tokenBytes, h0, h1]
  · by_cases h : d = []
    · subst h; simp [canonTok, tokenBytes, pushEncode]
    · simp only [canonTok, h, if_false]
  · rcases b <;> simp [canonTok, tokenBytes]
  · rfl
  · rfl

theorem build_canon (ts : List Token) (hd : ∀ t ∈ ts, Token.inDomain t) :
    Spec.Script.build (canon ts) = Spec.Script.build ts := by
  induction ts with
  | nil => rfl
  | cons t ts ih =>
    simp only [canon, List.map_cons, Spec.Script.build, tokenBytes_canonTok t (hd t (by simp))]
    have := ih (fun x hx => hd x (by simp [hx]))
    simp only [canon] at this
    rw [this]

theorem length_opEnc {o : Nat} (d : Bytes) (ho : o ≤ 0x4e) : (opEnc o d).length = 1 + lenBytes o + d.length := by
  simp [opEnc, show ¬ o > 0x4e by omega]; omega

theorem pushEncode_shortest {d e s : Bytes} {o : Nat} (h : pushEncode d = some e)
    (hg : getOp s = some (o, d, [])) (ho : o ≤ 0x4e) : e.length ≤ s.length := by
  obtain ⟨hv, rfl⟩ := getOp_eq_some_iff.mp hg
  rw [pushEncode_eq] at h
  split at h
  · obtain rfl := Option.some.inj h
    have := lenBytes_pushOp_le hv ho
    rw [List.append_nil, length_opEnc d ho, length_opEnc d (pushOp_le _)]; omega
  · cases h

theorem pushEncode_single_push {d e : Bytes} (h : pushEncode d = some e) :
    ∃ o, getOp e = some (o, d, []) ∧ o ≤ 0x4e ∧
      ∀ s' o', getOp s' = some (o', d, []) → o' ≤ 0x4e → e.length ≤ s'.length := by
  obtain ⟨o, hg, ho, _⟩ := getOp_pushEncode h []
  rw [List.append_nil] at hg
  exact ⟨o, hg, ho, fun _ _ hg' ho' => pushEncode_shortest h hg' ho'⟩

end BtcVerif

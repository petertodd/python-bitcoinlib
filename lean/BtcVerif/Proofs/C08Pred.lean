/-
  C08's loops over the raw operations against the list forms of Spec.Script: `CScriptOp` lookups,
  `pushOnlyLoop`, `canonicalLoop`, cooked iteration (`cookTok`, `cookOp_eq`, `cooked_eq`, `isValid_eq`)
  and the sigop loop (`sigOpsStep_eq`, `sigOpsLoop_eq`).
-/
import BtcVerif.Proofs.C08Iter

namespace BtcVerif
open BtcVerif.Spec.Script BtcVerif.Model.Script

theorem cscriptOpNew_signedByte (b : UInt8) : cscriptOpNew (signedByte b) = .ok b.toNat := by
  have := b.toNat_lt
  unfold cscriptOpNew cscriptOpNewSt signedByte
  by_cases h : b.toNat < 128
  · simp only [h, if_true]
    rw [if_pos (by omega)]; simp
  · simp only [h, if_false]
    rw [if_neg (by omega), if_pos (by omega)]
    simp only [Except.ok.injEq]; omega

theorem cscriptOpNew_nat (n : Nat) (h : n < 256) : cscriptOpNew (n : Int) = .ok n := by
  unfold cscriptOpNew cscriptOpNewSt
  rw [if_pos (by omega)]; simp

theorem decodeOpN_small (n : Nat) (h : 0x51 ≤ n ∧ n ≤ 0x60) : decodeOpN n = .ok (decodeOPN n) := by
  unfold decodeOpN decodeOPN
  rw [if_neg (by omega), if_neg (by omega), if_neg (by omega)]
  congr 1; omega

theorem pushOnlyLoop_eq (ops : List RawOp) (e : Option IterErr) :
    pushOnlyLoop ops e = (e.isNone && ops.all (fun o => decide (o.opcode ≤ 0x60))) := by
  induction ops with
  | nil => simp [pushOnlyLoop]
  | cons o r ih =>
    simp only [pushOnlyLoop, ih, List.all_cons]
    by_cases h : o.opcode > 0x60
    · have : ¬ o.opcode ≤ 0x60 := by omega
      simp [h, this]
    · have : o.opcode ≤ 0x60 := by omega
      simp [h, this]

theorem canonicalStep_eq (o : RawOp) (hw : o.wf) :
    canonicalStep o = .ok (if canonicalPush o.pair then none else some false) := by
  obtain ⟨_, hd⟩ := hw
  unfold canonicalStep canonicalPush RawOp.pair
  by_cases h1 : o.opcode > 0x60
  · simp [h1]
  · simp only [h1, if_false]
    have hsome : o.opcode ≤ 0x4e → ∃ d, o.data = some d := by
      intro h; have := hd.mpr h
      exact Option.isSome_iff_exists.mp this
    by_cases h2 : o.opcode < 0x4c ∧ o.opcode > 0x00
    · obtain ⟨d, hdd⟩ := hsome (by omega)
      simp only [h2, and_self, if_true, hdd, Option.getD_some, true_and]
      have e : lenOneSmall d = oneSmallByte d := by
        rcases d with _ | ⟨x, _ | ⟨y, r⟩⟩ <;> simp [lenOneSmall, oneSmallByte]
      rw [e]
      by_cases h3 : oneSmallByte d
      · simp [h3]
      · have n1 : ¬ o.opcode = 0x4c := by omega
        have n2 : ¬ o.opcode = 0x4d := by omega
        have n3 : ¬ o.opcode = 0x4e := by omega
        simp [h3, n1, n2, n3]
    · simp only [h2, if_false]
      have h2' : ¬ (o.opcode < 0x4c ∧ o.opcode > 0 ∧ oneSmallByte (o.data.getD []) = true) := by
        intro ⟨a, b, _⟩; exact h2 ⟨a, b⟩
      simp only [h2', if_false]
      by_cases h4 : o.opcode = 0x4c
      · obtain ⟨d, hdd⟩ := hsome (by omega)
        simp only [h4, hdd, pyLen, Option.getD_some, true_and, if_true]
        by_cases h5 : d.length < 0x4c <;> simp [h5]
      · simp only [h4, if_false, false_and]
        by_cases h6 : o.opcode = 0x4d
        · obtain ⟨d, hdd⟩ := hsome (by omega)
          simp only [h6, hdd, pyLen, Option.getD_some, true_and, if_true]
          by_cases h5 : d.length ≤ 0xff <;> simp [h5]
        · simp only [h6, if_false, false_and]
          by_cases h7 : o.opcode = 0x4e
          · obtain ⟨d, hdd⟩ := hsome (by omega)
            simp only [h7, hdd, pyLen, Option.getD_some, true_and, if_true]
            by_cases h5 : d.length ≤ 0xffff <;> simp [h5]
          · simp [h7]

theorem canonicalLoop_eq (ops : List RawOp) (e : Option IterErr) (hw : ∀ o ∈ ops, o.wf) :
    canonicalLoop ops e = .ok (e.isNone && ops.all (fun o => canonicalPush o.pair)) := by
  induction ops with
  | nil => simp [canonicalLoop]
  | cons o r ih =>
    have h1 := canonicalStep_eq o (hw o (by simp))
    have h2 := ih (fun x hx => hw x (by simp [hx]))
    simp only [canonicalLoop, h1, List.all_cons]
    by_cases hc : canonicalPush o.pair
    · simp [hc, h2]
    · simp [hc]

/-- the token `__iter__` yields for a well-formed raw operation -/
def cookTok (o : RawOp) : Token :=
  if o.opcode = 0 then .int 0
  else match o.data with
    | some d => .data d
    | none => if 0x51 ≤ o.opcode ∧ o.opcode ≤ 0x60 then .int ((o.opcode - 0x50 : Nat) : Int) else .op o.opcode

theorem cookOp_eq (o : RawOp) (hw : o.wf) : cookOp o = .ok (cookTok o) := by
  obtain ⟨_, hd⟩ := hw
  unfold cookOp cookTok
  by_cases h0 : o.opcode = 0
  · simp [h0]
  · simp only [h0, if_false]
    rcases hdd : o.data with _ | d
    · simp only
      by_cases hs : 0x51 ≤ o.opcode ∧ o.opcode ≤ 0x60
      · have : isSmallInt o.opcode = true := by simp [isSmallInt, hs]
        simp only [this, if_true, decodeOpN_small _ hs, hs, and_self, decodeOPN, h0, if_false]
      · have : isSmallInt o.opcode = false := by
          simp only [isSmallInt, h0, or_false]; simpa using hs
        simp [this, hs]
    · simp

theorem cookedOps_eq (ops : List RawOp) (e : Option IterErr) (hw : ∀ o ∈ ops, o.wf) :
    cookedOps ops e = (ops.map cookTok, e.map .iter) := by
  induction ops with
  | nil => simp [cookedOps]
  | cons o r ih =>
    simp only [cookedOps, cookOp_eq o (hw o (by simp)), ih (fun x hx => hw x (by simp [hx])), List.map_cons]

theorem cooked_eq (s : Bytes) : cooked s = ((rawIter s).1.map cookTok, (rawIter s).2.map .iter) := by
  unfold cooked
  exact cookedOps_eq _ _ (rawIter_parse s).2.2

theorem isValid_eq (s : Bytes) : Model.Script.isValid s = .ok (Spec.Script.isValid s) := by
  unfold Model.Script.isValid Spec.Script.isValid
  rw [cooked_eq, ← (rawIter_parse s).2.1]
  rcases (rawIter s).2 with _ | x <;> simp

theorem isValid_ok_true_iff (s : Bytes) : Model.Script.isValid s = .ok true ↔ (parse s).2 = true := by
  rw [isValid_eq, Except.ok.injEq, Spec.Script.isValid]

theorem sigOpsStep_eq (accurate : Bool) (n last opcode : Nat) (hl : last < 256) :
    sigOpsStep accurate n last opcode =
      .ok (n + (if opcode = 0xac ∨ opcode = 0xad then 1
                else if opcode = 0xae ∨ opcode = 0xaf then
                  (if accurate ∧ 0x51 ≤ last ∧ last ≤ 0x60 then decodeOPN last else 20)
                else 0)) := by
  unfold sigOpsStep
  by_cases h1 : opcode = 0xac ∨ opcode = 0xad
  · simp only [h1, if_true]
  · simp only [h1, if_false]
    by_cases h2 : opcode = 0xae ∨ opcode = 0xaf
    · simp only [h2, if_true]
      by_cases h3 : accurate = true ∧ 0x51 ≤ last ∧ last ≤ 0x60
      · simp only [h3, and_self, if_true, cscriptOpNew_nat _ hl, decodeOpN_small _ h3.2]
      · simp only [h3, if_false]
    · simp only [h2, if_false, Nat.add_zero]

theorem sigOpsLoop_eq (accurate : Bool) (ops : List RawOp) (hw : ∀ o ∈ ops, o.wf) :
    ∀ (n last : Nat), last < 256 →
      sigOpsLoop accurate ops n last = .ok (n + sigOpsFrom accurate last (ops.map RawOp.pair)) := by
  induction ops with
  | nil => intro n last _; simp [sigOpsLoop, sigOpsFrom]
  | cons o r ih =>
    intro n last hl
    have ho : o.opcode < 256 := (hw o (by simp)).1
    have ih' := ih (fun x hx => hw x (by simp [hx]))
    simp only [sigOpsLoop, sigOpsStep_eq _ _ _ _ hl, List.map_cons, RawOp.pair, sigOpsFrom]
    rw [ih' _ _ ho]; congr 1; omega

end BtcVerif

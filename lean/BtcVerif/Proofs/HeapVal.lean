/-
  C09: `assemble` and its inverse `partsOf`; trees vs. values of the reference side
  (children, functional update, paths, mutability flags).
-/
import BtcVerif.Proofs.HeapTree

namespace BtcVerif.Model.Heap
open BtcVerif BtcVerif.Spec.ValueSem

theorem mapO_as_inv {α : Type} {as : Val → Option α} {mk : α → Val} (hk : ∀ v x, as v = some x → v = mk x) :
    ∀ {vs : List Val} {l : List α}, mapO as vs = some l → vs = l.map mk
  | [], l, h => by cases h; rfl
  | v :: vs, l, h => by
    obtain ⟨x, l', hx, hl', rfl⟩ := mapO_cons_eq_some.mp h
    rw [List.map_cons, ← hk v x hx, ← mapO_as_inv hk hl']

theorem mapO_as_map {α : Type} {as : Val → Option α} {mk : α → Val} (hk : ∀ x, as (mk x) = some x) :
    ∀ (l : List α), mapO as (l.map mk) = some l
  | [] => rfl
  | x :: l => mapO_cons_eq_some.mpr ⟨x, l, hk x, mapO_as_map hk l, rfl⟩

theorem mapO_asTxIn {vs : List Val} {l : List TxIn} (h : mapO asTxIn vs = some l) : vs = l.map .txin :=
  mapO_as_inv (fun v x hx => by cases v <;> cases hx; rfl) h
theorem mapO_asTxOut {vs : List Val} {l : List TxOut} (h : mapO asTxOut vs = some l) : vs = l.map .txout :=
  mapO_as_inv (fun v x hx => by cases v <;> cases hx; rfl) h
theorem mapO_asStack {vs : List Val} {l : List WitStack} (h : mapO asStack vs = some l) : vs = l.map .inwit :=
  mapO_as_inv (fun v x hx => by cases v <;> cases hx; rfl) h
theorem mapO_asTx {vs : List Val} {l : List Tx} (h : mapO asTx vs = some l) : vs = l.map .tx :=
  mapO_as_inv (fun v x hx => by cases v <;> cases hx; rfl) h

theorem mapO_asTxIn_map (l : List TxIn) : mapO asTxIn (l.map .txin) = some l :=
  mapO_as_map (as := asTxIn) (mk := .txin) (fun _ => rfl) l
theorem mapO_asTxOut_map (l : List TxOut) : mapO asTxOut (l.map .txout) = some l :=
  mapO_as_map (as := asTxOut) (mk := .txout) (fun _ => rfl) l
theorem mapO_asStack_map (l : List WitStack) : mapO asStack (l.map .inwit) = some l :=
  mapO_as_map (as := asStack) (mk := .inwit) (fun _ => rfl) l
theorem mapO_asTx_map (l : List Tx) : mapO asTx (l.map .tx) = some l :=
  mapO_as_map (as := asTx) (mk := .tx) (fun _ => rfl) l

/-! ### `assemble` and its inverse

  What `assemble` does to children, classes, updates and field assignments is read off `partsOf` by cases on
  the value. -/

def partsOf : Val → Scalars × List Val
  | .outpoint o => (.outpoint o.hash o.n, [])
  | .txin i => (.txin i.scriptSig i.nSequence, [.outpoint i.prevout])
  | .txout o => (.txout o.nValue o.scriptPubKey, [])
  | .inwit st => (.inwit st, [])
  | .wit w => (.wit, [.stacks w])
  | .tx t => (.tx t.nVersion t.nLockTime, [.ins t.vin, .outs t.vout, .wit t.wit])
  | .header h => (.header h, [])
  | .block b => (.block b.hdr, [.txs b.vtx])
  | .ins l => (.seq .ins, l.map .txin)
  | .outs l => (.seq .outs, l.map .txout)
  | .stacks l => (.seq .stacks, l.map .inwit)
  | .txs l => (.seq .txs, l.map .tx)

theorem assemble_parts (v : Val) : assemble (partsOf v).1 (partsOf v).2 = some v := by
  cases v with
  | ins l | outs l | stacks l | txs l =>
    simp only [partsOf, assemble, mapO_asTxIn_map, mapO_asTxOut_map, mapO_asStack_map, mapO_asTx_map, Option.map_some]
  | _ => rfl

theorem assemble_inv {sc : Scalars} {vs : List Val} {v : Val} (h : assemble sc vs = some v) :
    partsOf v = (sc, vs) := by
  unfold assemble at h
  split at h
  · cases h; rfl
  · cases h; rfl
  · cases h; rfl
  · obtain ⟨l, hl, rfl⟩ := Option.map_eq_some_iff.mp h; rw [mapO_asTxIn hl]; rfl
  · obtain ⟨l, hl, rfl⟩ := Option.map_eq_some_iff.mp h; rw [mapO_asTxOut hl]; rfl
  · obtain ⟨l, hl, rfl⟩ := Option.map_eq_some_iff.mp h; rw [mapO_asStack hl]; rfl
  · obtain ⟨l, hl, rfl⟩ := Option.map_eq_some_iff.mp h; rw [mapO_asTx hl]; rfl
  · cases h; rfl
  · cases h; rfl
  · cases h; rfl
  · cases h; rfl
  · cases h; rfl
  · cases h

theorem assemble_eq_some {sc : Scalars} {vs : List Val} {v : Val} : assemble sc vs = some v ↔ partsOf v = (sc, vs) :=
  ⟨assemble_inv, fun h => by have := assemble_parts v; rwa [h] at this⟩

theorem child_parts (v : Val) (i : Nat) : v.child i = (partsOf v).2[i]? := by
  cases v with
  | txin x | wit x | block x => cases i <;> rfl
  | tx t =>
    match i with
    | 0 => rfl
    | 1 => rfl
    | 2 => rfl
    | i + 3 => rfl
  | ins l | outs l | stacks l | txs l => exact List.getElem?_map.symm
  | _ => rfl

theorem parts_alwaysImm (v : Val) : v.alwaysImm = (partsOf v).1.alwaysImm ∧ v.isSeq = (partsOf v).1.isSeq := by
  cases v <;> exact ⟨rfl, rfl⟩

theorem parts_kind (v : Val) : valKind v = (partsOf v).1.kind := by
  cases v <;> rfl

theorem putChild_parts {v c' v' : Val} {i : Nat} (hp : v.putChild i c' = some v') :
    partsOf v' = ((partsOf v).1, (partsOf v).2.set i c') := by
  unfold Val.putChild at hp
  split at hp
  · cases hp; rfl
  · cases hp; rfl
  · cases hp; rfl
  · cases hp; rfl
  · cases hp; rfl
  · cases hp; rfl
  · split at hp
    · cases hp; simp only [partsOf, List.map_set]
    · cases hp
  · split at hp
    · cases hp; simp only [partsOf, List.map_set]
    · cases hp
  · split at hp
    · cases hp; simp only [partsOf, List.map_set]
    · cases hp
  · split at hp
    · cases hp; simp only [partsOf, List.map_set]
    · cases hp
  · cases hp

theorem apply_parts (f : Field) (v : Val) :
    (applySc f (partsOf v).1).map (fun sc' => (sc', (partsOf v).2)) = (f.apply v).map partsOf := by
  cases f <;> cases v <;> rfl

theorem assemble_child {sc : Scalars} {vs : List Val} {v : Val} (h : assemble sc vs = some v) (i : Nat) :
    v.child i = vs[i]? := by
  rw [child_parts, assemble_inv h]

theorem assemble_alwaysImm {sc : Scalars} {vs : List Val} {v : Val} (h : assemble sc vs = some v) :
    v.alwaysImm = sc.alwaysImm ∧ v.isSeq = sc.isSeq := by
  have := parts_alwaysImm v
  rwa [assemble_inv h] at this

theorem assemble_set {sc : Scalars} {vs : List Val} {v c' v' : Val} (h : assemble sc vs = some v)
    {i : Nat} (hp : v.putChild i c' = some v') : assemble sc (vs.set i c') = some v' := by
  rw [assemble_eq_some, putChild_parts hp, assemble_inv h]

theorem assemble_kind {sc : Scalars} {vs : List Val} {v : Val} (h : assemble sc vs = some v) :
    valKind v = sc.kind := by
  rw [parts_kind, assemble_inv h]

/-! ### the class number decides the class predicates

  Class numbers are those of `Scalars.kind` / `valKind` (Spec/ValueSem): 0 outpoint, 1 input, 2 output,
  3 input witness, 4 witness, 5 transaction, 6 header, 7 block, 8 `vin`, 9 `vout`, 10 `vtxinwit`, 11 `vtx`. -/

def aiOfKind (k : Nat) : Bool := k == 3 || k == 4 || k == 6 || k == 7 || k == 10 || k == 11
def seqOfKind (k : Nat) : Bool := decide (8 ≤ k)

theorem alwaysImm_of_kind (sc : Scalars) : sc.alwaysImm = aiOfKind sc.kind ∧ sc.isSeq = seqOfKind sc.kind := by
  cases sc with
  | seq k => cases k <;> exact ⟨rfl, rfl⟩
  | _ => exact ⟨rfl, rfl⟩

theorem kind_alwaysImm {a b : Scalars} (h : a.kind = b.kind) : a.alwaysImm = b.alwaysImm ∧ a.isSeq = b.isSeq := by
  rw [(alwaysImm_of_kind a).1, (alwaysImm_of_kind a).2, (alwaysImm_of_kind b).1, (alwaysImm_of_kind b).2, h]
  exact ⟨rfl, rfl⟩

theorem applySc_kind {f : Field} {sc sc' : Scalars} (h : applySc f sc = some sc') : sc'.kind = sc.kind := by
  unfold applySc at h
  split at h <;> cases h <;> rfl

theorem applySc_isSeq {f : Field} {sc sc' : Scalars} (h : applySc f sc = some sc') : sc'.isSeq = false := by
  unfold applySc at h
  split at h <;> cases h <;> rfl

theorem assemble_applySc {sc : Scalars} {vs : List Val} {v : Val} (h : assemble sc vs = some v) (f : Field) :
    (applySc f sc = none → f.apply v = none) ∧
    (∀ sc', applySc f sc = some sc' → ∃ w, f.apply v = some w ∧ assemble sc' vs = some w ∧
      sc'.alwaysImm = sc.alwaysImm ∧ valKind w = valKind v ∧ sc'.isSeq = false) := by
  have hp := apply_parts f v
  simp only [assemble_inv h] at hp
  constructor
  · intro hn
    rw [hn] at hp
    exact Option.map_eq_none_iff.mp hp.symm
  · intro sc' hs
    rw [hs] at hp
    obtain ⟨w, hw, hpw⟩ := Option.map_eq_some_iff.mp hp.symm
    have hk := applySc_kind hs
    refine ⟨w, hw, assemble_eq_some.mpr hpw, (kind_alwaysImm hk).1, ?_, applySc_isSeq hs⟩
    rw [parts_kind, hpw, assemble_kind h]
    exact hk

theorem decode_inv {a : Addr} {m : Bool} {sc : Scalars} {kids : List ATree} {v : Val}
    (h : decode (.node a m sc kids) = some v) :
    ∃ vs, mapO decode kids = some vs ∧ assemble sc vs = some v := by
  rw [decode_node] at h
  cases hm : mapO decode kids with
  | none => simp [hm] at h
  | some vs => simp [hm] at h; exact ⟨vs, rfl, h⟩

theorem decode_alwaysImm {t : ATree} {v : Val} (h : decode t = some v) :
    v.alwaysImm = t.sc.alwaysImm ∧ v.isSeq = t.sc.isSeq := by
  cases t with | node a m sc kids =>
    obtain ⟨vs, _, ha⟩ := decode_inv h
    exact assemble_alwaysImm ha

theorem decode_child {a : Addr} {m : Bool} {sc : Scalars} {kids : List ATree} {v : Val}
    (h : decode (.node a m sc kids) = some v) (i : Nat) :
    (∀ k, kids[i]? = some k → ∃ c, decode k = some c ∧ v.child i = some c) ∧
    (kids[i]? = none → v.child i = none) := by
  obtain ⟨vs, hvs, ha⟩ := decode_inv h
  rw [assemble_child ha i]
  constructor
  · intro k hk
    obtain ⟨c, hc, hd⟩ := mapO_getElem hvs i k hk
    exact ⟨c, hd, hc⟩
  · intro hk
    have hl := mapO_length hvs
    rw [List.getElem?_eq_none_iff] at hk ⊢
    omega

theorem sub_getM : ∀ {p : List Nat} {t : ATree} {v : Val} {m : Bool}, decode t = some v → flagsOK m t →
    (∀ tx, sub t p = some tx → ∃ vx, v.getM m p = some (tx.isMut, vx) ∧ decode tx = some vx ∧
        flagsOK tx.isMut tx) ∧
    (sub t p = none → v.getM m p = none)
  | [], t, v, m, hd, hf => by
    refine ⟨?_, by simp [sub]⟩
    intro tx hs
    simp [sub] at hs; subst hs
    exact ⟨v, by simp [Val.getM, flagsOK_isMut hf], hd, by rw [flagsOK_isMut hf]; exact hf⟩
  | i :: p, .node a m' sc kids, v, m, hd, hf => by
    obtain ⟨h1, h2⟩ := decode_child hd i
    cases hk : kids[i]? with
    | none => simp [sub, hk, Val.getM, h2 hk]
    | some k =>
      obtain ⟨c, hc, hvc⟩ := h1 k hk
      have hfk : flagsOK (m && !k.sc.alwaysImm) k := flagsOKL_iff.mp hf.2 k (List.mem_of_getElem? hk)
      have hai := (decode_alwaysImm hc).1
      have := sub_getM (p := p) hc hfk
      simp only [sub, hk, Val.getM, hvc, hai]
      exact this

theorem flagsOKL_set {m : Bool} {kids : List ATree} {i : Nat} {k' : ATree}
    (h : flagsOKL m kids) (hk : flagsOK (m && !k'.sc.alwaysImm) k') : flagsOKL m (kids.set i k') := by
  rw [flagsOKL_iff] at h ⊢
  intro k hmem
  rcases List.mem_or_eq_of_mem_set hmem with h1 | h1
  · exact h k h1
  · subst h1; exact hk

theorem flagsOK_replaceAt : ∀ {p : List Nat} {t tx t' : ATree} {m : Bool}, sub t p = some tx →
    flagsOK m t → t'.sc.alwaysImm = tx.sc.alwaysImm → flagsOK tx.isMut t' → flagsOK m (replaceAt t p t')
  | [], t, tx, t', m, hs, hf, _, hf' => by
    simp [sub] at hs; subst hs
    simpa [replaceAt, flagsOK_isMut hf] using hf'
  | i :: p, .node a m' sc kids, tx, t', m, hs, hf, hai, hf' => by
    simp only [sub] at hs
    cases hk : kids[i]? with
    | none => simp [hk] at hs
    | some k =>
      simp only [hk] at hs
      have hfk : flagsOK (m && !k.sc.alwaysImm) k := flagsOKL_iff.mp hf.2 k (List.mem_of_getElem? hk)
      have ih := flagsOK_replaceAt hs hfk hai hf'
      simp only [replaceAt, hk]
      refine ⟨hf.1, flagsOKL_set hf.2 ?_⟩
      have hsc : (replaceAt k p t').sc.alwaysImm = k.sc.alwaysImm := by
        cases p with
        | nil => simp [sub] at hs; subst hs; simpa [replaceAt] using hai
        | cons j p =>
          cases k with | node ak mk sck kk =>
            simp only [replaceAt]
            cases kk[j]? <;> rfl
      rw [hsc]; exact ih

theorem decode_replaceAt : ∀ {p : List Nat} {t tx t' : ATree} {v w v' : Val}, sub t p = some tx →
    decode t = some v → decode t' = some w → v.put p w = some v' → decode (replaceAt t p t') = some v'
  | [], t, tx, t', v, w, v', _, _, hd', hp => by
    simp [Val.put] at hp; subst hp; simpa [replaceAt] using hd'
  | i :: p, .node a m sc kids, tx, t', v, w, v', hs, hd, hd', hp => by
    simp only [sub] at hs
    cases hk : kids[i]? with
    | none => simp [hk] at hs
    | some k =>
      simp only [hk] at hs
      obtain ⟨c, hc, hvc⟩ := (decode_child hd i).1 k hk
      simp only [Val.put, hvc, Option.bind_eq_bind, Option.bind_some] at hp
      cases hcp : c.put p w with
      | none => simp [hcp] at hp
      | some c' =>
        simp only [hcp, Option.bind_some] at hp
        have ih := decode_replaceAt hs hc hd' hcp
        obtain ⟨vs, hvs, ha⟩ := decode_inv hd
        simp only [replaceAt, hk]
        rw [decode_node]
        have hset := mapO_list_set (f := decode) i hvs ih
        simp [hset, assemble_set ha hp]

end BtcVerif.Model.Heap

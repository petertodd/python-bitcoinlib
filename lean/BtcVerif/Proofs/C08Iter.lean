/-
  C08's tokeniser on top of Proofs/GetOp.lean: the generator against `Spec.Script.parse`
  (`rawIterFrom_parse`) and the partition of a script into the byte ranges of its operations
  (`rawIterFrom_partition`).
-/
import BtcVerif.Proofs.C08Num
import BtcVerif.Proofs.GetOp

namespace BtcVerif
open BtcVerif.Spec.Script BtcVerif.Model.Script

theorem rawStep_cons (idx : Nat) (b : UInt8) (t : Bytes) :
    rawStep idx (b :: t) =
      match getOp (b :: t) with
      | some (o, d, rest) => some (.op ⟨o, if o > 0x4e then none else some d, idx⟩ rest)
      | none => some (.err (truncErr b t)) :=
  rawStep_eq_getOp idx b t

theorem rawIterFrom_cons (idx : Nat) (b : UInt8) (t : Bytes) :
    rawIterFrom idx (b :: t) =
      match getOp (b :: t) with
      | some (o, d, rest) =>
          (⟨o, if o > 0x4e then none else some d, idx⟩ ::
              (rawIterFrom (idx + ((b :: t).length - rest.length)) rest).1,
            (rawIterFrom (idx + ((b :: t).length - rest.length)) rest).2)
      | none => ([], some (truncErr b t)) := by
  have h := rawStep_cons idx b t
  rcases hg : getOp (b :: t) with _ | ⟨o, d, rest⟩
  · rw [hg] at h; simp only at h ⊢
    exact rawIterFrom_err h
  · rw [hg] at h; simp only at h ⊢
    exact rawIterFrom_op h

theorem rawOp_pair {o : Nat} {d : Bytes} (hv : ValidOp o d) (idx : Nat) :
    RawOp.pair ⟨o, if o > 0x4e then none else some d, idx⟩ = (o, d) := by
  by_cases h : o > 0x4e
  · simp [RawOp.pair, h, validOp_nonpush hv h]
  · simp [RawOp.pair, h]

theorem rawOp_enc {o : Nat} {d : Bytes} (hv : ValidOp o d) (idx : Nat) :
    RawOp.enc ⟨o, if o > 0x4e then none else some d, idx⟩ = opEnc o d := by
  by_cases h : o > 0x4e
  · simp [RawOp.enc, h, validOp_nonpush hv h]
  · simp [RawOp.enc, h]

theorem rawOp_wf {o : Nat} {d : Bytes} (hv : ValidOp o d) (idx : Nat) :
    RawOp.wf ⟨o, if o > 0x4e then none else some d, idx⟩ := by
  refine ⟨hv.1, ?_⟩
  by_cases h : o > 0x4e
  · simp [h]
  · simp [h]; omega

theorem rawIterFrom_parse (s : Bytes) : ∀ idx : Nat,
    (rawIterFrom idx s).1.map RawOp.pair = (parse s).1 ∧
    ((rawIterFrom idx s).2.isNone = (parse s).2) ∧
    (∀ o ∈ (rawIterFrom idx s).1, o.wf) := by
  induction s using getOp_induction with
  | nil => intro idx; simp [rawIterFrom_nil, parse_nil]
  | stop b t hg => intro idx; rw [rawIterFrom_cons, parse_cons, hg]; simp
  | step b t o d rest hg ih =>
    intro idx
    have hv := (getOp_eq_some_iff.mp hg).1
    obtain ⟨i1, i2, i3⟩ := ih (idx + ((b :: t).length - rest.length))
    rw [rawIterFrom_cons, parse_cons, hg]
    refine ⟨by simp only [List.map_cons, i1, rawOp_pair hv], i2, fun x hx => ?_⟩
    rcases List.mem_cons.mp hx with rfl | hx
    · exact rawOp_wf hv idx
    · exact i3 x hx

theorem rawIter_parse (s : Bytes) :
    (rawIter s).1.map RawOp.pair = (parse s).1 ∧ ((rawIter s).2.isNone = (parse s).2) ∧
      (∀ o ∈ (rawIter s).1, o.wf) :=
  rawIterFrom_parse s 0

theorem rawIterFrom_partition (s : Bytes) : ∀ idx : Nat,
    ∃ rest, s = ((rawIterFrom idx s).1.map RawOp.enc).flatten ++ rest ∧
      ((rawIterFrom idx s).2 = none → rest = []) ∧
      (∀ e, (rawIterFrom idx s).2 = some e →
        ∃ b t, rest = b :: t ∧ e = truncErr b t ∧ TruncatedPush rest) ∧
      (∀ i (h : i < (rawIterFrom idx s).1.length),
        ((rawIterFrom idx s).1[i]).sopIdx =
          idx + (((rawIterFrom idx s).1.take i).map RawOp.enc).flatten.length) := by
  induction s using getOp_induction with
  | nil => intro idx; exact ⟨[], by simp [rawIterFrom_nil]⟩
  | stop b t hg =>
    intro idx
    rw [rawIterFrom_cons, hg]
    refine ⟨b :: t, by simp, by simp, fun e he => ⟨b, t, rfl, ?_, getOp_eq_none_iff.mp hg⟩, by simp⟩
    simpa using he.symm
  | step b t o d rest' hg ih =>
    intro idx
    obtain ⟨hv, hs'⟩ := getOp_eq_some_iff.mp hg
    have hidx : idx + ((b :: t).length - rest'.length) = idx + (opEnc o d).length := by
      have := congrArg List.length hs'
      rw [List.length_append] at this; omega
    rw [rawIterFrom_cons, hg]
    dsimp only
    rw [hidx]
    obtain ⟨rest, i1, i2, i3, i4⟩ := ih (idx + (opEnc o d).length)
    refine ⟨rest, ?_, i2, i3, ?_⟩
    · simp only [List.map_cons, List.flatten_cons, rawOp_enc hv, List.append_assoc]
      rw [← i1]; exact hs'
    · intro i hi
      rcases i with _ | i
      · simp
      · simp only [List.getElem_cons_succ, List.take_succ_cons, List.map_cons, List.flatten_cons,
          List.length_append, rawOp_enc hv]
        rw [i4 i (by simpa using hi)]; omega

end BtcVerif

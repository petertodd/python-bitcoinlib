/-
  C03.  The Python tokeniser (`Model.Script.rawStep` / `rawIterFrom`) against the spec's `GetOp`:
  `raw_iter` raises exactly on scripts that do not parse; `FindAndDelete(script, [OP_CODESEPARATOR])`
  is `Spec.Sighash.scriptCodeNoSep` on scripts that parse (`findAndDelete_parses`).
-/
import BtcVerif.Proofs.Sighash
import BtcVerif.Proofs.GetOp
namespace BtcVerif.SighashProofs
open BtcVerif Model.Wire Spec.Wire Spec.Sighash Model.Sighash Model.Script

theorem leNat1 (a : UInt8) : leNat [a] = a.toNat := by simp [leNat]

/-- Model tokeniser step vs. the spec's `GetOp`, success case -/
theorem rawStep_of_getOp_some {idx : Nat} {s : Bytes} {op : UInt8} {n : Nat}
    (h : getOp s = some (op, n)) :
    ∃ d r, s = op :: r ∧ rawStep idx s = some (.op ⟨op.toNat, d, idx⟩ (s.drop n)) := by
  cases s with
  | nil => simp [getOp] at h
  | cons b rest =>
    have hs := sighash_getOp_script b rest
    rw [rawStep_eq_getOp]
    rcases hg : Spec.Script.getOp (b :: rest) with _ | ⟨o, d, r'⟩
    · rw [hg] at hs; rw [hs] at h; cases h
    · rw [hg] at hs
      obtain ⟨k, hk, _, _, rfl, rfl⟩ := hs
      obtain ⟨rfl, rfl⟩ := Prod.mk.inj (Option.some.inj (hk.symm.trans h))
      exact ⟨_, rest, rfl, rfl⟩

/-- … failure case: where `GetOp` fails on a non-empty script the Python generator raises -/
theorem rawStep_of_getOp_none {idx : Nat} {s : Bytes} (h : getOp s = none) (hs : s ≠ []) :
    ∃ e, rawStep idx s = some (.err e) := by
  cases s with
  | nil => exact absurd rfl hs
  | cons b rest =>
    have hs := sighash_getOp_script b rest
    rw [rawStep_eq_getOp]
    rcases hg : Spec.Script.getOp (b :: rest) with _ | ⟨o, d, r'⟩
    · exact ⟨_, rfl⟩
    · rw [hg] at hs
      obtain ⟨k, hk, _⟩ := hs
      rw [h] at hk; cases hk

theorem ops_eq (s : Bytes) :
    ops s = match getOp s with
      | none => if s = [] then some [] else none
      | some (_, n) => (ops (s.drop n)).map (s.take n :: ·) := by
  rw [ops]; split <;> simp_all

theorem scriptCodeNoSep_eq (s : Bytes) :
    scriptCodeNoSep s = match getOp s with
      | none => s
      | some (op, n) => (if op = OP_CODESEPARATOR then [] else s.take n) ++ scriptCodeNoSep (s.drop n) := by
  rw [scriptCodeNoSep]; split <;> simp_all

theorem getOp_nil : getOp [] = none := rfl

/-- an opcode above OP_PUSHDATA4 is an operation of one byte -/
theorem getOp_nonpush {b : UInt8} (r : Bytes) (h : 0x4e < b.toNat) : getOp (b :: r) = some (b, 1) := by
  simp only [getOp]; rw [if_neg (by omega)]

/-- a direct push whose payload is there -/
theorem getOp_direct {b : UInt8} {r : Bytes} (h : b.toNat < 0x4c) (hl : b.toNat ≤ r.length) :
    getOp (b :: r) = some (b, 1 + b.toNat) := by
  simp only [getOp]
  rw [if_pos (by omega), if_pos h]
  simp only
  rw [if_neg (by omega), Nat.add_zero]

theorem getOp_head {s : Bytes} {op : UInt8} {n : Nat} (h : getOp s = some (op, n)) : ∃ r, s = op :: r := by
  obtain ⟨_, r, hr, _⟩ := rawStep_of_getOp_some (idx := 0) h
  exact ⟨r, hr⟩

theorem getOp_codesep {s : Bytes} {n : Nat} (h : getOp s = some (OP_CODESEPARATOR, n)) : n = 1 := by
  obtain ⟨r, rfl⟩ := getOp_head h
  rw [getOp_nonpush r (by decide)] at h
  cases h; rfl

theorem rawIterFrom_err_iff (idx : Nat) (s : Bytes) : (rawIterFrom idx s).2 = none ↔ parses s := by
  unfold parses
  induction s using ops.induct generalizing idx with
  | case1 _ => rw [rawIterFrom_unfold, ops_eq]; simp [rawStep, getOp_nil]
  | case2 s hg hs =>
    obtain ⟨e, he⟩ := rawStep_of_getOp_none (idx := idx) hg hs
    rw [rawIterFrom_unfold, ops_eq, hg, he]; simp [hs]
  | case3 s op k hg ih =>
    obtain ⟨d, r, hr, hstep⟩ := rawStep_of_getOp_some (idx := idx) hg
    rw [rawIterFrom_unfold, ops_eq, hg, hstep]
    simp only [ih, Option.isSome_map]

theorem rawIter_ok_iff_parses (s : Bytes) : (rawIter s).2 = none ↔ parses s :=
  rawIterFrom_err_iff 0 s

/-! ### FindAndDelete(script, [OP_CODESEPARATOR]) -/

theorem pySlice_window (pre suf : Bytes) (k : Nat) :
    pySlice (pre ++ suf) pre.length (pre.length + k) = suf.take k := by
  unfold pySlice
  rw [List.drop_left, Nat.add_sub_cancel_left]

theorem pySlice_to_end (s : Bytes) (a : Nat) : pySlice s a s.length = s.drop a := by
  unfold pySlice
  rw [List.take_of_length_le (by simp)]

/-- the statement after the loop: `if not skip: r += script[last_sop_idx:]` -/
def fadFinish (script : Bytes) (st : FadState) : Bytes :=
  if !st.skip then st.r ++ script.drop st.last else st.r

theorem fad_fold (script suf : Bytes) : ∀ (pre : Bytes) (st : FadState),
    script = pre ++ suf → (rawIterFrom pre.length suf).2 = none →
    fadFinish script ((rawIterFrom pre.length suf).1.foldl (fadStep script [0xab]) st)
      = st.r ++ (if !st.skip then pySlice script st.last pre.length else []) ++ scriptCodeNoSep suf := by
  induction suf using scriptCodeNoSep.induct with
  | case1 suf hg =>
    intro pre st hs herr
    rw [rawIterFrom_unfold] at herr ⊢
    rw [scriptCodeNoSep_eq, hg]
    by_cases hnil : suf = []
    · subst hnil
      obtain ⟨r0, last0, skip0⟩ := st
      simp only [List.append_nil] at hs
      subst hs
      simp only [rawStep, List.foldl_nil, pySlice_to_end, List.append_nil, fadFinish]
      cases skip0 <;> simp
    · obtain ⟨e, he⟩ := rawStep_of_getOp_none (idx := pre.length) hg hnil
      rw [he] at herr
      simp at herr
  | case2 suf op k hg ih =>
    intro pre st hs herr
    rw [rawIterFrom_unfold] at herr ⊢
    rw [scriptCodeNoSep_eq, hg]
    obtain ⟨d, r, hr, hstep⟩ := rawStep_of_getOp_some (idx := pre.length) hg
    have hb := getOp_bounds hg
    rw [hstep] at herr ⊢
    simp only at herr ⊢
    have hidx : pre.length + (suf.length - (suf.drop k).length) = (pre ++ suf.take k).length := by
      simp only [List.length_drop, List.length_append, List.length_take]; omega
    rw [hidx] at herr ⊢
    have hs' : script = (pre ++ suf.take k) ++ suf.drop k := by
      rw [List.append_assoc, List.take_append_drop]; exact hs
    simp only [List.foldl_cons]
    rw [ih (pre ++ suf.take k) (fadStep script [0xab] st ⟨op.toNat, d, pre.length⟩) hs' herr]
    have hwin1 : pySlice script pre.length (pre.length + 1) = [op] := by
      rw [hs, pySlice_window, hr]; rfl
    have hwink : pySlice script pre.length (pre ++ suf.take k).length = suf.take k := by
      rw [hs, List.length_append, pySlice_window, List.length_take, Nat.min_eq_left hb.2]
    obtain ⟨r0, last0, skip0⟩ := st
    simp only [fadStep, List.length_singleton, hwin1, hwink]
    by_cases hop : op = OP_CODESEPARATOR
    · subst hop
      cases skip0 <;> simp [OP_CODESEPARATOR]
    · have hne : ([op] == ([0xab] : Bytes)) = false := by
        simp only [beq_eq_false_iff_ne, ne_eq, List.cons.injEq, and_true]; exact hop
      cases skip0 <;> simp [hop, hne]

theorem findAndDelete_parses {s : Bytes} (h : parses s) :
    findAndDelete s [0xab] = .ok (scriptCodeNoSep s) := by
  have herr : (rawIterFrom ([] : Bytes).length s).2 = none := (rawIter_ok_iff_parses s).mpr h
  have := fad_fold s s [] ⟨[], 0, true⟩ rfl herr
  have hri : rawIterFrom 0 s = rawIter s := rfl
  simp only [List.length_nil, hri] at herr this
  simp only [findAndDelete, herr]
  show Except.ok (fadFinish s _) = _
  rw [this]
  simp

theorem findAndDelete_not_parses {s : Bytes} (sig : Bytes) (h : ¬ parses s) :
    findAndDelete s sig = .error .invalidscript := by
  have herr : (rawIter s).2 ≠ none := fun hh => h ((rawIter_ok_iff_parses s).mp hh)
  cases hh : (rawIter s).2 with
  | none => exact absurd hh herr
  | some e => simp only [findAndDelete, hh]

theorem noSep_of_ops (s : Bytes) (l : List Bytes) (h : ops s = some l) :
    scriptCodeNoSep s = (l.filter (· ≠ [OP_CODESEPARATOR])).flatten ∧ l.flatten = s := by
  induction s using ops.induct generalizing l with
  | case1 _ =>
    rw [ops_eq] at h; rw [scriptCodeNoSep_eq]
    simp only [getOp_nil, if_true, Option.some.injEq] at h
    subst h
    simp [getOp_nil]
  | case2 s hg hs => rw [ops_eq, hg] at h; simp [hs] at h
  | case3 s op k hg ih =>
    rw [ops_eq, hg] at h; rw [scriptCodeNoSep_eq, hg]
    simp only [Option.map_eq_some_iff] at h
    obtain ⟨l', hl', rfl⟩ := h
    have hb := getOp_bounds hg
    obtain ⟨r, hr⟩ := getOp_head hg
    obtain ⟨ih1, ih2⟩ := ih l' hl'
    refine ⟨?_, by rw [List.flatten_cons, ih2, List.take_append_drop]⟩
    simp only
    rw [ih1]
    by_cases hop : op = OP_CODESEPARATOR
    · subst hop
      have hk := getOp_codesep hg
      subst hk
      simp [hr]
    · have hne : s.take k ≠ [OP_CODESEPARATOR] := by
        obtain ⟨k', rfl⟩ : ∃ k', k = k' + 1 := ⟨k - 1, by omega⟩
        rw [hr, List.take_succ_cons]
        exact fun hh => hop (List.cons.inj hh).1
      simp [hop, hne]

end BtcVerif.SighashProofs

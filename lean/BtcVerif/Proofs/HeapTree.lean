/-
  C09: `decode` of a node; the flags the value level predicts (`flagsOK`); `KindOK`; what the tree of an allocated
  plan looks like — counting bound (`PT.cnt_le`: freshness, for plans referring to immutable objects only, `RefsImm`)
  — and the plan and tree of a clone (`planClone_ok`, `clone_tree`).
-/
import BtcVerif.Proofs.HeapAlloc

namespace BtcVerif.Model.Heap
open BtcVerif BtcVerif.Spec.ValueSem

theorem decodeL_eq_mapO : ∀ ts : List ATree, decodeL ts = mapO decode ts
  | [] => by simp [decodeL, mapO]
  | t :: ts => by
    cases h1 : decode t <;> cases h2 : mapO decode ts <;> simp [decodeL, mapO, h1, decodeL_eq_mapO ts, h2]

theorem decode_node (a : Addr) (m : Bool) (sc : Scalars) (kids : List ATree) :
    decode (.node a m sc kids) = (mapO decode kids).bind (assemble sc) := by
  simp [decode, decodeL_eq_mapO]

/-! ### mutability flags as the value level predicts them -/

mutual
/-- every object's flag is: parent's flag, unless the class has no mutable variant -/
def flagsOK : Bool → ATree → Prop
  | m, .node _ m' _ kids => m' = m ∧ flagsOKL m kids
def flagsOKL : Bool → List ATree → Prop
  | _, [] => True
  | m, k :: ks => flagsOK (m && !k.sc.alwaysImm) k ∧ flagsOKL m ks
end

theorem flagsOKL_iff {m : Bool} : ∀ {ks : List ATree},
    flagsOKL m ks ↔ ∀ k ∈ ks, flagsOK (m && !k.sc.alwaysImm) k
  | [] => by simp [flagsOKL]
  | k :: ks => by simp [flagsOKL, flagsOKL_iff (ks := ks)]

theorem flagsOK_isMut {m : Bool} {t : ATree} (h : flagsOK m t) : t.isMut = m := by
  cases t with | node a m' sc kids => exact h.1

theorem flagsOK_of_imm {h : Heap} (hic : ImmClosed h) {f : Nat} {a : Addr} {t : ATree}
    (hu : unfoldA f h a = some t) (hm : t.isMut = false) : flagsOK false t := by
  revert hm
  refine unfoldA_induct (P := fun _ _ t => t.isMut = false → flagsOK false t) ?_ hu
  intro f a o kids ho _ ihk _ hm
  refine ⟨hm, flagsOKL_iff.mpr fun k hk' => ?_⟩
  obtain ⟨c, hc, huc, ih⟩ := ihk k hk'
  obtain ⟨oc, hoc, hmc⟩ := hic a o ho hm c hc
  simpa using ih ((unfoldA_root huc hoc).1.trans hmc)

theorem ite_range_add {lo mid hi y a b : Nat} (h1 : lo ≤ mid) (h3 : mid ≤ hi)
    (h2 : a ≤ if lo ≤ y ∧ y < mid then 1 else 0) (h4 : b ≤ if mid ≤ y ∧ y < hi then 1 else 0) :
    a + b ≤ if lo ≤ y ∧ y < hi then 1 else 0 := by
  split at h2 <;> split at h4 <;> split <;> omega

theorem ite_range_node {lo a' y b : Nat} (m : Bool) (h1 : lo ≤ a')
    (h4 : b ≤ if lo ≤ y ∧ y < a' then 1 else 0) :
    (if m = true then (if a' = y then 1 else 0) + b else 0) ≤ if lo ≤ y ∧ y < a' + 1 then 1 else 0 := by
  cases m with
  | false => simp
  | true =>
    simp only [if_true]
    split at h4 <;> split <;> split <;> omega

theorem cnt_le_fresh {lo hi y c : Nat} (h : c ≤ if lo ≤ y ∧ y < hi then 1 else 0) :
    c ≤ if lo ≤ y then 1 else 0 := by
  split at h <;> split <;> omega

theorem Chain.get {R : Plan → Nat → Nat → ATree → Prop} :
    ∀ {ps : List Plan} {lo hi : Nat} {ts : List ATree}, Chain R ps lo hi ts →
      ∀ (i : Nat) (p : Plan) (t : ATree), ps[i]? = some p → ts[i]? = some t → ∃ lo' hi', R p lo' hi' t
  | [], _, _, _, _, i, p, t, hp, _ => by simp at hp
  | _ :: _, _, _, [], h, _, _, _, _, _ => by simp [Chain] at h
  | p0 :: ps, lo, hi, t0 :: ts, h, i, p, t, hp, ht => by
    obtain ⟨mid, h0, hc⟩ := h
    cases i with
    | zero => simp at hp ht; subst hp; subst ht; exact ⟨lo, mid, h0⟩
    | succ i => simp at hp ht; exact Chain.get hc i p t hp ht

theorem Chain.cnt_le {R : Plan → Nat → Nat → ATree → Prop} (y : Addr)
    (hR : ∀ p lo hi t, R p lo hi t → lo ≤ hi ∧ cnt y t ≤ (if lo ≤ y ∧ y < hi then 1 else 0)) :
    ∀ {ps : List Plan} {lo hi : Nat} {ts : List ATree}, Chain R ps lo hi ts →
      lo ≤ hi ∧ cntL y ts ≤ (if lo ≤ y ∧ y < hi then 1 else 0)
  | [], _, _, [], h => by simp [Chain] at h; subst h; simp [cntL]
  | [], _, _, _ :: _, h => by simp [Chain] at h
  | _ :: _, _, _, [], h => by simp [Chain] at h
  | p :: ps, lo, hi, t :: ts, h => by
    obtain ⟨mid, h0, hc⟩ := h
    obtain ⟨h1, h2⟩ := hR p lo mid t h0
    obtain ⟨h3, h4⟩ := Chain.cnt_le y hR hc
    refine ⟨by omega, ?_⟩
    simp only [cntL]
    exact ite_range_add h1 h3 h2 h4

/-- the references of the plan are immutable objects of the base heap -/
def RefsImm (h0 : Heap) : Nat → Plan → Prop
  | _, .ref a => ∃ o : Obj, h0[a]? = some o ∧ o.isMut = false
  | 0, .node _ _ _ => False
  | f + 1, .node _ _ kids => ∀ k ∈ kids, RefsImm h0 f k

theorem PT.cnt_le {h0 : Heap} (y : Addr) : ∀ {f : Nat} {p : Plan} {lo hi : Nat} {t : ATree},
    PT h0 f p lo hi t → RefsImm h0 f p → lo ≤ hi ∧ cnt y t ≤ (if lo ≤ y ∧ y < hi then 1 else 0)
  | f, .ref a, lo, hi, t, hpt, hr => by
    have hpt' : lo = hi ∧ unfoldA f h0 a = some t := by cases f <;> simpa [PT] using hpt
    have hr' : ∃ o : Obj, h0[a]? = some o ∧ o.isMut = false := by cases f <;> simpa [RefsImm] using hr
    obtain ⟨rfl, hu⟩ := hpt'
    obtain ⟨o, ho, hm⟩ := hr'
    refine ⟨Nat.le_refl _, ?_⟩
    cases f with
    | zero => simp [unfoldA] at hu
    | succ f =>
      obtain ⟨o2, kids, ho2, _, rfl⟩ := unfoldA_succ hu
      rw [ho] at ho2; cases ho2
      simp [cnt, hm]
  | 0, .node _ _ _, _, _, _, hpt, _ => by simp [PT] at hpt
  | f + 1, .node m sc kids, lo, hi, .node a' m' sc' kids', hpt, hr => by
    simp only [PT] at hpt
    simp only [RefsImm] at hr
    obtain ⟨rfl, hlo, rfl, rfl, hch⟩ := hpt
    have hc := Chain.cnt_le (R := fun p lo hi t => PT h0 f p lo hi t ∧ RefsImm h0 f p) y
      (fun p lo hi t hh => PT.cnt_le y hh.1 hh.2) (ps := kids) (lo := lo) (hi := a') (ts := kids') (by
        -- strengthen the chain with the hypothesis on the kids
        have : ∀ (ps : List Plan) (lo hi : Nat) (ts : List ATree), (∀ k ∈ ps, RefsImm h0 f k) →
            Chain (PT h0 f) ps lo hi ts →
            Chain (fun p lo hi t => PT h0 f p lo hi t ∧ RefsImm h0 f p) ps lo hi ts := by
          intro ps
          induction ps with
          | nil => intro lo hi ts _ hc; cases ts <;> simp [Chain] at hc ⊢ <;> exact hc
          | cons p ps ih =>
            intro lo hi ts hr hc
            cases ts with
            | nil => simp [Chain] at hc
            | cons t ts =>
              obtain ⟨mid, h0', hc'⟩ := hc
              exact ⟨mid, ⟨h0', hr p (by simp)⟩, ih mid hi ts (fun k hk => hr k (by simp [hk])) hc'⟩
        exact this kids lo a' kids' hr hch)
    refine ⟨by omega, ?_⟩
    simp only [cnt]
    obtain ⟨h3, h4⟩ := hc
    exact ite_range_node m' h3 h4

/-! ### clones -/

def KindOK (h : Heap) : Prop :=
  ∀ (a : Addr) (o : Obj), h[a]? = some o → o.sc.alwaysImm = true → o.isMut = false

theorem rebuilt_not_alwaysImm {sc : Scalars} (h : sc.rebuilt = true) : sc.alwaysImm = false := by
  cases sc with
  | seq k => cases k <;> simp [Scalars.rebuilt] at h <;> rfl
  | _ => simp [Scalars.rebuilt] at h

/-- an object that the clone rebuilds although its class has no mutable variant is rebuilt immutable: such
    objects are immutable (`KindOK`), and the mutable `from_*` returns an immutable one of them as it is -/
theorem planClone_rebuilt_flag {h : Heap} (hk : KindOK h) {a : Addr} {o : Obj} (ho : h[a]? = some o) {tm : Bool}
    (hcond : ¬(!o.sc.rebuilt && !o.isMut && (!tm || o.sc.alwaysImm)) = true) :
    (tm && !o.sc.alwaysImm) = tm := by
  cases htm : tm with
  | false => rfl
  | true =>
    cases hai : o.sc.alwaysImm with
    | false => rfl
    | true =>
      exfalso
      apply hcond
      have hnr : o.sc.rebuilt = false := by
        cases hr : o.sc.rebuilt with
        | false => rfl
        | true => rw [rebuilt_not_alwaysImm hr] at hai; cases hai
      simp [hnr, hk a o ho hai, hai, htm]

theorem planClone_ok {h : Heap} (hk : KindOK h) (tm : Bool) : ∀ {f : Nat} {a : Addr} {t : ATree} {p : Plan},
    unfoldA f h a = some t → planClone tm f h a = some p →
      Fits h f p ∧ RefsImm h f p ∧ ImmPlan h f p ∧
      PlanAll (fun m sc => (sc.alwaysImm = true → m = false)) f p ∧ (tm = false → rootImm h p)
  | 0, _, _, _, hu, _ => by simp [unfoldA] at hu
  | f + 1, a, t, p, hu, hp => by
    obtain ⟨o, kids, ho, hkids, rfl⟩ := unfoldA_succ hu
    simp only [planClone, ho] at hp
    split at hp
    · -- returned as is
      rename_i hcond
      cases hp
      simp only [Bool.and_eq_true, Bool.not_eq_true', Bool.or_eq_true] at hcond
      refine ⟨⟨_, hu⟩, ⟨o, ho, hcond.1.2⟩, trivial, trivial, fun _ => ⟨o, ho, hcond.1.2⟩⟩
    · rename_i hcond
      cases hm : mapO (planClone tm f h) o.refs with
      | none => simp [hm] at hp
      | some plans =>
        simp only [hm, Option.map_some, Option.some.injEq] at hp
        subst hp
        have hall : ∀ k ∈ plans, ∃ c ∈ o.refs, ∃ tc, unfoldA f h c = some tc ∧ planClone tm f h c = some k := by
          intro k hk'
          obtain ⟨c, hc, hpc⟩ := mapO_mem hm hk'
          obtain ⟨tc, _, htc⟩ := mapO_mem' hkids hc
          exact ⟨c, hc, tc, htc, hpc⟩
        refine ⟨?_, ?_, ⟨?_, ?_⟩, ⟨?_, ?_⟩, fun htm => htm⟩
        · intro k hk'
          obtain ⟨c, _, tc, htc, hpc⟩ := hall k hk'
          exact (planClone_ok hk tm htc hpc).1
        · intro k hk'
          obtain ⟨c, _, tc, htc, hpc⟩ := hall k hk'
          exact (planClone_ok hk tm htc hpc).2.1
        · intro htm k hk'
          obtain ⟨c, _, tc, htc, hpc⟩ := hall k hk'
          exact (planClone_ok hk tm htc hpc).2.2.2.2 htm
        · intro k hk'
          obtain ⟨c, _, tc, htc, hpc⟩ := hall k hk'
          exact (planClone_ok hk tm htc hpc).2.2.1
        · intro hai
          have := planClone_rebuilt_flag hk ho hcond
          rw [hai] at this
          exact this.symm.trans (Bool.and_false tm)
        · intro k hk'
          obtain ⟨c, _, tc, htc, hpc⟩ := hall k hk'
          exact (planClone_ok hk tm htc hpc).2.2.2.1

theorem clone_tree {h : Heap} (hic : ImmClosed h) (hk : KindOK h) (tm : Bool) :
    ∀ {f : Nat} {a : Addr} {t t' : ATree} {p : Plan} {lo hi : Nat},
      unfoldA f h a = some t → planClone tm f h a = some p → PT h f p lo hi t' →
        decode t' = decode t ∧ t'.sc = t.sc ∧ flagsOK (tm && !t'.sc.alwaysImm) t'
  | 0, _, _, _, _, _, _, hu, _, _ => by simp [unfoldA] at hu
  | f + 1, a, t, t', p, lo, hi, hu, hp, hpt => by
    obtain ⟨o, kids, ho, hkids, rfl⟩ := unfoldA_succ hu
    simp only [planClone, ho] at hp
    split at hp
    · rename_i hcond
      cases hp
      simp only [PT] at hpt
      rw [hu] at hpt
      obtain ⟨_, hpt⟩ := hpt
      cases hpt
      simp only [Bool.and_eq_true, Bool.not_eq_true', Bool.or_eq_true] at hcond
      refine ⟨rfl, rfl, ?_⟩
      have hfl := flagsOK_of_imm hic hu (by simpa [ATree.isMut] using hcond.1.2)
      have : (tm && !o.sc.alwaysImm) = false := by
        rcases hcond.2 with h1 | h1 <;> simp [h1]
      simpa [ATree.sc, this] using hfl
    · rename_i hcond
      cases hm : mapO (planClone tm f h) o.refs with
      | none => simp [hm] at hp
      | some plans =>
        simp only [hm, Option.map_some, Option.some.injEq] at hp
        subst hp
        cases t' with | node a' m' sc' kids' =>
        simp only [PT] at hpt
        obtain ⟨_, _, hm', hsc', hch⟩ := hpt
        subst m'; subst sc'
        have hlen1 := mapO_length hkids
        have hlen2 := mapO_length hm
        have hlen3 := Chain.length_eq hch
        have hpoint : ∀ (i : Nat) (k k' : ATree), kids[i]? = some k → kids'[i]? = some k' →
            decode k' = decode k ∧ k'.sc = k.sc ∧ flagsOK (tm && !k'.sc.alwaysImm) k' := by
          intro i k k' hki hki'
          obtain ⟨c, hci, huc⟩ := mapO_getElem' hkids i k hki
          obtain ⟨pl, hpli, hpc⟩ := mapO_getElem hm i c hci
          obtain ⟨lo', hi', hpt'⟩ := Chain.get hch i pl k' hpli hki'
          exact clone_tree hic hk tm huc hpc hpt'
        refine ⟨?_, rfl, ?_, ?_⟩
        · rw [decode_node, decode_node]
          congr 1
          apply mapO_congr_idx (by omega)
          intro i k' k hk' hk0
          exact (hpoint i k k' hk0 hk').1
        · exact (planClone_rebuilt_flag hk ho hcond).symm
        · simp only [ATree.sc]
          have hflag : (tm && !o.sc.alwaysImm) = tm := planClone_rebuilt_flag hk ho hcond
          rw [hflag]
          apply flagsOKL_iff.mpr
          intro k' hk'
          obtain ⟨i, hi, rfl⟩ := List.getElem_of_mem hk'
          have hi0 : i < kids.length := by omega
          exact (hpoint i kids[i] kids'[i] (List.getElem?_eq_getElem hi0) (List.getElem?_eq_getElem hi)).2.2

end BtcVerif.Model.Heap

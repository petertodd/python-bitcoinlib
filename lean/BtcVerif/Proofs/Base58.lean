/-
  Base58 and Base58Check (C10): the alphabet as a bijection between digits and characters; base-58 numerals
  and minimal big-endian bytes are inverse to their values; leading zeros; hence the reference codec is a bijection
  (`spec_dec_enc`, `spec_enc_dec`).  The model computes it: `encode_eq_enc`, `decode_eq_dec` (through the hex
  round trip of `decode`), and `CBase58Data(s)` is reference decoding followed by the check rule (`new_eq_spec`).
-/
import BtcVerif.Model.Base58
import BtcVerif.Proofs.Der
import Mathlib.Data.List.Induction

namespace BtcVerif.Base58Proofs
open BtcVerif BtcVerif.Spec.Base58 BtcVerif.Model.Base58

theorem head?_append_ne_nil {α : Type} (l m : List α) (h : l ≠ []) : (l ++ m).head? = l.head? := by
  cases l with
  | nil => exact absurd rfl h
  | cons x xs => rfl

/-! ### the alphabet -/

theorem idx_digitChar_fin : ∀ r : Fin 58, alphabetChars.idxOf? (digitChar r.val) = some r.val := by
  decide +kernel

theorem charDigit_digitChar (n : Nat) : charDigit? (digitChar n) = some (n % 58) := by
  have h := idx_digitChar_fin ⟨n % 58, Nat.mod_lt _ (by decide)⟩
  simp only [digitChar, Nat.mod_mod] at h ⊢
  exact h

theorem charDigit_some {c : Char} {d : Nat} (h : charDigit? c = some d) : d < 58 ∧ digitChar d = c := by
  unfold charDigit? at h
  rw [List.idxOf?_eq_some_iff] at h
  obtain ⟨hd, hc, _⟩ := h
  have hd' : d < 58 := by rw [← alphabetChars_length]; exact hd
  refine ⟨hd', ?_⟩
  simp only [digitChar, Nat.mod_eq_of_lt hd']
  exact hc

theorem charDigit_none_iff {c : Char} : charDigit? c = none ↔ c ∉ alphabetChars := by
  unfold charDigit?; exact List.idxOf?_eq_none_iff

theorem digitChar_zero : digitChar 0 = '1' := by decide +kernel

theorem charDigit_one : charDigit? '1' = some 0 := by
  rw [← digitChar_zero]; exact charDigit_digitChar 0

theorem charDigit_zero_iff {c : Char} : charDigit? c = some 0 ↔ c = '1' := by
  constructor
  · intro h; have := (charDigit_some h).2; rw [digitChar_zero] at this; exact this.symm
  · intro h; subst h; exact charDigit_one

/-! ### base-58 numerals -/

/-- one step of `value58` -/
def step (acc : Option Nat) (c : Char) : Option Nat :=
  acc.bind fun a => (charDigit? c).map fun d => a * 58 + d

theorem value58_eq (s : List Char) : value58 s = s.foldl step (some 0) := by
  have h : (fun acc c => match acc, charDigit? c with
      | some a, some d => some (a * 58 + d)
      | _, _ => none) = step := by
    funext acc c
    unfold step
    cases acc <;> cases charDigit? c <;> rfl
  unfold value58
  exact congrArg (fun f => s.foldl f (some 0)) h

theorem foldl_step_none (s : List Char) : s.foldl step none = none := by
  induction s with
  | nil => rfl
  | cons c cs ih => simpa [List.foldl, step] using ih

theorem value58_nil : value58 [] = some 0 := rfl

theorem value58_append_singleton (s : List Char) (c : Char) :
    value58 (s ++ [c]) = step (value58 s) c := by
  simp [value58_eq, List.foldl_append]

theorem value58_cons_one (s : List Char) : value58 ('1' :: s) = value58 s := by
  simp [value58_eq, List.foldl, step, charDigit_one]

theorem value58_replicate_append (z : Nat) (s : List Char) :
    value58 (List.replicate z '1' ++ s) = value58 s := by
  induction z with
  | zero => simp
  | succ z ih => rw [List.replicate_succ, List.cons_append, value58_cons_one, ih]

theorem numeral58_zero : numeral58 0 = [] := by unfold numeral58; simp

theorem numeral58_pos {n : Nat} (h : n ≠ 0) : numeral58 n = numeral58 (n / 58) ++ [digitChar n] := by
  rw [numeral58]; simp [h]

theorem numeral58_ne_nil {n : Nat} (h : n ≠ 0) : numeral58 n ≠ [] := by
  rw [numeral58_pos h]; simp

theorem value58_numeral58 (n : Nat) : value58 (numeral58 n) = some n := by
  induction n using Nat.strongRecOn with
  | _ n ih =>
    by_cases h : n = 0
    · subst h; rw [numeral58_zero]; rfl
    · rw [numeral58_pos h, value58_append_singleton, ih (n / 58) (by omega)]
      simp only [step, Option.bind_some, Option.map_some, charDigit_digitChar, Option.some.injEq]
      omega

theorem numeral58_noLead (n : Nat) : (numeral58 n).head? ≠ some '1' := by
  induction n using Nat.strongRecOn with
  | _ n ih =>
    by_cases h : n = 0
    · rw [h, numeral58_zero]; simp
    · rw [numeral58_pos h]
      by_cases hq : n / 58 = 0
      · rw [hq, numeral58_zero, List.nil_append, List.head?_cons, ne_eq, Option.some.injEq,
          ← charDigit_zero_iff, charDigit_digitChar, Option.some.injEq]
        omega
      · rw [head?_append_ne_nil _ _ (numeral58_ne_nil hq)]
        exact ih _ (by omega)

theorem foldl_step_cons (a : Nat) (c : Char) (s : List Char) :
    (c :: s).foldl step (some a) =
      (charDigit? c).bind fun d => s.foldl step (some (a * 58 + d)) := by
  rw [List.foldl_cons, show step (some a) c = (charDigit? c).map fun d => a * 58 + d from rfl]
  cases charDigit? c with
  | none => exact foldl_step_none s
  | some d => rfl

theorem digitChar_mod (n : Nat) : digitChar (n % 58) = digitChar n := by
  simp only [digitChar, Nat.mod_mod]

theorem numeral58_foldl (s : List Char) (a n : Nat) (hv : s.foldl step (some a) = some n)
    (hl : a ≠ 0 ∨ s.head? ≠ some '1') : numeral58 n = numeral58 a ++ s := by
  induction s generalizing a with
  | nil =>
    rw [List.foldl_nil, Option.some.injEq] at hv
    rw [hv, List.append_nil]
  | cons c s ih =>
    rw [foldl_step_cons] at hv
    cases hd : charDigit? c with
    | none => rw [hd] at hv; cases hv
    | some d =>
      rw [hd, Option.bind_some] at hv
      obtain ⟨hd58, hdc⟩ := charDigit_some hd
      have hd0 : a ≠ 0 ∨ d ≠ 0 := hl.imp id fun h h0 => h (by rw [← hdc, h0, digitChar_zero]; rfl)
      have ha' : a * 58 + d ≠ 0 := by omega
      rw [ih (a * 58 + d) hv (Or.inl ha'), numeral58_pos ha', ← digitChar_mod,
        show (a * 58 + d) / 58 = a by omega, show (a * 58 + d) % 58 = d by omega, hdc, List.append_assoc]
      rfl

theorem numeral58_value58 (s : List Char) (n : Nat) (hv : value58 s = some n) (hl : s.head? ≠ some '1') :
    numeral58 n = s := by
  rw [value58_eq] at hv
  rw [numeral58_foldl s 0 n hv (Or.inr hl), numeral58_zero, List.nil_append]

theorem foldl_step_isSome_iff (s : List Char) (a : Nat) :
    (s.foldl step (some a)).isSome ↔ ∀ c ∈ s, c ∈ alphabetChars := by
  induction s generalizing a with
  | nil => simp
  | cons c s ih =>
    rw [foldl_step_cons, List.forall_mem_cons]
    cases hd : charDigit? c with
    | none => simp [charDigit_none_iff.1 hd]
    | some d =>
      have hc : c ∈ alphabetChars := by
        by_contra hn
        rw [charDigit_none_iff.2 hn] at hd
        cases hd
      simp [ih, hc]

theorem value58_isSome_iff (s : List Char) : (value58 s).isSome ↔ ∀ c ∈ s, c ∈ alphabetChars := by
  rw [value58_eq]; exact foldl_step_isSome_iff s 0

theorem foldl_step_zero (s : List Char) (a : Nat) (h : s.foldl step (some a) = some 0) :
    a = 0 ∧ s = List.replicate s.length '1' := by
  induction s generalizing a with
  | nil => exact ⟨Option.some.inj h, rfl⟩
  | cons c s ih =>
    rw [foldl_step_cons] at h
    cases hd : charDigit? c with
    | none => rw [hd] at h; cases h
    | some d =>
      rw [hd, Option.bind_some] at h
      obtain ⟨h0, hs⟩ := ih _ h
      have hd0 : d = 0 := by omega
      rw [hd0, charDigit_zero_iff] at hd
      rw [hd, List.length_cons, List.replicate_succ, ← hs]
      exact ⟨by omega, rfl⟩

theorem value58_zero_all_ones (s : List Char) (h : value58 s = some 0) : s = List.replicate s.length '1' := by
  rw [value58_eq] at h; exact (foldl_step_zero s 0 h).2

/-! ### minimal big-endian bytes -/

theorem bytesBE_zero : bytesBE 0 = [] := by unfold bytesBE; simp

theorem bytesBE_pos {n : Nat} (h : n ≠ 0) : bytesBE n = bytesBE (n / 256) ++ [UInt8.ofNat (n % 256)] := by
  rw [bytesBE]; simp [h]

theorem bytesBE_eq_beMin (n : Nat) : bytesBE n = Crypto.Secp256k1.beMin n := by
  induction n using Nat.strongRecOn with
  | _ n ih =>
    by_cases h : n = 0
    · rw [h, bytesBE_zero, beMin_zero]
    · rw [bytesBE_pos h, beMin_pos h, ih (n / 256) (by omega)]

theorem noLead0_iff (b : Bytes) : NoLead0 b ↔ b.head? ≠ some 0 := by
  cases b with
  | nil => simp [NoLead0]
  | cons x xs =>
    simp only [NoLead0, List.head?_cons, ne_eq, Option.some.injEq]
    exact not_congr ⟨fun h => by rw [byte_eq_ofNat h]; rfl, fun h => by rw [h]; rfl⟩

theorem beNat_bytesBE (n : Nat) : beNat (bytesBE n) = n := by
  rw [bytesBE_eq_beMin]; exact beNat_beMin n

theorem bytesBE_noLead (n : Nat) : (bytesBE n).head? ≠ some 0 := by
  rw [bytesBE_eq_beMin, ← noLead0_iff]; exact noLead0_beMin n

theorem bytesBE_beNat (b : Bytes) (hl : b.head? ≠ some 0) : bytesBE (beNat b) = b := by
  rw [bytesBE_eq_beMin]; exact beMin_beNat ((noLead0_iff b).2 hl)

/-! ### leading zero digits -/

theorem takeWhile_eq_replicate {α : Type} [BEq α] [LawfulBEq α] (a : α) (l : List α) :
    l.takeWhile (· == a) = List.replicate (l.takeWhile (· == a)).length a := by
  induction l with
  | nil => rfl
  | cons x xs ih =>
    rw [List.takeWhile_cons]
    by_cases h : (x == a) = true
    · simp only [h, if_true, List.length_cons, List.replicate_succ]
      rw [← ih, eq_of_beq h]
    · simp [h]

theorem dropWhile_head {α : Type} [BEq α] [LawfulBEq α] (a : α) (l : List α) :
    (l.dropWhile (· == a)).head? ≠ some a := by
  induction l with
  | nil => simp
  | cons x xs ih =>
    rw [List.dropWhile_cons]
    by_cases h : (x == a) = true
    · simpa [h] using ih
    · simp only [h]
      simp only [Bool.false_eq_true, if_false, List.head?_cons, ne_eq, Option.some.injEq]
      intro hx; subst hx; simp at h

theorem split_leading {α : Type} [BEq α] [LawfulBEq α] (a : α) (l : List α) :
    ∃ l', l = List.replicate (l.takeWhile (· == a)).length a ++ l' ∧ l'.head? ≠ some a :=
  ⟨l.dropWhile (· == a), by rw [← takeWhile_eq_replicate, List.takeWhile_append_dropWhile],
    dropWhile_head a l⟩

theorem leading_replicate_append {α : Type} [BEq α] [LawfulBEq α] (a : α) (z : Nat) (l : List α)
    (h : l.head? ≠ some a) : ((List.replicate z a ++ l).takeWhile (· == a)).length = z := by
  induction z with
  | zero =>
    cases l with
    | nil => rfl
    | cons x xs =>
      have : x ≠ a := by simpa using h
      simp [this]
  | succ z ih =>
    rw [List.replicate_succ, List.cons_append, List.takeWhile_cons]
    simp only [beq_self_eq_true, if_true, List.length_cons, ih]

theorem bytes_split (b : Bytes) :
    ∃ b', b = List.replicate (leadingZeros b) 0 ++ b' ∧ b'.head? ≠ some 0 := split_leading 0 b

theorem chars_split (s : List Char) :
    ∃ s', s = List.replicate (leadingOnes s) '1' ++ s' ∧ s'.head? ≠ some '1' := split_leading '1' s

theorem leadingZeros_replicate_append (z : Nat) (b : Bytes) (h : b.head? ≠ some 0) :
    leadingZeros (List.replicate z 0 ++ b) = z := leading_replicate_append 0 z b h

theorem leadingOnes_replicate_append (z : Nat) (s : List Char) (h : s.head? ≠ some '1') :
    leadingOnes (List.replicate z '1' ++ s) = z := leading_replicate_append '1' z s h

theorem numeral58_head_range (k : Nat) : ∀ (lo hi N : Nat), 1 ≤ lo → hi ≤ 58 →
    lo * 58 ^ k ≤ N → N < hi * 58 ^ k →
    ∃ d, lo ≤ d ∧ d < hi ∧ (numeral58 N).head? = some (digitChar d) := by
  induction k with
  | zero =>
    intro lo hi N hlo hhi h1 h2
    simp only [Nat.pow_zero, Nat.mul_one] at h1 h2
    refine ⟨N, h1, h2, ?_⟩
    have hN : N ≠ 0 := by omega
    have hq : N / 58 = 0 := by omega
    rw [numeral58_pos hN, hq, numeral58_zero]
    rfl
  | succ k ih =>
    intro lo hi N hlo hhi h1 h2
    have hpos : 0 < 58 ^ (k + 1) := Nat.pow_pos (by decide)
    have hN : N ≠ 0 := by
      have : 1 * 58 ^ (k + 1) ≤ lo * 58 ^ (k + 1) := Nat.mul_le_mul_right _ hlo
      omega
    have h1' : lo * 58 ^ k ≤ N / 58 := by
      rw [Nat.le_div_iff_mul_le (by decide)]
      rw [Nat.pow_succ, ← Nat.mul_assoc] at h1; exact h1
    have h2' : N / 58 < hi * 58 ^ k := by
      rw [Nat.div_lt_iff_lt_mul (by decide)]
      rw [Nat.pow_succ, ← Nat.mul_assoc] at h2; exact h2
    obtain ⟨d, hd1, hd2, hd⟩ := ih lo hi (N / 58) hlo hhi h1' h2'
    refine ⟨d, hd1, hd2, ?_⟩
    rw [numeral58_pos hN]
    have hne : numeral58 (N / 58) ≠ [] := by
      intro h0; rw [h0] at hd; simp at hd
    rw [head?_append_ne_nil _ _ hne, hd]

theorem leadingZeros_cons_ne (v : UInt8) (rest : Bytes) (hv : v ≠ 0) : leadingZeros (v :: rest) = 0 := by
  simp [leadingZeros, List.takeWhile_cons, hv]

/-! ### the reference codec is a bijection -/

theorem spec_dec_enc (b : Bytes) : dec (enc b) = some b := by
  obtain ⟨b', hb, hl⟩ := bytes_split b
  have hn : beNat b = beNat b' := by
    conv_lhs => rw [hb]
    exact beNat_replicate_zero_append _ _
  unfold dec enc
  rw [value58_replicate_append, hn, value58_numeral58]
  simp only [Option.map_some, Option.some.injEq]
  rw [leadingOnes_replicate_append _ _ (numeral58_noLead _), bytesBE_beNat b' hl]
  exact hb.symm

theorem spec_enc_dec (s : List Char) (b : Bytes) (h : dec s = some b) : enc b = s := by
  obtain ⟨s', hs, hl⟩ := chars_split s
  unfold dec at h
  cases hv : value58 s with
  | none => simp [hv] at h
  | some n =>
    simp only [hv, Option.map_some, Option.some.injEq] at h
    have hv' : value58 s' = some n := by
      rw [hs, value58_replicate_append] at hv; exact hv
    subst h
    unfold enc
    rw [leadingZeros_replicate_append _ _ (bytesBE_noLead n), beNat_replicate_zero_append, beNat_bytesBE,
      numeral58_value58 s' n hv' hl]
    exact hs.symm

/-! ### the model's encoder -/

theorem b58Digit_eq (n : Nat) : b58Digit n = digitChar n := rfl

theorem encodeLoop_eq (n : Nat) (res : List Char) : encodeLoop n res = res ++ (numeral58 n).reverse := by
  induction n using Nat.strongRecOn generalizing res with
  | _ n ih =>
    rw [encodeLoop]
    by_cases h : n = 0
    · subst h; simp [numeral58_zero]
    · have hp : n > 0 := by omega
      simp only [hp, dite_true]
      rw [ih (n / 58) (by omega), numeral58_pos h, b58Digit_eq]
      simp

theorem zeroPrefix_eq (b : Bytes) : zeroPrefix b = leadingZeros b := by
  unfold leadingZeros
  induction b with
  | nil => rfl
  | cons x xs ih =>
    rw [zeroPrefix, List.takeWhile_cons]
    by_cases h : (x == 0) = true
    · simp [h, ih]
    · simp [h]

theorem onePrefix_eq (s : List Char) : onePrefix s = leadingOnes s := by
  unfold leadingOnes
  induction s with
  | nil => rfl
  | cons x xs ih =>
    rw [onePrefix, List.takeWhile_cons]
    by_cases h : (x == '1') = true
    · simp [h, ih]
    · simp [h]

theorem encode_eq_enc (b : Bytes) : encode b = enc b := by
  unfold encode enc
  simp only [encodeLoop_eq, List.nil_append, List.reverse_reverse, zeroPrefix_eq]

/-! ### the model's decoder -/

theorem decodeLoop_eq (s : List Char) (n : Nat) :
    decodeLoop s n = match s.foldl step (some n) with
                     | some m => .ok m
                     | none => .error .b58err := by
  induction s generalizing n with
  | nil => rfl
  | cons c cs ih =>
    rw [decodeLoop, List.foldl_cons]
    cases hd : alphabetChars.idxOf? c with
    | none =>
      have : step (some n) c = none := by simp [step, charDigit?, hd]
      simp [this, foldl_step_none]
    | some d =>
      have : step (some n) c = some (n * 58 + d) := by simp [step, charDigit?, hd]
      simp only [this]
      exact ih _

/-- `'%x' % n`, zero-padded to even length -/
def evenHex (n : Nat) : List Char :=
  let h := hexOfNat n
  if h.length % 2 = 1 then '0' :: h else h

/-- what `unhexlify` yields: the minimal big-endian bytes, one zero byte for zero -/
def bytesBE1 (n : Nat) : Bytes := if n = 0 then [0] else bytesBE n

theorem hexVal_hexDigit : ∀ {d : Nat}, d < 16 → hexVal? (hexDigit d) = some d := by decide

theorem ofHexChars_append_pair (l : List Char) (a b : Char) :
    ofHexChars? (l ++ [a, b]) =
      (ofHexChars? l).bind fun r => (hexVal? a).bind fun x => (hexVal? b).bind fun y =>
        some (r ++ [UInt8.ofNat (16 * x + y)]) := by
  induction l using ofHexChars?.induct with
  | case1 =>
    simp only [List.nil_append, ofHexChars?]
    cases hexVal? a <;> cases hexVal? b <;> simp
  | case2 c =>
    simp only [List.cons_append, List.nil_append, ofHexChars?]
    cases hexVal? c <;> cases hexVal? a <;> simp
  | case3 c d rest ih =>
    simp only [List.cons_append, ofHexChars?, ih]
    cases hexVal? c <;> cases hexVal? d <;> cases ofHexChars? rest <;> simp [Option.bind_assoc]

theorem hexOfNat_small {n : Nat} (h : n < 16) : hexOfNat n = [hexDigit n] := by
  rw [hexOfNat]; simp [h]

theorem hexOfNat_big {n : Nat} (h : ¬ n < 16) : hexOfNat n = hexOfNat (n / 16) ++ [hexDigit (n % 16)] := by
  rw [hexOfNat]; simp [h]

theorem hexOfNat_256 {n : Nat} (h : 256 ≤ n) :
    hexOfNat n = hexOfNat (n / 256) ++ [hexDigit (n / 16 % 16), hexDigit (n % 16)] := by
  rw [hexOfNat_big (by omega), hexOfNat_big (n := n / 16) (by omega)]
  have : n / 16 / 16 = n / 256 := by omega
  rw [this]; simp

theorem evenHex_256 {n : Nat} (h : 256 ≤ n) :
    evenHex n = evenHex (n / 256) ++ [hexDigit (n / 16 % 16), hexDigit (n % 16)] := by
  unfold evenHex
  simp only [hexOfNat_256 h, List.length_append, List.length_cons, List.length_nil]
  have : (hexOfNat (n / 256)).length + (0 + 1 + 1) = (hexOfNat (n / 256)).length + 2 := by omega
  rw [this, Nat.add_mod_right]
  split <;> simp

theorem unhex_evenHex (n : Nat) : ofHexChars? (evenHex n) = some (bytesBE1 n) := by
  induction n using Nat.strongRecOn with
  | _ n ih =>
    by_cases h16 : n < 16
    · simp only [evenHex, hexOfNat_small h16, List.length_singleton, if_true, ofHexChars?]
      have h0 : hexVal? '0' = some 0 := by decide
      simp only [h0, hexVal_hexDigit h16, Option.bind_eq_bind, Option.bind_some, Option.pure_def]
      unfold bytesBE1
      by_cases hz : n = 0
      · subst hz; simp
      · have h1 : n / 256 = 0 := by omega
        have h2 : n % 256 = n := by omega
        simp [hz, bytesBE_pos hz, h1, h2, bytesBE_zero]
    · by_cases h256 : n < 256
      · have hq : n / 16 < 16 := by omega
        have hr : n % 16 < 16 := by omega
        have hz : n ≠ 0 := by omega
        have h1 : n / 256 = 0 := by omega
        have h2 : n % 256 = n := by omega
        have h3 : 16 * (n / 16) + n % 16 = n := by omega
        simp [evenHex, hexOfNat_big h16, hexOfNat_small hq, ofHexChars?, hexVal_hexDigit hq,
          hexVal_hexDigit hr, bytesBE1, hz, bytesBE_pos hz, h1, h2, bytesBE_zero]
        simpa [UInt8.ofNat_add, UInt8.ofNat_mul] using congrArg UInt8.ofNat h3
      · have h256' : 256 ≤ n := by omega
        have hq : n / 16 % 16 < 16 := by omega
        have hr : n % 16 < 16 := by omega
        rw [evenHex_256 h256', ofHexChars_append_pair, ih (n / 256) (by omega)]
        simp only [hexVal_hexDigit hq, hexVal_hexDigit hr, Option.bind_some]
        have hz : n ≠ 0 := by omega
        have hz' : n / 256 ≠ 0 := by omega
        have h3 : 16 * (n / 16 % 16) + n % 16 = n % 256 := by omega
        simp [bytesBE1, hz, hz', bytesBE_pos hz, h3]

theorem leadingOnes_dropLast (s : List Char) (h : leadingOnes s < s.length) :
    leadingOnes s.dropLast = leadingOnes s := by
  unfold leadingOnes at *
  induction s with
  | nil => rfl
  | cons c cs ih =>
    rw [List.takeWhile_cons] at h ⊢
    by_cases hc : (c == '1') = true
    · simp only [hc, if_true, List.length_cons] at h ⊢
      have hne : cs ≠ [] := by
        intro h0; subst h0; simp at h
      rw [List.dropLast_cons_of_ne_nil hne, List.takeWhile_cons]
      simp only [hc, if_true, List.length_cons]
      rw [ih (by omega)]
    · simp only [hc]
      cases cs with
      | nil => simp
      | cons d ds => simp [List.takeWhile_cons, hc]

theorem leadingOnes_replicate (k : Nat) : leadingOnes (List.replicate k '1') = k := by
  have := leadingOnes_replicate_append k [] (by simp)
  simpa using this

theorem decode_eq_dec (s : List Char) :
    decode s = match dec s with
               | some b => .ok b
               | none => .error .b58err := by
  unfold decode
  by_cases hs : s = []
  · subst hs; simp [dec, value58_nil, leadingOnes, bytesBE_zero]
  · have hne : s.isEmpty = false := by simpa using hs
    simp only [hne, Bool.false_eq_true, if_false]
    rw [decodeLoop_eq, ← value58_eq]
    unfold dec
    cases hv : value58 s with
    | none => simp
    | some n =>
      simp only [Option.map_some]
      have hx := unhex_evenHex n
      unfold evenHex at hx
      simp only at hx
      rw [hx]
      simp only [onePrefix_eq, Except.ok.injEq]
      unfold bytesBE1
      by_cases hz : n = 0
      · subst hz
        have hall := value58_zero_all_ones s hv
        have hlen : 0 < s.length := List.length_pos_iff.mpr hs
        obtain ⟨k, hk⟩ : ∃ k, s.length = k + 1 := ⟨s.length - 1, by omega⟩
        rw [hall, hk]
        have hd : (List.replicate (k + 1) '1').dropLast = List.replicate k '1' := by
          rw [List.replicate_succ']; simp
        rw [hd, leadingOnes_replicate, leadingOnes_replicate, bytesBE_zero]
        simp [List.replicate_succ']
      · simp only [hz, if_false]
        have hlt : leadingOnes s < s.length := by
          obtain ⟨s', hs', hl⟩ := chars_split s
          by_contra hcon
          have hlen : s.length = leadingOnes s + s'.length := by
            conv_lhs => rw [hs']
            simp
          have : s' = [] := List.eq_nil_of_length_eq_zero (by omega)
          subst this
          rw [hs', List.append_nil, ← List.append_nil (List.replicate _ _), value58_replicate_append,
            value58_nil] at hv
          simp only [Option.some.injEq] at hv
          exact hz hv.symm
        rw [leadingOnes_dropLast s hlt]

theorem decode_ok_iff (s : List Char) (b : Bytes) : decode s = .ok b ↔ dec s = some b := by
  rw [decode_eq_dec]
  cases dec s <;> simp

theorem dec_eq_none_iff (s : List Char) : dec s = none ↔ ∃ c ∈ s, c ∉ alphabetChars := by
  have h := value58_isSome_iff s
  unfold dec
  cases hv : value58 s with
  | none =>
    rw [hv] at h
    simpa using h
  | some n =>
    rw [hv] at h
    simpa using h

/-! ### Base58Check -/

theorem checkSplit_iff (H : Bytes → Bytes) (k : Bytes) (v : UInt8) (p : Bytes) :
    checkSplit? H k = some (v, p) ↔ CheckRule H v p k := by
  constructor
  · intro h
    cases k with
    | nil => simp [checkSplit?] at h
    | cons w rest =>
      simp only [checkSplit?] at h
      split at h
      · cases h
      · rename_i hlen
        split at h
        · rename_i hc
          simp only [Option.some.injEq, Prod.mk.injEq] at h
          obtain ⟨hw, hp⟩ := h
          subst hw
          refine ⟨rest.drop (rest.length - 4), ?_, ?_, ?_⟩
          · rw [← hp, List.cons_append, List.take_append_drop]
          · simp only [List.length_drop]; omega
          · rw [← hp]; exact hc
        · cases h
  · rintro ⟨c, hk, hlen, hc⟩
    subst hk
    have h1 : ¬ (p ++ c).length < 4 := by simp only [List.length_append]; omega
    have h2 : (p ++ c).length - 4 = p.length := by simp only [List.length_append]; omega
    simp only [checkSplit?, List.cons_append, h1, if_false, h2, List.take_left', List.drop_left']
    simp [← hc]

theorem new_eq_spec (H : Bytes → Bytes) (s : List Char) :
    Model.Base58.new H s =
      match dec s with
      | none => .error .b58err
      | some k => match checkSplit? H k with
                  | some (v, p) => .ok ⟨v, p⟩
                  | none => .error .b58checksum := by
  unfold Model.Base58.new
  rw [decode_eq_dec]
  cases hd : dec s with
  | none => rfl
  | some k =>
    simp only
    cases k with
    | nil => simp [checkSplit?]
    | cons w rest =>
      have hw : (w.toNat : Int) ≤ 255 := by have := w.toNat_lt; omega
      by_cases hlen : rest.length < 4
      · have : (w :: rest).length < 5 := by simp only [List.length_cons]; omega
        rw [if_pos this]
        simp [checkSplit?, hlen]
      · have h5 : ¬ (w :: rest).length < 5 := by simp only [List.length_cons]; omega
        have e1 : (w :: rest).length - 4 = (rest.length - 4) + 1 := by simp only [List.length_cons]; omega
        rw [if_neg h5]
        simp only [e1, List.take_succ_cons, List.drop_succ_cons, List.take_zero,
          List.drop_zero, List.singleton_append, checkSplit?, hlen, if_false]
        by_cases heq : List.drop (rest.length - 4) rest =
              List.take 4 (H (w :: List.take (rest.length - 4) rest))
        · simp only [heq, ne_eq, not_true_eq_false, if_false, if_true]
          simp [fromBytes, UInt8.ofNat_toNat, hw]
        · simp only [ne_eq, heq, not_false_eq_true, if_true, if_false]

end BtcVerif.Base58Proofs

/-
  C06 — `CScript.raw_iter` (model) and `CScript::GetOp` (reference) tokenise identically.
-/
import BtcVerif.Proofs.ScriptOpEnc

namespace BtcVerif.Model.ScriptEval
open BtcVerif BtcVerif.Spec BtcVerif.Spec.Script BtcVerif.Model.Script

theorem leNat_one (a : UInt8) : leNat [a] = a.toNat := by simp [leNat]
theorem leNat_two (a b : UInt8) : leNat [a, b] = a.toNat + b.toNat * 256 := by simp [leNat]; omega
theorem leNat_four (a b c d : UInt8) :
    leNat [a, b, c, d] = a.toNat + b.toNat * 256 + c.toNat * 65536 + d.toNat * 16777216 := by
  simp [leNat]; omega

theorem take_length_lt_iff {α} (l : List α) (n : Nat) : (l.take n).length < n ↔ l.length < n := by
  rw [List.length_take]; omega

theorem rawStep_cons' (idx : Nat) (b : UInt8) (t : Bytes) :
    rawStep idx (b :: t) =
      if 0x4e < b.toNat then some (.op ⟨b.toNat, none, idx⟩ t)
      else if t.length < lenWidth b.toNat then some (.err .missingLen)
      else
        let n := if b.toNat < 0x4c then b.toNat else leNat (t.take (lenWidth b.toNat))
        let r := t.drop (lenWidth b.toNat)
        if (r.take n).length < n then some (.err (.truncated (r.take n)))
        else some (.op ⟨b.toNat, some (r.take n), idx⟩ (r.drop n)) := by
  have : b.toNat < 0x4c ∨ 0x4e < b.toNat ∨ b.toNat = 0x4c ∨ b.toNat = 0x4d ∨ b.toNat = 0x4e := by omega
  rcases this with h | h | h | h | h
  · simp [rawStep, lenWidth, h, show ¬ 0x4e < b.toNat by omega]
  · simp [rawStep, h]
  · rcases t with _ | ⟨l, r⟩ <;> simp [rawStep, lenWidth, leNat_one, h]
  · rcases t with _ | ⟨l0, _ | ⟨l1, r⟩⟩ <;> simp +arith [rawStep, lenWidth, leNat_two, h]
  · rcases t with _ | ⟨l0, _ | ⟨l1, _ | ⟨l2, _ | ⟨l3, r⟩⟩⟩⟩ <;> simp +arith [rawStep, lenWidth, leNat_four, h]

theorem rawStep_cons (idx : Nat) (b : UInt8) (t : Bytes) :
    rawStep idx (b :: t) =
      match Ref.getOp (b :: t) with
      | some (o, d, rest) => some (.op ⟨o, if o ≤ 0x4e then some d else none, idx⟩ rest)
      | none => some (.err (if t.length < lenWidth b.toNat then .missingLen
          else .truncated (t.drop (lenWidth b.toNat)))) := by
  rw [rawStep_cons', getOp_cons]
  by_cases h1 : 0x4e < b.toNat
  · simp [h1, Nat.not_le.mpr h1]
  · by_cases h2 : t.length < lenWidth b.toNat
    · simp [h1, h2]
    · simp only [if_neg h1, if_neg h2, take_length_lt_iff]
      generalize (if b.toNat < 0x4c then b.toNat else leNat (t.take (lenWidth b.toNat))) = n
      by_cases hn : (t.drop (lenWidth b.toNat)).length < n
      · simp only [if_pos hn, List.take_of_length_le (Nat.le_of_lt hn)]
      · simp only [if_neg hn, if_pos (Nat.le_of_not_lt h1)]

/-- one step of `raw_iter` that yields `o` and leaves `rest`, seen from `GetOp` -/
def OpFacts (idx : Nat) (s : Bytes) (o : RawOp) (rest : Bytes) : Prop :=
  Ref.getOp s = some (o.opcode, o.data.getD [], rest) ∧ o.sopIdx = idx ∧
  (o.opcode ≤ 0x4e → o.data.isSome) ∧ (o.opcode > 0x4e → o.data = none) ∧
  (∃ pre, s = pre ++ rest ∧ pre ≠ []) ∧
  (o.opcode > 0x4e → ∃ b, s = b :: rest ∧ b.toNat = o.opcode)

theorem getOp_opFacts (idx : Nat) {s : Bytes} {opc : Nat} {d rest : Bytes}
    (h : Ref.getOp s = some (opc, d, rest)) :
    OpFacts idx s ⟨opc, if opc ≤ 0x4e then some d else none, idx⟩ rest := by
  obtain ⟨hs, h256, -, -, hnon⟩ := getOp_enc h
  by_cases hle : opc ≤ 0x4e
  · exact ⟨by simp [hle, h], rfl, fun _ => by simp [hle], fun hgt => by simp at hgt; omega,
      ⟨_, hs, by simp [encBytes, hle]⟩, fun hgt => by simp at hgt; omega⟩
  · cases hnon (by omega)
    refine ⟨by simp [hle, h], rfl, fun h' => absurd h' hle, fun _ => by simp [hle],
      ⟨_, hs, by simp [encBytes, hle]⟩, fun _ => ⟨UInt8.ofNat opc, ?_, u8_toNat_ofNat h256⟩⟩
    rw [hs]; simp [encBytes, hle]

theorem rawStep_getOp (idx : Nat) (s : Bytes) :
    match rawStep idx s with
    | none => s = []
    | some (.err _) => s ≠ [] ∧ Ref.getOp s = none
    | some (.op o rest) => OpFacts idx s o rest := by
  cases s with
  | nil => simp [rawStep]
  | cons b t =>
    rw [rawStep_cons]
    cases hg : Ref.getOp (b :: t) with
    | none => exact ⟨by simp, rfl⟩
    | some x => exact getOp_opFacts idx hg

theorem rawIterFrom_nil (idx : Nat) : rawIterFrom idx [] = ([], none) := rawIterFrom_none rfl

/-- Induction over the operations `raw_iter` yields from offset `idx` of a script, each step stated
    for `GetOp`: the script is exhausted; or `GetOp` fails and `raw_iter` raises; or `GetOp` reads
    the bytes `pre` of one operation and `raw_iter` continues behind them. -/
theorem rawIter_ind {motive : Nat → Bytes → Prop}
    (nil : ∀ idx, motive idx [])
    (err : ∀ idx s e, s ≠ [] → Ref.getOp s = none → rawIterFrom idx s = ([], some e) → motive idx s)
    (op : ∀ idx o pre rest, pre ≠ [] → OpFacts idx (pre ++ rest) o rest →
      rawIterFrom idx (pre ++ rest) =
        (o :: (rawIterFrom (idx + pre.length) rest).1, (rawIterFrom (idx + pre.length) rest).2) →
      motive (idx + pre.length) rest → motive idx (pre ++ rest))
    (idx : Nat) (s : Bytes) : motive idx s := by
  induction idx, s using rawIterFrom.induct with
  | case1 idx s h =>
    have hs := rawStep_getOp idx s
    rw [h] at hs
    exact hs ▸ nil idx
  | case2 idx s e h =>
    have hs := rawStep_getOp idx s
    rw [h] at hs
    exact err idx s e hs.1 hs.2 (rawIterFrom_err h)
  | case3 idx s o rest h ops e heq ih =>
    have hs := rawStep_getOp idx s
    rw [h] at hs
    obtain ⟨pre, rfl, hne⟩ := hs.2.2.2.2.1
    have hlen : (pre ++ rest).length - rest.length = pre.length := by simp
    rw [hlen] at ih
    exact op idx o pre rest hne hs (by rw [rawIterFrom_op h, hlen]) ih

theorem rawIterFrom_data (idx : Nat) (s : Bytes) :
    ∀ o ∈ (rawIterFrom idx s).1, o.opcode ≤ 0x4e → o.data.isSome := by
  induction idx, s using rawIter_ind with
  | nil idx => rw [rawIterFrom_nil]; exact fun _ h => nomatch h
  | err idx s e _ _ hit => rw [hit]; exact fun _ h => nomatch h
  | op idx o pre rest _ hf hit ih =>
    rw [hit]
    intro o' ho'
    rcases List.mem_cons.mp ho' with rfl | ho'
    · exact hf.2.2.1
    · exact ih o' ho'

theorem rawIter_data (s : Bytes) : ∀ o ∈ (rawIter s).1, o.opcode ≤ 0x4e → o.data.isSome :=
  rawIterFrom_data 0 s

end BtcVerif.Model.ScriptEval

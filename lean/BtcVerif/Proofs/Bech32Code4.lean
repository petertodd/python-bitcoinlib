/-
  C11 helper lemmas: error patterns of weight 3 and 4.

  A pattern is followed from its first error.  By the scaling symmetry (`Bech32Scale`) that error may be taken
  to have the value `1`, so the state after it is `1`; each later error xors a 5-bit value into `Tᵐ` of the
  state.  A pattern of weight 2 that starts in state `c` has syndrome zero only if some `Tᵐ c` is a
  *normalised 2-pattern syndrome* `Tᵍ v ^^^ y`.  That this never happens within 89 positions is an exhaustive
  computation (meet in the middle on the high 25 bits: a table of the 2728 orbit values `Tᵍ v / 32`, and 31·3828
  look-ups for the patterns starting with `1`) which the kernel evaluates in three theorems
  (`Proofs/Bech32Code4Shards/Check.lean`; the table literals are generated by harness/gen_bech32_shards.py
  and are untrusted data, every fact about them is a `decide +kernel` theorem), so `detects_le4` rests on
  the standard axioms only.
-/
import BtcVerif.Proofs.Bech32Code4Shards.Check
import BtcVerif.Proofs.Bech32Scale

namespace BtcVerif.Bech32

/-- `s` is a 30-bit state that is neither a 5-bit value nor a normalised 2-pattern syndrome -/
def Good (s : Nat) : Prop :=
  32 ≤ s ∧ ∀ g v y, 1 ≤ g → g ≤ 88 → 1 ≤ v → v < 32 → 1 ≤ y → y < 32 → s ≠ T^[g] v ^^^ y

theorem xor_eq_right {a b y : Nat} (h : a ^^^ b = y) : a = b ^^^ y := by
  rw [← h, ← Nat.xor_assoc, Nat.xor_comm b a, Nat.xor_assoc, Nat.xor_self, Nat.xor_zero]

/-- weight 2 from a state whose orbit avoids 5-bit values and normalised 2-pattern syndromes: were the state
    `g` steps after the first error `x` (at step `m`) a 5-bit value `y`, then `Tᵍ⁺ᵐ c = Tᵍ x ^^^ y` -/
theorem NZ_two {n c : Nat} (hn : n ≤ 88) (h : ∀ m, 1 ≤ m → m ≤ n → Good (T^[m] c)) : NZ 2 n c :=
  NZ_succ fun m x hm1 hm hx1 hx => NZ_one fun g hg1 hg => by
    rw [iter_linear, ← Function.iterate_add_apply]
    apply Nat.le_of_not_lt
    intro hlt
    have heq := xor_eq_right (y := T^[g + m] c ^^^ T^[g] x) rfl
    by_cases hy : T^[g + m] c ^^^ T^[g] x = 0
    · rw [hy, Nat.xor_zero, Function.iterate_add_apply] at heq
      have := iter_injective g (iter_pos_lt hm1 c) (by omega) heq
      have := (h m hm1 hm).1
      omega
    · exact (h (g + m) (by omega) (by omega)).2 g x _ hg1 (by omega) hx1 hx (by omega) hlt heq

/-! ### reading the kernel-checked facts -/

namespace Shards

theorem lookup_leaf (x : Nat) : lookup .leaf x = none := rfl
theorem lookup_node (l r : Tree) (k i x : Nat) :
    lookup (.node l k i r) x = bif Nat.blt x k then lookup l x else bif Nat.blt k x then lookup r x else some i := rfl

theorem okKey_spec (t : Tree) (msk k : Nat) (h : okKey t msk k = true) :
    k ≠ 0 ∧ (bitClear msk k = true ∨ lookup t k = none) := by
  unfold okKey at h
  cases hb : Nat.beq k 0 <;> cases hc : bitClear msk k <;> cases hl : lookup t k <;>
    simp [hb, hc, hl] at h ⊢
  all_goals exact Nat.ne_of_beq_eq_false hb

theorem zipOk_nil (t : Tree) (msk : Nat) (qs : List Nat) : zipOk t msk [] qs = true := rfl
theorem zipOk_cons_nil (t : Tree) (msk p : Nat) (ps : List Nat) : zipOk t msk (p :: ps) [] = true := rfl
theorem zipOk_cons_cons (t : Tree) (msk p q : Nat) (ps qs : List Nat) :
    zipOk t msk (p :: ps) (q :: qs) = (okKey t msk (p ^^^ q) && zipOk t msk ps qs) :=
  (Bool.cond_false_right _ _).symm ▸ rfl

theorem zipOk_spec (t : Tree) (msk : Nat) (ps qs : List Nat) (h : zipOk t msk ps qs = true)
    (j p q : Nat) (hp : ps[j]? = some p) (hq : qs[j]? = some q) : okKey t msk (p ^^^ q) = true := by
  induction ps generalizing qs j with
  | nil => simp at hp
  | cons p0 ps ih =>
    cases qs with
    | nil => simp at hq
    | cons q0 qs =>
      rw [zipOk_cons_cons, Bool.and_eq_true] at h
      cases j with
      | zero =>
        simp only [List.getElem?_cons_zero, Option.some.injEq] at hp hq
        subst hp hq
        exact h.1
      | succ j => exact ih qs h.2 j (by simpa using hp) (by simpa using hq)

theorem shiftsOk_nil (t : Tree) (msk : Nat) (B : List Nat) : shiftsOk t msk [] B = true := rfl
theorem shiftsOk_cons (t : Tree) (msk a : Nat) (as B : List Nat) :
    shiftsOk t msk (a :: as) B = (zipOk t msk as B && shiftsOk t msk as B) :=
  (Bool.cond_false_right _ _).symm ▸ rfl

theorem shiftsOk_spec (t : Tree) (msk : Nat) (A B : List Nat) (h : shiftsOk t msk A B = true)
    (i j p q : Nat) (hji : j < i) (hp : A[i]? = some p) (hq : B[j]? = some q) :
    okKey t msk (p ^^^ q) = true := by
  induction A generalizing i with
  | nil => simp at hp
  | cons a as ih =>
    rw [shiftsOk_cons, Bool.and_eq_true] at h
    obtain ⟨i, rfl⟩ : ∃ k, i = k + 1 := ⟨i - 1, by omega⟩
    rw [List.getElem?_cons_succ] at hp
    by_cases hij : j = i
    · subst hij
      exact zipOk_spec t msk as B h.1 j p q hp hq
    · exact ih h.2 i (by omega) hp

theorem rowFound_nil (t : Tree) (msk j : Nat) : rowFound t msk [] j = true := rfl
theorem rowFound_cons (t : Tree) (msk h j : Nat) (hs : List Nat) :
    rowFound t msk (h :: hs) j =
      bif Nat.beq h 0 then false else
      bif bitClear msk h then false else
      bif Option.rec (motive := fun _ => Bool) false (fun i => Nat.beq i j) (lookup t h)
      then rowFound t msk hs (Nat.succ j) else false := rfl

theorem rowFound_spec (t : Tree) (msk : Nat) (row : List Nat) (j0 : Nat) (h : rowFound t msk row j0 = true)
    (j e : Nat) (he : row[j]? = some e) :
    e ≠ 0 ∧ bitClear msk e = false ∧ lookup t e = some (j0 + j) := by
  induction row generalizing j0 j with
  | nil => simp at he
  | cons h0 hs ih =>
    rw [rowFound_cons] at h
    cases h1 : Nat.beq h0 0 <;> cases h2 : bitClear msk h0 <;> cases h3 : lookup t h0 <;>
      simp only [h1, h2, h3, cond_true, cond_false, Bool.false_eq_true] at h
    rw [Bool.cond_false_right, Bool.and_eq_true] at h
    cases j with
    | zero =>
      simp only [List.getElem?_cons_zero, Option.some.injEq] at he
      subst he
      exact ⟨Nat.ne_of_beq_eq_false h1, h2, by rw [h3, Nat.eq_of_beq_eq_true h.1]; rfl⟩
    | succ j =>
      have := ih (j0 + 1) h.2 j (by simpa using he)
      rwa [show j0 + 1 + j = j0 + (j + 1) by omega] at this

theorem tableFound_nil (t : Tree) (msk i : Nat) : tableFound t msk [] i = true := rfl
theorem tableFound_cons (t : Tree) (msk i : Nat) (r : List Nat) (rs : List (List Nat)) :
    tableFound t msk (r :: rs) i = (rowFound t msk r (88 * i) && tableFound t msk rs (i + 1)) :=
  (Bool.cond_false_right _ _).symm ▸ rfl

theorem tableFound_spec (t : Tree) (msk : Nat) (tab : List (List Nat)) (i0 : Nat)
    (h : tableFound t msk tab i0 = true) (i : Nat) (row : List Nat) (j e : Nat)
    (hr : tab[i]? = some row) (he : row[j]? = some e) :
    e ≠ 0 ∧ bitClear msk e = false ∧ lookup t e = some (88 * (i0 + i) + j) := by
  induction tab generalizing i0 i with
  | nil => simp at hr
  | cons r rs ih =>
    rw [tableFound_cons, Bool.and_eq_true] at h
    cases i with
    | zero =>
      simp only [List.getElem?_cons_zero, Option.some.injEq] at hr
      subst hr
      exact rowFound_spec t msk r (88 * i0) h.1 j e he
    | succ i =>
      have := ih (i0 + 1) h.2 i (by simpa using hr)
      rwa [show i0 + 1 + i = i0 + (i + 1) by omega] at this

/-- high part of `Tᵍ v` -/
def H (v g : Nat) : Nat := T^[g] v / 32

theorem row_get (v g : Nat) (hv1 : 1 ≤ v) (hv : v < 32) (hg1 : 1 ≤ g) (hg : g ≤ 88) :
    ∃ row, hiTable[v - 1]? = some row ∧ row[g - 1]? = some (H v g) := by
  rw [hiTable_eq]
  refine ⟨(orbit 88 v).map (· / 32), ?_, ?_⟩
  · unfold hiTableC
    rw [List.getElem?_map, List.getElem?_range (by omega)]
    simp only [Option.map_some, show v - 1 + 1 = v by omega]
  · rw [List.getElem?_map, orbit_getElem? 88 v (g - 1) (by omega), show g - 1 + 1 = g by omega]
    rfl

/-- K1: every `H v g` is non-zero, passes the filter and is stored under its own index -/
theorem H_found (v g : Nat) (hv1 : 1 ≤ v) (hv : v < 32) (hg1 : 1 ≤ g) (hg : g ≤ 88) :
    H v g ≠ 0 ∧ bitClear hiMask (H v g) = false ∧ lookup hiTree (H v g) = some (88 * (v - 1) + (g - 1)) := by
  obtain ⟨row, hr, he⟩ := row_get v g hv1 hv hg1 hg
  simpa using tableFound_spec hiTree hiMask hiTable 0 tableFound_true (v - 1) row (g - 1) (H v g) hr he

/-- K2, for patterns whose first error is `1`: `H 1 a ^^^ H w b` with `b < a` is neither zero nor stored -/
theorem H_pair (w a b : Nat) (hw1 : 1 ≤ w) (hw : w < 32) (hb1 : 1 ≤ b) (hba : b < a) (ha : a ≤ 88) :
    H 1 a ^^^ H w b ≠ 0 ∧
      (bitClear hiMask (H 1 a ^^^ H w b) = true ∨ lookup hiTree (H 1 a ^^^ H w b) = none) := by
  obtain ⟨A, hA, hpa⟩ := row_get 1 a (by omega) (by omega) (by omega) ha
  obtain ⟨B, hB, hqb⟩ := row_get w b hw1 hw hb1 (by omega)
  cases hA  -- the first row of `hiTable` is literally `row01`, the row `row1_pairs` is stated for
  have hAll := List.all_eq_true.1 row1_pairs B (List.mem_of_getElem? hB)
  exact okKey_spec _ _ _ (shiftsOk_spec _ _ _ B hAll (a - 1) (b - 1) _ _ (by omega) hpa hqb)

end Shards

theorem hi_xor_small (t y : Nat) (hy : y < 32) : (t ^^^ y) / 32 = t / 32 := by
  have hy0 : y / 2 ^ 5 = 0 := Nat.div_eq_of_lt (by simpa using hy)
  rw [show (32 : Nat) = 2 ^ 5 by rfl, Nat.xor_div_two_pow, hy0, Nat.xor_zero]

open Shards in
theorem good_orbit (m : Nat) (hm1 : 1 ≤ m) (hm : m ≤ 88) : Good (T^[m] 1) := by
  obtain ⟨hne, _, hlk⟩ := H_found 1 m (by omega) (by omega) hm1 hm
  constructor
  · apply Nat.le_of_not_lt
    intro hlt
    exact hne (Nat.div_eq_of_lt hlt)
  · intro g v y hg1 hg hv1 hv hy1 hy heq
    have hhi : H 1 m = H v g := by
      unfold H
      rw [heq, hi_xor_small _ _ hy]
    obtain ⟨_, _, hlk'⟩ := H_found v g hv1 hv hg1 hg
    rw [hhi, hlk'] at hlk
    simp only [Option.some.injEq] at hlk
    have hvx : v = 1 := by omega
    have hgm : g = m := by omega
    subst hvx hgm
    have h0 : T^[g] 1 ^^^ (T^[g] 1 ^^^ y) = 0 := by rw [← heq, Nat.xor_self]
    rw [← Nat.xor_assoc, Nat.xor_self, Nat.zero_xor] at h0
    omega

open Shards in
theorem good_orbit2 (m : Nat) (hm1 : 1 ≤ m) (hm : m ≤ 88)
    (x : Nat) (hx1 : 1 ≤ x) (hx : x < 32) (m' : Nat) (hm'1 : 1 ≤ m') (hm' : m' ≤ 88 - m) :
    Good (T^[m'] (T^[m] 1 ^^^ x)) := by
  have hhi : T^[m'] (T^[m] 1 ^^^ x) / 32 = H 1 (m' + m) ^^^ H x m' := by
    rw [iter_linear, ← Function.iterate_add_apply, show (32 : Nat) = 2 ^ 5 by rfl, Nat.xor_div_two_pow]; rfl
  obtain ⟨hne, hnot⟩ := H_pair x (m' + m) m' hx1 hx hm'1 (by omega) (by omega)
  rw [← hhi] at hne hnot
  constructor
  · apply Nat.le_of_not_lt
    intro hlt
    exact hne (Nat.div_eq_of_lt hlt)
  · intro g v y hg1 hg hv1 hv hy1 hy heq
    obtain ⟨_, hbit, hlk⟩ := H_found v g hv1 hv hg1 hg
    have : T^[m'] (T^[m] 1 ^^^ x) / 32 = H v g := by
      unfold H; rw [heq, hi_xor_small _ _ hy]
    rw [this] at hnot
    rcases hnot with h | h
    · rw [hbit] at h; simp at h
    · rw [hlk] at h; simp at h

theorem syndrome_ne_zero_34 (E : List Nat)
    (hE : ∀ v ∈ E, v < 32) (hlen : E.length ≤ 89) (hw : weight E = 3 ∨ weight E = 4) : run 0 E ≠ 0 := by
  have h2 : NZ 2 88 1 := NZ_two (Nat.le_refl _) fun m hm1 hm => good_orbit m hm1 hm
  have h3 : NZ 3 88 1 := NZ_succ fun m x hm1 hm hx1 hx =>
    NZ_two (by omega) fun m' hm'1 hm' => good_orbit2 m hm1 hm x hx1 hx m' hm'1 hm'
  rcases hw with hw | hw
  · exact NZ_first (fun v h1 h => NZ_scale h1 h h2) E hE hw hlen
  · exact NZ_first (fun v h1 h => NZ_scale h1 h h3) E hE hw hlen

end BtcVerif.Bech32

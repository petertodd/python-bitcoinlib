/-
  C06 — simulation between the model of scripteval.py and the reference interpreter: the
  corresponding reference state (`toRef`), the relation `Sim` for one opcode arm, and
  `_CastToBool` = `CastToBool` (`castToBool_eq`).
-/
import BtcVerif.Proofs.ScriptEvalBasic
import BtcVerif.Spec.ScriptRef

namespace BtcVerif.Model.ScriptEval
open BtcVerif BtcVerif.Spec BtcVerif.Spec.Script BtcVerif.Model.Script

/-- the reference state that corresponds to a model state; `code` is `[pbegincodehash, pend)` -/
def toRef (st : St) (code : Bytes) : Ref.State := ⟨st.stack, st.alt, st.vfExec, code, st.nOpCount⟩

/-- one opcode arm: the model succeeds exactly when the reference does, in corresponding states with
    `pbegincodehash` and the operation count unchanged -/
def Sim (code : Bytes) (st : St) (m : M St) (r : Option Ref.State) : Prop :=
  match m with
  | .ok st' => r = some (toRef st' code) ∧ st'.pbegin = st.pbegin ∧ st'.nOpCount = st.nOpCount
  | .error _ => r = none

/-- like `Sim`, but the model may stop with the CScriptInvalidError of `FindAndDelete` where the
    reference goes on, provided `tailP`: a malformed push further on, at which the reference fails -/
def ArmT (tailP : Prop) (code : Bytes) (st : St) (m : M St) (r : Option Ref.State) : Prop :=
  match m with
  | .ok st' => r = some (toRef st' code) ∧ st'.pbegin = st.pbegin ∧ st'.nOpCount ≤ MAX_OPS_PER_SCRIPT
  | .error e => r = none ∨ (tailP ∧ ∃ cap, e = .invalid cap)

theorem armT_of_sim {tailP : Prop} {code : Bytes} {st : St} {m : M St} {r : Option Ref.State}
    (h : Sim code st m r) (hn : st.nOpCount ≤ MAX_OPS_PER_SCRIPT) : ArmT tailP code st m r := by
  cases m with
  | ok st' => obtain ⟨h1, h2, h3⟩ := h; exact ⟨h1, h2, by rw [h3]; exact hn⟩
  | error e => exact Or.inl h

theorem ArmT.mono {p q : Prop} {code : Bytes} {st : St} {m : M St} {r : Option Ref.State}
    (h : ArmT p code st m r) (hpq : p → q) : ArmT q code st m r := by
  cases m with
  | ok st' => exact h
  | error e => exact h.imp id (fun ⟨hp, hc⟩ => ⟨hpq hp, hc⟩)

theorem castToBoolFrom_eq (len i : Nat) (s : Bytes) (h : i + s.length = len) :
    castToBoolFrom len i s = Ref.castToBool s := by
  induction s generalizing i with
  | nil => rfl
  | cons b r ih =>
    cases r with
    | nil =>
      simp only [List.length_cons, List.length_nil] at h
      simp only [castToBoolFrom, Ref.castToBool]
      have hi : i = len - 1 := by omega
      by_cases hb : b.toNat = 0
      · simp [hb]
      · by_cases h8 : b.toNat = 0x80
        · simp [h8, hi]
        · simp [hb, h8]
    | cons b2 r2 =>
      simp only [List.length_cons] at h
      rw [castToBoolFrom, Ref.castToBool]
      · by_cases hb : b.toNat = 0
        · simp only [hb, ne_eq, not_true_eq_false, if_false, decide_false, Bool.false_or]
          exact ih (i + 1) (by simp only [List.length_cons]; omega)
        · have hi : ¬ (i = len - 1) := by omega
          simp [hb, hi]
      · simp

theorem castToBool_eq (s : Bytes) : castToBool s = Ref.castToBool s :=
  castToBoolFrom_eq s.length 0 s (by omega)

end BtcVerif.Model.ScriptEval

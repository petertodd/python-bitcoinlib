/-
  C06 / C07 — the concrete environment (Model/ScriptEnvReal.lean): its signature check does not see
  a leading OP_CODESEPARATOR (`realEnv_codesepInsensitive`); every outcome of `RawSignatureHash` for a
  transaction in wire range, negative indices included (`sigHash_real_cases`, hence `sigHashOK_real`,
  `raises_real_iff`); the model's `FindAndDelete` is the one of C03's model.
-/
import BtcVerif.Props.C03
import BtcVerif.Model.ScriptEnvReal
import BtcVerif.Proofs.ScriptEquivSig

namespace BtcVerif.Model.ScriptEval.Real
open BtcVerif BtcVerif.Spec BtcVerif.Spec.Script BtcVerif.Model.Script BtcVerif.Model.ScriptEval

theorem parses_codesep (sc : Bytes) : Spec.Sighash.parses ((0xab : UInt8) :: sc) ↔ Spec.Sighash.parses sc := by
  rw [← C03.parses_iff, ← C03.parses_iff, rawIter_codesep_tail]

theorem scriptCodeNoSep_codesep (sc : Bytes) :
    Spec.Sighash.scriptCodeNoSep ((0xab : UInt8) :: sc) = Spec.Sighash.scriptCodeNoSep sc := by
  have hg : Spec.Sighash.getOp ((0xab : UInt8) :: sc) = some (0xab, 1) := by
    simp [Spec.Sighash.getOp]
  rw [Spec.Sighash.scriptCodeNoSep]
  split
  · rename_i h; rw [hg] at h; cases h
  · rename_i op n h
    rw [hg] at h
    simp only [Option.some.injEq, Prod.mk.injEq] at h
    obtain ⟨rfl, rfl⟩ := h
    simp [Spec.Sighash.OP_CODESEPARATOR]

theorem sighash_fad_codesep (sc : Bytes) :
    Model.Sighash.findAndDelete ((0xab : UInt8) :: sc) [0xab] = Model.Sighash.findAndDelete sc [0xab] := by
  by_cases hp : Spec.Sighash.parses sc
  · rw [C03.findAndDelete_codesep sc hp, C03.findAndDelete_codesep _ ((parses_codesep sc).mpr hp),
      scriptCodeNoSep_codesep]
  · rw [C03.findAndDelete_invalid sc _ hp,
      C03.findAndDelete_invalid _ _ (fun h => hp ((parses_codesep sc).mp h))]

theorem rawSignatureHash_codesep (sc : Bytes) (tx : Tx) (i : Nat) (ht : Int) :
    Model.Sighash.rawSignatureHash ((0xab : UInt8) :: sc) tx i ht = Model.Sighash.rawSignatureHash sc tx i ht := by
  unfold Model.Sighash.rawSignatureHash
  rw [sighash_fad_codesep]

theorem rawSignatureHashNeg_codesep (sc : Bytes) (tx : Tx) (i : Int) (ht : Int) :
    rawSignatureHashNeg ((0xab : UInt8) :: sc) tx i ht = rawSignatureHashNeg sc tx i ht := by
  unfold rawSignatureHashNeg
  rw [sighash_fad_codesep]

theorem rawSignatureHashInt_codesep (sc : Bytes) (tx : Tx) (i : Int) (ht : Int) :
    rawSignatureHashInt ((0xab : UInt8) :: sc) tx i ht = rawSignatureHashInt sc tx i ht := by
  unfold rawSignatureHashInt
  rw [rawSignatureHash_codesep, rawSignatureHashNeg_codesep]

theorem realEnv_codesepInsensitive (tx : Tx) (inIdx : Int) : CodesepInsensitive (realEnv tx inIdx) := by
  intro body pk sc ht
  simp only [realEnv, realCtx, Ctx.env, rawSignatureHashInt_codesep]

/-- an input of the scratch copy that serialises -/
def InOK (i : TxIn) : Prop :=
  Spec.Wire.WFOutPoint i.prevout ∧ i.scriptSig.length < 2 ^ 64 ∧ i.nSequence < 2 ^ 32

theorem inOK_ser {i : TxIn} (h : InOK i) : Model.Wire.serTxIn i = .ok (Spec.Wire.txIn i) :=
  SighashProofs.serTxIn_ok h.1 h.2.1 h.2.2

theorem pyGetNat_ok {α} (l : List α) (k : Nat) (h : k < l.length) : Model.Sighash.pyGetNat l k = .ok l[k] := by
  simp [Model.Sighash.pyGetNat, List.getElem?_eq_getElem h]

theorem neg_tail (tx : Tx) (hwf : Spec.Sighash.FieldsWF tx) (vin : List TxIn) (vout : List TxOut) (ht k : Nat)
    (hht : ht < 256) (hk : k < vin.length) (h3 : vin.length < 2 ^ 64) (h4 : ∀ x ∈ vin, InOK x)
    (h5 : vout.length < 2 ^ 64) (h6 : ∀ x ∈ vout, x ∈ tx.vout) :
    ∃ d, (do
      let vin3 ← if (ht : Int) / 128 % 2 ≠ 0 then (do let tmp ← Model.Sighash.pyGetNat vin k; pure [tmp]) else pure vin
      let s ← Model.Wire.serTx { tx with vin := vin3, vout := vout, wit := [] }
      let h ← Model.Wire.packI 4 (ht : Int)
      pure (Crypto.hash256 (s ++ h), false) : Res (Bytes × Bool)) = .ok (d, false) := by
  obtain ⟨hv1, hv2, _, _, _, hout, hl⟩ := hwf
  have hs : ∀ vin3 : List TxIn, vin3.length < 2 ^ 64 → (∀ x ∈ vin3, InOK x) → ∃ d, (do
      let s ← Model.Wire.serTx { tx with vin := vin3, vout := vout, wit := [] }
      let h ← Model.Wire.packI 4 (ht : Int)
      pure (Crypto.hash256 (s ++ h), false) : Res (Bytes × Bool)) = .ok (d, false) := by
    intro vin3 h3 h4
    rw [SighashProofs.scratch_ser tx vin3 vout hv1 hv2 hl h3 (fun x hx => inOK_ser (h4 x hx)) h5
      (fun x hx => by
        obtain ⟨a, b, c⟩ := hout x (h6 x hx)
        exact SighashProofs.serTxOut_ok a b c), SighashProofs.packI_ht (show ht < 2 ^ 31 by omega)]
    exact ⟨_, rfl⟩
  by_cases ha : (ht : Int) / 128 % 2 ≠ 0
  · rw [if_pos ha, pyGetNat_ok _ _ hk]
    exact hs [vin[k]] (by simp) (by simpa using h4 _ (List.getElem_mem hk))
  · rw [if_neg ha]
    exact hs vin h3 h4

theorem neg_outcome (script : Bytes) (tx : Tx) (inIdx : Int) (ht : Nat) (hwf : Spec.Sighash.FieldsWF tx)
    (hsc : script.length < 2 ^ 64) (hht : ht < 256) :
    (¬ Spec.Sighash.parses script → rawSignatureHashNeg script tx inIdx (ht : Int) = .error .invalidscript) ∧
    (Spec.Sighash.parses script →
      ((tx.vin.length : Int) < -inIdx ∨ ((ht : Int) % 32 = 3 ∧ (tx.vout.length : Int) < -inIdx)) →
      rawSignatureHashNeg script tx inIdx (ht : Int) = .error indexError) ∧
    (Spec.Sighash.parses script → inIdx < 0 →
      ¬ ((tx.vin.length : Int) < -inIdx ∨ ((ht : Int) % 32 = 3 ∧ (tx.vout.length : Int) < -inIdx)) →
      ∃ d, rawSignatureHashNeg script tx inIdx (ht : Int) = .ok (d, false)) := by
  have hft := SighashProofs.fromTx_ok tx hwf
  refine ⟨?_, ?_, ?_⟩
  · intro hp
    unfold rawSignatureHashNeg
    rw [hft, C03.findAndDelete_invalid script _ hp]
    rfl
  · intro hp hor
    unfold rawSignatureHashNeg
    rw [hft, C03.findAndDelete_codesep script hp]
    simp only [SighashProofs.bind_ok, List.length_map]
    by_cases h1 : (tx.vin.length : Int) < -inIdx
    · rw [if_pos h1]
    · rw [if_neg h1]
      rcases hor with h | ⟨h3, h4⟩
      · exact absurd h h1
      · have hk : ((tx.vin.length : Int) + inIdx).toNat < (tx.vin.map (fun i => { i with scriptSig := [] })).length := by
          rw [List.length_map]; omega
        rw [pyGetNat_ok _ _ hk]
        simp only [SighashProofs.bind_ok]
        rw [if_neg (by omega), if_pos h3, if_pos h4]
        rfl
  · intro hp hneg hor
    have h1 : ¬ (tx.vin.length : Int) < -inIdx := fun h => hor (Or.inl h)
    unfold rawSignatureHashNeg
    rw [hft, C03.findAndDelete_codesep script hp]
    simp only [SighashProofs.bind_ok, List.length_map]
    rw [if_neg h1]
    obtain ⟨_, _, hvl, hol, hin, _, _⟩ := id hwf
    have hnl := SighashProofs.noSep_length_le script
    -- the inputs of the scratch copy serialise: emptied scripts, then the script code in one of them,
    -- then zeroed sequence numbers
    generalize hvin0 : tx.vin.map (fun i => ({ i with scriptSig := [] } : TxIn)) = vin0
    have hl0 : vin0.length = tx.vin.length := by rw [← hvin0, List.length_map]
    have h0 : ∀ x ∈ vin0, InOK x := by
      intro x hx; rw [← hvin0, List.mem_map] at hx; obtain ⟨y, hy, rfl⟩ := hx
      exact ⟨(hin y hy).1, by simp, (hin y hy).2⟩
    have hk : ((tx.vin.length : Int) + inIdx).toNat < vin0.length := by omega
    generalize ((tx.vin.length : Int) + inIdx).toNat = k at hk ⊢
    rw [pyGetNat_ok _ _ hk]
    simp only [SighashProofs.bind_ok]
    generalize hvin1 : vin0.set k { vin0[k] with scriptSig := Spec.Sighash.scriptCodeNoSep script } = vin1
    have hl1 : vin1.length = vin0.length := by rw [← hvin1, List.length_set]
    have hv1 : ∀ x ∈ vin1, InOK x := by
      intro x hx
      rw [← hvin1] at hx
      rcases List.mem_or_eq_of_mem_set hx with h | rfl
      · exact h0 x h
      · exact ⟨(h0 _ (List.getElem_mem hk)).1, by dsimp only; omega, (h0 _ (List.getElem_mem hk)).2.2⟩
    generalize hvz : vin1.map (fun i => ({ i with nSequence := 0 } : TxIn)) = vz
    have hlz : vz.length = vin1.length := by rw [← hvz, List.length_map]
    have hz : ∀ x ∈ vz, InOK x := by
      intro x hx; rw [← hvz, List.mem_map] at hx; obtain ⟨y, hy, rfl⟩ := hx
      exact ⟨(hv1 y hy).1, (hv1 y hy).2.1, by simp⟩
    -- the three shapes of the scratch copy: NONE, SINGLE, otherwise
    by_cases hn : (ht : Int) % 32 = 2
    · simp only [if_pos hn]
      exact neg_tail tx hwf vz [] ht k hht (by omega) (by omega) hz (by simp) (by simp)
    · by_cases hsg : (ht : Int) % 32 = 3
      · have h4 : ¬ (tx.vout.length : Int) < -inIdx := fun h => hor (Or.inr ⟨hsg, h⟩)
        have hko : ((tx.vout.length : Int) + inIdx).toNat < tx.vout.length := by omega
        simp only [if_neg hn, if_pos hsg, if_neg h4, pyGetNat_ok _ _ hko, SighashProofs.bind_ok]
        exact neg_tail tx hwf vz [_] ht k hht (by omega) (by omega) hz (by simp) (by simp)
      · simp only [if_neg hn, if_neg hsg]
        exact neg_tail tx hwf vin1 tx.vout ht k hht (by omega) (by omega) hv1 hol (fun x hx => hx)

/-- the hash types for which `RawSignatureHash` raises IndexError at a negative index -/
def BadNeg (tx : Tx) (inIdx : Int) (ht : Nat) : Prop :=
  (tx.vin.length : Int) < -inIdx ∨ ((ht : Int) % 32 = 3 ∧ (tx.vout.length : Int) < -inIdx)

/-- indices at which `RawSignatureHash` raises nothing but CScriptInvalidError, whatever the hash type:
    the non-negative ones and the negative ones that wrap around both `vin` and `vout` -/
def IdxOK (tx : Tx) (inIdx : Int) : Prop :=
  0 ≤ inIdx ∨ (-(tx.vin.length : Int) ≤ inIdx ∧ -(tx.vout.length : Int) ≤ inIdx)

theorem sigHash_real (tx : Tx) (inIdx : Int) (script : Bytes) (ht : Nat) :
    (realCtx tx inIdx).sigHash script ht = (rawSignatureHashInt script tx inIdx (ht : Int)).map (·.1) := rfl

theorem sigHash_real_cases (tx : Tx) (inIdx : Int) (script : Bytes) (ht : Nat) (hwf : Spec.Sighash.FieldsWF tx)
    (hsc : script.length ≤ MAX_SCRIPT_SIZE) (hht : ht < 256) :
    (Spec.Sighash.parses script → (0 ≤ inIdx ∨ ¬ BadNeg tx inIdx ht) →
      ∃ d, (realCtx tx inIdx).sigHash script ht = .ok d) ∧
    (Spec.Sighash.parses script → inIdx < 0 → BadNeg tx inIdx ht →
      (realCtx tx inIdx).sigHash script ht = .error indexError) ∧
    (¬ Spec.Sighash.parses script →
      (∃ d, (realCtx tx inIdx).sigHash script ht = .ok d) ∨
      (realCtx tx inIdx).sigHash script ht = .error .invalidscript) := by
  have hsc' : script.length < 2 ^ 64 := by unfold MAX_SCRIPT_SIZE at hsc; omega
  obtain ⟨n1, n2, n3⟩ := neg_outcome script tx inIdx ht hwf hsc' hht
  rw [sigHash_real]
  unfold rawSignatureHashInt
  refine ⟨?_, ?_, ?_⟩
  · intro hp hor
    by_cases h0 : 0 ≤ inIdx
    · rw [if_pos h0, C03.raw_eq_spec script tx inIdx.toNat ht hp hsc' hwf hht]
      exact ⟨_, rfl⟩
    · rw [if_neg h0]
      obtain ⟨d, hd⟩ := n3 hp (by omega) (by rcases hor with h | h; exact absurd h h0; exact h)
      rw [hd]; exact ⟨_, rfl⟩
  · intro hp hneg hbad
    rw [if_neg (by omega), n2 hp hbad]; rfl
  · intro hp
    by_cases h0 : 0 ≤ inIdx
    · rw [if_pos h0]
      unfold Model.Sighash.rawSignatureHash
      by_cases hge : inIdx.toNat ≥ tx.vin.length
      · rw [if_pos hge]; left; exact ⟨_, rfl⟩
      · rw [if_neg hge, SighashProofs.fromTx_ok tx hwf, C03.findAndDelete_invalid script _ hp]
        right; rfl
    · rw [if_neg h0, n1 hp]; right; rfl

theorem sigHashOK_real (tx : Tx) (inIdx : Int) (hwf : Spec.Sighash.FieldsWF tx) (hidx : IdxOK tx inIdx) :
    SigHashOK (realCtx tx inIdx) := by
  intro script ht hlen hht hp
  refine (sigHash_real_cases tx inIdx script ht hwf hlen hht).1 ((C03.parses_iff script).mp hp) ?_
  rcases hidx with h | ⟨h1, h2⟩
  · left; exact h
  · right; unfold BadNeg; omega

theorem raises_real_iff (tx : Tx) (inIdx : Int) (hwf : Spec.Sighash.FieldsWF tx) (cls : String) :
    (realCtx tx inIdx).Raises cls ↔
      (cls = "IndexError" ∧ inIdx < 0 ∧ (inIdx < -(tx.vin.length : Int) ∨ inIdx < -(tx.vout.length : Int))) := by
  constructor
  · rintro ⟨script, ht, x, hlen, hht, hx, hne, rfl⟩
    obtain ⟨c1, c2, c3⟩ := sigHash_real_cases tx inIdx script ht hwf hlen hht
    by_cases hp : Spec.Sighash.parses script
    · by_cases hok : 0 ≤ inIdx ∨ ¬ BadNeg tx inIdx ht
      · obtain ⟨d, hd⟩ := c1 hp hok
        rw [hd] at hx; cases hx
      · have hneg : inIdx < 0 := by omega
        have hbad : BadNeg tx inIdx ht := by
          by_contra h; exact hok (Or.inr h)
        rw [c2 hp hneg hbad] at hx
        cases hx
        refine ⟨rfl, hneg, ?_⟩
        unfold BadNeg at hbad; omega
    · rcases c3 hp with ⟨d, hd⟩ | h
      · rw [hd] at hx; cases hx
      · rw [h] at hx; cases hx; exact absurd rfl hne
  · rintro ⟨rfl, hneg, hor⟩
    have hp : Spec.Sighash.parses [] := (C03.parses_iff []).mp (by rw [rawIter, rawIterFrom_none (by rfl)])
    refine ⟨[], 3, indexError, by simp, by omega,
      (sigHash_real_cases tx inIdx [] 3 hwf (by simp) (by omega)).2.1 hp hneg ?_, by simp [indexError], rfl⟩
    unfold BadNeg; omega

theorem no_raises_real (tx : Tx) (inIdx : Int) (hwf : Spec.Sighash.FieldsWF tx) (hidx : IdxOK tx inIdx)
    (cls : String) : ¬ (realCtx tx inIdx).Raises cls := by
  rw [raises_real_iff tx inIdx hwf]
  unfold IdxOK at hidx
  omega

/-- the loop state of this model as a loop state of C03's -/
def toSighash (a : FadAcc) : Model.Sighash.FadState := ⟨a.r, a.last, a.skip⟩

theorem findAndDelete_models_agree (cap : Captured) (script sig : Bytes) :
    findAndDelete cap script sig =
      match Model.Sighash.findAndDelete script sig with
      | .ok r => .ok r
      | .error _ => .error (.invalid cap) := by
  -- the loop bodies are the same function of corresponding states
  have hfold := List.foldl_hom toSighash (g₁ := fadStep script sig) (g₂ := Model.Sighash.fadStep script sig)
    (l := (rawIter script).1) (init := ⟨[], 0, true⟩) (fun _ _ => rfl)
  unfold findAndDelete Model.Sighash.findAndDelete
  cases he : (rawIter script).2 with
  | some e => simp only [he]
  | none =>
    simp only [he, show (⟨[], 0, true⟩ : Model.Sighash.FadState) = toSighash ⟨[], 0, true⟩ from rfl, hfold]
    rfl

end BtcVerif.Model.ScriptEval.Real

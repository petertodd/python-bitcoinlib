/-
  The strict DER signature codec of Crypto/Der.lean: the minimal big-endian form `beMin`, the content
  octets of an INTEGER, and what the two strict decoders accept (exactly the encodings).
-/
import BtcVerif.Crypto.Der
import BtcVerif.Proofs.BigEndian

namespace BtcVerif
open BtcVerif.Crypto.Secp256k1

/-! ### minimal big-endian representation -/

theorem beMin_zero : beMin 0 = [] := by rw [beMin]; simp

theorem beMin_pos {v : Nat} (h : v ≠ 0) : beMin v = beMin (v / 256) ++ [UInt8.ofNat (v % 256)] := by
  rw [beMin]; simp [h]

theorem beNat_beMin (v : Nat) : beNat (beMin v) = v := by
  induction v using Nat.strongRecOn with
  | _ v ih =>
    by_cases h : v = 0
    · rw [h, beMin_zero]; rfl
    · rw [beMin_pos h, beNat_snoc, ih (v / 256) (by omega), toNat_ofNat_lt (by omega)]
      omega

theorem noLead0_beMin (v : Nat) : NoLead0 (beMin v) := by
  induction v using Nat.strongRecOn with
  | _ v ih =>
    by_cases h : v = 0
    · rw [h, beMin_zero]; trivial
    · have hq := beNat_beMin (v / 256)
      have ihq := ih (v / 256) (by omega)
      rw [beMin_pos h]
      cases hm : beMin (v / 256) with
      | nil =>
        rw [hm] at hq
        show (UInt8.ofNat (v % 256)).toNat ≠ 0
        rw [toNat_ofNat_lt (by omega)]
        change 0 = v / 256 at hq
        omega
      | cons c cs => rw [hm] at ihq; exact ihq

theorem beMin_beNat {bs : Bytes} (h : NoLead0 bs) : beMin (beNat bs) = bs :=
  eq_of_beNat_eq (noLead0_beMin _) h (beNat_beMin _)

theorem beMin_length_le {k v : Nat} (h : v < 256 ^ k) : (beMin v).length ≤ k :=
  length_le_of_beNat_lt (noLead0_beMin v) (by rwa [beNat_beMin])

/-! ### DER INTEGER content octets -/

theorem derIntBody_zero : derIntBody 0 = [0] := by rw [derIntBody, beMin_zero]

theorem derIntBody_of_ge {v : Nat} {b : UInt8} {bs : Bytes} (h : beMin v = b :: bs) (hb : 128 ≤ b.toNat) :
    derIntBody v = 0 :: b :: bs := by
  rw [derIntBody, h]; exact if_pos hb

theorem derIntBody_of_lt {v : Nat} {b : UInt8} {bs : Bytes} (h : beMin v = b :: bs) (hb : b.toNat < 128) :
    derIntBody v = b :: bs := by
  rw [derIntBody, h]; exact if_neg (by omega)

theorem derIntBody_cases (v : Nat) :
    (v = 0 ∧ derIntBody v = [0]) ∨
    (∃ b bs, beMin v = b :: bs ∧ 128 ≤ b.toNat ∧ derIntBody v = 0 :: b :: bs) ∨
    (∃ b bs, beMin v = b :: bs ∧ b.toNat < 128 ∧ b.toNat ≠ 0 ∧ derIntBody v = b :: bs) := by
  cases h : beMin v with
  | nil => left; have := beNat_beMin v; rw [h] at this; subst this; exact ⟨rfl, derIntBody_zero⟩
  | cons b bs =>
    have hb : b.toNat ≠ 0 := by have := noLead0_beMin v; rwa [h] at this
    rcases Nat.lt_or_ge b.toNat 128 with h128 | h128
    · exact .inr (.inr ⟨b, bs, rfl, h128, hb, derIntBody_of_lt h h128⟩)
    · exact .inr (.inl ⟨b, bs, rfl, h128, derIntBody_of_ge h h128⟩)

theorem beNat_derIntBody (v : Nat) : beNat (derIntBody v) = v := by
  have hv := beNat_beMin v
  rcases derIntBody_cases v with ⟨h, e⟩ | ⟨b, bs, h, _, e⟩ | ⟨b, bs, h, _, _, e⟩
  · rw [e, h]; rfl
  · rw [e, beNat_zero_cons, ← h, hv]
  · rw [e, ← h, hv]

theorem derIntBodyOk_derIntBody (v : Nat) : derIntBodyOk (derIntBody v) = true := by
  rcases derIntBody_cases v with ⟨_, e⟩ | ⟨b, bs, _, h128, e⟩ | ⟨b, bs, _, h128, h0, e⟩
  · rw [e]; rfl
  · rw [e]; simp [derIntBodyOk]; omega
  · rw [e]; cases bs <;> simp [derIntBodyOk, h128, h0]

theorem derIntBody_length_pos (v : Nat) : 1 ≤ (derIntBody v).length := by
  rcases derIntBody_cases v with ⟨_, e⟩ | ⟨b, bs, _, _, e⟩ | ⟨b, bs, _, _, _, e⟩ <;> rw [e] <;> simp

theorem derIntBody_length_le (k v : Nat) (h : v < 256 ^ k) : (derIntBody v).length ≤ k + 1 := by
  have hl := beMin_length_le h
  rcases derIntBody_cases v with ⟨_, e⟩ | ⟨b, bs, hm, _, e⟩ | ⟨b, bs, hm, _, _, e⟩
  · rw [e]; simp
  · rw [e, List.length_cons, ← hm]; omega
  · rw [e, ← hm]; omega

/-- values below 2^256 have at most 33 content octets each: a pair of them fits the one-byte length
    of the sequence (at most 70 of 127) -/
theorem derShort_of_lt {r s : Nat} (hr : r < 2 ^ 256) (hs : s < 2 ^ 256) :
    (derIntBody r).length + (derIntBody s).length ≤ 123 := by
  have := derIntBody_length_le 32 r hr
  have := derIntBody_length_le 32 s hs
  omega

theorem derIntBody_beNat (body : Bytes) (h : derIntBodyOk body = true) : derIntBody (beNat body) = body := by
  match body, h with
  | b :: t, h =>
    have h128 : b.toNat < 128 := by cases t <;> simp [derIntBodyOk] at h <;> omega
    by_cases hb : b.toNat = 0
    · obtain rfl : b = 0 := byte_eq_ofNat hb
      rw [beNat_zero_cons]
      cases t with
      | nil => exact derIntBody_zero
      | cons c t =>
        have hc : 128 ≤ c.toNat := by simpa [derIntBodyOk] using h
        exact derIntBody_of_ge (beMin_beNat (bs := c :: t) (show c.toNat ≠ 0 by omega)) hc
    · exact derIntBody_of_lt (beMin_beNat hb) h128

/-- an element with short-form length; `derInt v` is `tlv 2 (derIntBody v)` and `derEncode r s` is
    `tlv 0x30 (derInt r ++ derInt s)`, both by unfolding -/
def tlv (tag : UInt8) (body : Bytes) : Bytes := tag :: UInt8.ofNat body.length :: body

theorem tlv_length (tag : UInt8) (body : Bytes) : (tlv tag body).length = body.length + 2 := rfl

theorem cons_cons_eq_tlv (tag l : UInt8) (rest : Bytes) (h : l.toNat ≤ rest.length) :
    tag :: l :: rest = tlv tag (rest.take l.toNat) ++ rest.drop l.toNat := by
  rw [tlv, List.length_take, Nat.min_eq_left h, UInt8.ofNat_toNat, List.cons_append, List.cons_append,
    List.take_append_drop]

/-! ### element and signature: what the strict decoders accept -/

theorem derDecodeInt_cons (tag l : UInt8) (rest0 : Bytes) (v : Nat) (rest : Bytes) :
    derDecodeInt (tag :: l :: rest0) = some (v, rest) ↔
      tag.toNat = 2 ∧ l.toNat < 128 ∧ l.toNat ≤ rest0.length ∧ derIntBodyOk (rest0.take l.toNat) = true ∧
      beNat (rest0.take l.toNat) = v ∧ rest0.drop l.toNat = rest := by
  simp [derDecodeInt]

theorem derDecodeInt_iff (x : Bytes) (v : Nat) (rest : Bytes) :
    derDecodeInt x = some (v, rest) ↔ x = derInt v ++ rest ∧ (derIntBody v).length < 128 := by
  constructor
  · intro h
    match x, h with
    | tag :: l :: rest0, h =>
      obtain ⟨ht, hl, hle, hok, rfl, rfl⟩ := (derDecodeInt_cons ..).mp h
      have hb := derIntBody_beNat _ hok
      refine ⟨?_, by rw [hb, List.length_take]; omega⟩
      rw [cons_cons_eq_tlv tag l rest0 hle, byte_eq_ofNat ht]
      show _ = tlv 2 (derIntBody _) ++ _
      rw [hb]; rfl
  · rintro ⟨rfl, hl⟩
    show derDecodeInt (2 :: UInt8.ofNat _ :: (derIntBody v ++ rest)) = _
    refine (derDecodeInt_cons ..).mpr ?_
    rw [toNat_ofNat_lt (by omega), List.take_left, List.drop_left]
    exact ⟨rfl, hl, by simp, derIntBodyOk_derIntBody v, beNat_derIntBody v, rfl⟩

theorem derInt_length (v : Nat) : (derInt v).length = (derIntBody v).length + 2 := rfl

theorem derEncode_length (r s : Nat) :
    (derEncode r s).length = (derIntBody r).length + (derIntBody s).length + 6 := by
  show (derInt r ++ derInt s).length + 2 = _
  rw [List.length_append, derInt_length, derInt_length]; omega

theorem derDecodeStrict_cons (tag l : UInt8) (rest : Bytes) (r s : Nat) :
    derDecodeStrict (tag :: l :: rest) = some (r, s) ↔
      tag.toNat = 0x30 ∧ l.toNat < 128 ∧ rest.length = l.toNat ∧
      ∃ rest', derDecodeInt rest = some (r, rest') ∧ derDecodeInt rest' = some (s, []) := by
  simp only [derDecodeStrict]
  rcases h1 : derDecodeInt rest with _ | ⟨r', rest'⟩
  · simp
  rcases h2 : derDecodeInt rest' with _ | ⟨s', _ | _⟩ <;> simp [h2, and_assoc]

theorem derDecodeStrict_iff (sig : Bytes) (r s : Nat) :
    derDecodeStrict sig = some (r, s) ↔
      sig = derEncode r s ∧ (derIntBody r).length + (derIntBody s).length ≤ 123 := by
  constructor
  · intro h
    match sig, h with
    | tag :: l :: rest, h =>
      obtain ⟨ht, hl, hlen, rest', h1, h2⟩ := (derDecodeStrict_cons ..).mp h
      obtain ⟨rfl, _⟩ := (derDecodeInt_iff ..).mp h2
      obtain ⟨rfl, _⟩ := (derDecodeInt_iff ..).mp h1
      rw [List.append_nil] at hlen ⊢
      rw [byte_eq_ofNat ht, byte_eq_ofNat hlen.symm]
      exact ⟨rfl, by rw [List.length_append, derInt_length, derInt_length] at hlen; omega⟩
  · rintro ⟨rfl, hl⟩
    have hc : (derInt r ++ derInt s).length < 128 := by
      rw [List.length_append, derInt_length, derInt_length]; omega
    have hL := toNat_ofNat_lt (Nat.lt_trans hc (by decide : 128 < 256))
    show derDecodeStrict (0x30 :: UInt8.ofNat _ :: (derInt r ++ derInt s)) = _
    exact (derDecodeStrict_cons ..).mpr ⟨rfl, by rw [hL]; exact hc, hL.symm, derInt s,
      (derDecodeInt_iff ..).mpr ⟨rfl, by omega⟩, (derDecodeInt_iff ..).mpr ⟨(List.append_nil _).symm, by omega⟩⟩

end BtcVerif

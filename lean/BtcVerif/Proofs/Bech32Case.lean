/-
  Letter case of segwit addresses (C11): validity depends on a string only through its lowercase form, given the
  character-range and single-case rules (`Decodes_of_lower_eq`); the all-upper-case rendering of a valid address
  is valid (`upper_decodes`).
-/
import BtcVerif.Proofs.Bech32Addr

namespace BtcVerif.Bech32
open BtcVerif.Model.Bech32
open BtcVerif.Spec.Bech32 (lowerStr Decodes)

theorem toUpper_facts (c : Char) (hr : 33 ≤ c.toNat ∧ c.toNat ≤ 126) :
    (33 ≤ c.toUpper.toNat ∧ c.toUpper.toNat ≤ 126) ∧ c.toUpper.isLower = false ∧
      c.toUpper.toLower = c.toLower := by
  have hU := toUpper_toNat c
  by_cases hl : c.isLower = true
  · have hl' := (isLower_iff c).1 hl
    rw [hl, if_pos rfl] at hU
    have hup : c.toUpper.isUpper = true := (isUpper_iff _).2 (by omega)
    have hnl : c.toUpper.isLower = false := by
      rw [← Bool.not_eq_true, isLower_iff]; omega
    have hcu : c.isUpper = false := by
      rw [← Bool.not_eq_true, isUpper_iff]; omega
    refine ⟨by omega, hnl, ?_⟩
    apply char_eq_of_toNat
    rw [toLower_toNat, toLower_toNat, hup, hcu, if_pos rfl]
    simp only [Bool.false_eq_true, if_false]
    omega
  · have hl' : c.isLower = false := by simpa using hl
    rw [hl'] at hU
    simp only [Bool.false_eq_true, if_false] at hU
    have : c.toUpper = c := char_eq_of_toNat hU
    rw [this]
    exact ⟨hr, hl', rfl⟩

theorem Decodes_of_lower_eq (h s s' : List Char) (v : Nat) (p : List Nat) (hd : Decodes h s v p)
    (hr : ∀ c ∈ s', 33 ≤ c.toNat ∧ c.toNat ≤ 126)
    (hc : ¬ ((∃ c ∈ s', c.isLower = true) ∧ (∃ c ∈ s', c.isUpper = true)))
    (hlow : lowerStr s' = lowerStr s) : Decodes h s' v p := by
  obtain ⟨_, _, hl, rest⟩ := hd
  have hlen : s'.length = s.length := by
    have := congrArg List.length hlow
    simpa [lowerStr] using this
  refine ⟨hr, hc, by omega, ?_⟩
  rw [hlow]
  exact rest

theorem upper_decodes (h s : List Char) (v : Nat) (p : List Nat) (hd : Decodes h s v p) :
    Decodes h (upper s) v p := by
  have hr := hd.1
  apply Decodes_of_lower_eq h s (upper s) v p hd
  · intro c hc
    obtain ⟨c0, hc0, rfl⟩ := List.mem_map.1 hc
    exact (toUpper_facts c0 (hr c0 hc0)).1
  · rintro ⟨⟨c, hc, hl⟩, _⟩
    obtain ⟨c0, hc0, rfl⟩ := List.mem_map.1 hc
    rw [(toUpper_facts c0 (hr c0 hc0)).2.1] at hl
    exact absurd hl (by simp)
  · unfold lowerStr upper
    rw [List.map_map]
    apply List.map_congr_left
    intro c hc
    exact (toUpper_facts c (hr c hc)).2.2

end BtcVerif.Bech32

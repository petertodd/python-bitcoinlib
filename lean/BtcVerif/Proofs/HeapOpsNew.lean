/-
  C09: the plans built from plain values (`planTxIn`, `planIns`, `planWit`, `planTx`, …) fit, and the allocated
  tree decodes to the value with the predicted flags; allocation of such a plan; the constructors `newTx`,
  `newCTx`, `newHeader`.
-/
import BtcVerif.Proofs.HeapOpsObserve

namespace BtcVerif.Model.Heap
open BtcVerif BtcVerif.Spec.ValueSem

/-- the class condition used for every allocation -/
def KindP (m : Bool) (sc : Scalars) : Prop := sc.alwaysImm = true → m = false

/-- all side conditions of `allocPlan_spec` and of the counting bound at once -/
structure PlanGood (h0 : Heap) (f : Nat) (p : Plan) : Prop where
  fits : Fits h0 f p
  all : PlanAll KindP f p
  imm : ImmPlan h0 f p
  refs : RefsImm h0 f p

theorem PlanGood.node {h0 : Heap} {f : Nat} {m : Bool} {sc : Scalars} {kids : List Plan} (hp : KindP m sc)
    (hk : ∀ k ∈ kids, PlanGood h0 f k) (hi : m = false → ∀ k ∈ kids, rootImm h0 k) :
    PlanGood h0 (f + 1) (.node m sc kids) := by
  refine ⟨?_, ?_, ?_, ?_⟩
  · simp only [Fits]; exact fun k hk' => (hk k hk').fits
  · simp only [PlanAll]; exact ⟨hp, fun k hk' => (hk k hk').all⟩
  · simp only [ImmPlan]; exact ⟨hi, fun k hk' => (hk k hk').imm⟩
  · simp only [RefsImm]; exact fun k hk' => (hk k hk').refs

def TreeIs (m : Bool) (v : Val) (t : ATree) : Prop := decode t = some v ∧ flagsOK m t

theorem chain_map_decode {α : Type} {R : Plan → Nat → Nat → ATree → Prop} {g : α → Plan} {c : α → Val}
    {m : Bool} (hR : ∀ x lo hi t, R (g x) lo hi t → TreeIs m (c x) t) :
    ∀ {l : List α} {lo hi : Nat} {ts : List ATree}, Chain R (l.map g) lo hi ts →
      mapO decode ts = some (l.map c) ∧ ∀ t ∈ ts, flagsOK m t
  | [], _, _, [], _ => ⟨rfl, by simp⟩
  | [], _, _, _ :: _, h => by simp [Chain] at h
  | _ :: _, _, _, [], h => by simp [Chain] at h
  | x :: l, lo, hi, t :: ts, h => by
    simp only [List.map_cons, Chain] at h
    obtain ⟨mid, h0, hc⟩ := h
    obtain ⟨h1, h2⟩ := hR x lo mid t h0
    obtain ⟨h3, h4⟩ := chain_map_decode hR hc
    refine ⟨by simp [mapO, h1, h3], ?_⟩
    intro t' ht'
    simp only [List.mem_cons] at ht'
    rcases ht' with rfl | ht'
    · exact h2
    · exact h4 t' ht'

theorem good_planOutPoint (h0 : Heap) (m : Bool) (o : OutPoint) (f : Nat) :
    PlanGood h0 (f + 1) (planOutPoint m o) := by
  refine ⟨?_, ?_, ?_, ?_⟩ <;> simp [planOutPoint, Fits, PlanAll, ImmPlan, RefsImm, KindP, Scalars.alwaysImm]

theorem tree_leaf {h0 : Heap} {m : Bool} {sc : Scalars} {v : Val} {f lo hi : Nat} {t : ATree}
    (hv : assemble sc [] = some v) (h : PT h0 (f + 1) (.node m sc []) lo hi t) : TreeIs m v t := by
  cases t with | node a m' sc' kids =>
  simp only [PT] at h
  obtain ⟨_, _, rfl, rfl, hc⟩ := h
  cases kids with
  | nil => exact ⟨by rw [decode_node]; exact hv, rfl, trivial⟩
  | cons k ks => simp [Chain] at hc

theorem tree_planOutPoint {h0 : Heap} {m : Bool} {o : OutPoint} {f lo hi : Nat} {t : ATree}
    (h : PT h0 (f + 1) (planOutPoint m o) lo hi t) : TreeIs m (.outpoint o) t :=
  tree_leaf rfl h

theorem good_planTxIn (h0 : Heap) (m : Bool) (i : TxIn) (f : Nat) :
    PlanGood h0 (f + 2) (planTxIn m i) :=
  PlanGood.node (fun hai => by cases hai)
    (fun k hk => by obtain rfl := List.mem_singleton.mp hk; exact good_planOutPoint h0 m i.prevout f)
    (fun hm k hk => by obtain rfl := List.mem_singleton.mp hk; exact hm)

theorem tree_planTxIn {h0 : Heap} {m : Bool} {i : TxIn} {f lo hi : Nat} {t : ATree}
    (h : PT h0 (f + 2) (planTxIn m i) lo hi t) : TreeIs m (.txin i) t := by
  cases t with | node a m' sc kids =>
  simp only [planTxIn, PT] at h
  obtain ⟨_, _, rfl, rfl, hc⟩ := h
  match kids, hc with
  | [k], hc =>
    simp only [Chain] at hc
    obtain ⟨mid, hk, _⟩ := hc
    obtain ⟨hd, hf⟩ := tree_planOutPoint hk
    refine ⟨by simp [decode_node, mapO, hd, assemble], rfl, ?_⟩
    have hsc : k.sc.alwaysImm = false := by
      cases k with | node ak mk sck kk =>
        simp only [planOutPoint, PT] at hk
        obtain ⟨_, _, _, rfl, _⟩ := hk
        rfl
    simp [flagsOKL, hsc, hf]

theorem good_planTxOut (h0 : Heap) (m : Bool) (o : TxOut) (f : Nat) :
    PlanGood h0 (f + 1) (planTxOut m o) := by
  refine ⟨?_, ?_, ?_, ?_⟩ <;> simp [planTxOut, Fits, PlanAll, ImmPlan, RefsImm, KindP, Scalars.alwaysImm]

theorem tree_planTxOut {h0 : Heap} {m : Bool} {o : TxOut} {f lo hi : Nat} {t : ATree}
    (h : PT h0 (f + 1) (planTxOut m o) lo hi t) : TreeIs m (.txout o) t :=
  tree_leaf rfl h

theorem PT.root_sc {h0 : Heap} {f lo hi : Nat} {m : Bool} {sc : Scalars} {ps : List Plan} {t : ATree}
    (h : PT h0 f (.node m sc ps) lo hi t) : t.sc = sc ∧ t.isMut = m := by
  cases f with
  | zero => simp [PT] at h
  | succ f =>
    cases t with | node a m' sc' kids =>
      simp only [PT] at h
      exact ⟨h.2.2.2.1, h.2.2.1⟩

theorem tree_seq {α : Type} {h0 : Heap} {m : Bool} {k : SeqKind} {pl : α → Plan} {mk : α → Val} {l : List α}
    {w : Val} {f lo hi : Nat} {t : ATree}
    (hel : ∀ x lo hi t, PT h0 f (pl x) lo hi t → TreeIs m (mk x) t ∧ t.sc.alwaysImm = false)
    (hw : assemble (.seq k) (l.map mk) = some w)
    (h : PT h0 (f + 1) (.node m (.seq k) (l.map pl)) lo hi t) : TreeIs m w t := by
  cases t with | node a m' sc kids =>
  simp only [PT] at h
  obtain ⟨_, _, hm', hsc', hc⟩ := h
  subst m'; subst sc
  obtain ⟨hd, hf⟩ := chain_map_decode (c := mk) (m := m) (fun x lo hi t ht => (hel x lo hi t ht).1) hc
  refine ⟨by rw [decode_node, hd]; exact hw, rfl, flagsOKL_iff.mpr fun kt hk => ?_⟩
  have hsc : kt.sc.alwaysImm = false := by
    obtain ⟨i, hi, rfl⟩ := List.getElem_of_mem hk
    have hlen := Chain.length_eq hc
    have hi' : i < (l.map pl).length := by omega
    obtain ⟨lo', hi'', hpt⟩ := Chain.get hc i _ _ (List.getElem?_eq_getElem hi') (List.getElem?_eq_getElem hi)
    rw [List.getElem_map] at hpt
    exact (hel _ _ _ _ hpt).2
  simpa [hsc] using hf kt hk

theorem good_planIns (h0 : Heap) (m : Bool) (l : List TxIn) (f : Nat) :
    PlanGood h0 (f + 3) (planIns m l) :=
  PlanGood.node (fun hai => by cases hai)
    (fun k hk => by obtain ⟨i, _, rfl⟩ := List.mem_map.mp hk; exact good_planTxIn h0 m i f)
    (fun hm k hk => by obtain ⟨i, _, rfl⟩ := List.mem_map.mp hk; exact hm)

theorem tree_planIns {h0 : Heap} {m : Bool} {l : List TxIn} {f lo hi : Nat} {t : ATree}
    (h : PT h0 (f + 3) (planIns m l) lo hi t) : TreeIs m (.ins l) t :=
  tree_seq (fun _ _ _ _ ht => ⟨tree_planTxIn ht, by rw [(PT.root_sc ht).1]; rfl⟩)
    (by rw [assemble_eq_some]; rfl) h

theorem good_planOuts (h0 : Heap) (m : Bool) (l : List TxOut) (f : Nat) :
    PlanGood h0 (f + 2) (planOuts m l) :=
  PlanGood.node (fun hai => by cases hai)
    (fun k hk => by obtain ⟨i, _, rfl⟩ := List.mem_map.mp hk; exact good_planTxOut h0 m i f)
    (fun hm k hk => by obtain ⟨i, _, rfl⟩ := List.mem_map.mp hk; exact hm)

theorem tree_planOuts {h0 : Heap} {m : Bool} {l : List TxOut} {f lo hi : Nat} {t : ATree}
    (h : PT h0 (f + 2) (planOuts m l) lo hi t) : TreeIs m (.outs l) t :=
  tree_seq (fun _ _ _ _ ht => ⟨tree_planTxOut ht, by rw [(PT.root_sc ht).1]; rfl⟩)
    (by rw [assemble_eq_some]; rfl) h

theorem good_planWit (h0 : Heap) (w : List WitStack) (f : Nat) : PlanGood h0 (f + 3) (planWit w) := by
  refine ⟨?_, ?_, ?_, ?_⟩ <;>
    simp [planWit, Fits, PlanAll, ImmPlan, RefsImm, KindP, rootImm]

theorem tree_planWit {h0 : Heap} {w : List WitStack} {f lo hi : Nat} {t : ATree}
    (h : PT h0 (f + 3) (planWit w) lo hi t) : TreeIs false (.wit w) t := by
  cases t with | node a m' sc kids =>
  simp only [planWit, PT] at h
  obtain ⟨_, _, rfl, rfl, hc⟩ := h
  match kids, hc with
  | [k], hc =>
    simp only [Chain] at hc
    obtain ⟨mid, hk, _⟩ := hc
    cases k with | node ak mk sck kk =>
    simp only [PT] at hk
    obtain ⟨_, _, rfl, rfl, hck⟩ := hk
    have hleaf : ∀ (st : WitStack) (lo hi : Nat) (t : ATree),
        PT h0 (f + 1) ((fun st => Plan.node false (.inwit st) []) st) lo hi t → TreeIs false (.inwit st) t :=
      fun _ _ _ _ ht => tree_leaf rfl ht
    obtain ⟨hd, hf⟩ := chain_map_decode (c := Val.inwit) (m := false) hleaf hck
    have hdk : decode (.node ak false (.seq .stacks) kk) = some (.stacks w) := by
      simp [decode_node, hd, assemble, mapO_asStack_map]
    refine ⟨by simp [decode_node, mapO, hdk, assemble], rfl, ?_⟩
    simp only [flagsOKL, ATree.sc, Bool.false_and, and_true]
    refine ⟨rfl, flagsOKL_iff.mpr ?_⟩
    intro k hk
    simpa using hf k hk

theorem good_refDefaultWit {h0 : Heap} (hd : DefaultsOK h0) (f : Nat) :
    PlanGood h0 (f + 2) (.ref defaultWit) ∧
    ∀ lo hi t, PT h0 (f + 2) (.ref defaultWit) lo hi t → TreeIs false (.wit []) t := by
  obtain ⟨o0, o1, h0', a1, a2, a3, h1', b1, b2, b3⟩ := hd
  have hu0 : unfoldA (f + 1) h0 emptyTuple = some (.node emptyTuple false (.seq .stacks) []) := by
    have := unfoldA_mk (f := f) h0' (kids := []) (by rw [a3]; rfl)
    rw [a1, a2] at this; exact this
  have hu1 : unfoldA (f + 2) h0 defaultWit =
      some (.node defaultWit false .wit [.node emptyTuple false (.seq .stacks) []]) := by
    have := unfoldA_mk (f := f + 1) h1' (kids := [.node emptyTuple false (.seq .stacks) []])
      (by rw [b3]; simp [mapO, hu0])
    rw [b1, b2] at this; exact this
  refine ⟨⟨⟨_, hu1⟩, trivial, trivial, ⟨o1, h1', b1⟩⟩, ?_⟩
  intro lo hi t ht
  simp only [PT] at ht
  rw [hu1] at ht
  obtain ⟨_, ht⟩ := ht
  cases ht
  refine ⟨by simp [decode_node, mapO, assemble], rfl, ?_⟩
  simp [flagsOKL, flagsOK, ATree.sc, Scalars.alwaysImm]

theorem good_planTx {h0 : Heap} (m : Bool) (v : Tx) {wp : Plan} {f : Nat} (hw : PlanGood h0 (f + 3) wp)
    (hwi : rootImm h0 wp) : PlanGood h0 (f + 4) (planTx m v wp) := by
  refine PlanGood.node (fun hai => by cases hai) (fun k hk => ?_) (fun hm k hk => ?_) <;>
    simp only [List.mem_cons, List.mem_nil_iff, or_false] at hk <;> rcases hk with rfl | rfl | rfl
  · exact good_planIns h0 m v.vin f
  · exact good_planOuts h0 m v.vout (f + 1)
  · exact hw
  · exact hm
  · exact hm
  · exact hwi

theorem tree_planTx {h0 : Heap} {m : Bool} {v : Tx} {wp : Plan} {w : List WitStack} {f lo hi : Nat} {t : ATree}
    (hw : ∀ lo hi t, PT h0 (f + 3) wp lo hi t → TreeIs false (.wit w) t)
    (h : PT h0 (f + 4) (planTx m v wp) lo hi t) :
    TreeIs m (.tx { v with wit := w }) t := by
  cases t with | node a m' sc kids =>
  simp only [planTx, PT] at h
  obtain ⟨_, _, rfl, rfl, hc⟩ := h
  match kids, hc with
  | [k1, k2, k3], hc =>
    simp only [Chain] at hc
    obtain ⟨m1, hk1, m2, hk2, m3, hk3, _⟩ := hc
    obtain ⟨d1, f1⟩ := tree_planIns hk1
    obtain ⟨d2, f2⟩ := tree_planOuts hk2
    obtain ⟨d3, f3⟩ := hw _ _ _ hk3
    refine ⟨by simp [decode_node, mapO, d1, d2, d3, assemble], rfl, ?_⟩
    have s1 : k1.sc.alwaysImm = false := by rw [(PT.root_sc hk1).1]; rfl
    have s2 : k2.sc.alwaysImm = false := by rw [(PT.root_sc hk2).1]; rfl
    have s3 : k3.sc.alwaysImm = true := by
      have := (decode_alwaysImm d3).1
      rw [← this]; rfl
    simp [flagsOKL, s1, s2, s3, f1, f2, f3]

/-! ### allocation of a value plan; the constructors -/

theorem alloc_good {s : St} (hinv : Inv s) {p : Plan} {f : Nat} (hg : PlanGood s.heap f p) :
    ∃ e t', (allocPlan s.heap p).1 = s.heap ++ e ∧
      (∀ o ∈ e, o.cHash = none ∧ o.cPy = none ∧ (o.sc.alwaysImm = true → o.isMut = false)) ∧
      ImmClosed (allocPlan s.heap p).1 ∧
      unfoldA f (allocPlan s.heap p).1 (allocPlan s.heap p).2 = some t' ∧
      PT s.heap f p s.heap.length (allocPlan s.heap p).1.length t' ∧
      (∀ y, cnt y t' ≤ (if s.heap.length ≤ y then 1 else 0)) := by
  have hres := allocPlan_spec s.heap KindP p f s.heap ⟨[], by simp⟩ hg.fits hg.all hg.imm
  obtain ⟨e, he, hnew⟩ := hres.ext
  obtain ⟨t', ht', hpt⟩ := hres.tree
  exact ⟨e, t', he, hnew, hres.imm hinv.immClosed, ht', hpt, fun y => cnt_le_fresh (PT.cnt_le y hpt hg.refs).2⟩

theorem tx_eta (v : Tx) : ({ v with wit := v.wit } : Tx) = v := by cases v; rfl

theorem sim_newTx {s : St} {sp : Store} (hinv : Inv s) (hrel : Rel s sp) (v : Tx) :
    Sim s sp (.newTx v) := by
  simp only [Sim, step, Spec.ValueSem.step]
  cases hv : validTx v with
  | false => exact ⟨inv_skip hinv, rel_skip hrel, by simp⟩
  | true =>
    simp only [if_true]
    have hg : PlanGood s.heap D (planTx true v (planWit v.wit)) := by
      rw [D_eq]; exact good_planTx true v (good_planWit s.heap v.wit 4) rfl
    obtain ⟨e, t', he, hnew, hic, ht', hpt, hcnt⟩ := alloc_good hinv hg
    rw [D_eq] at hpt
    obtain ⟨hd, hf⟩ := tree_planTx (w := v.wit) (fun lo hi t ht => tree_planWit ht) hpt
    have hd : decode t' = some (.tx v) := hd
    have hm : t'.isMut = true := flagsOK_isMut hf
    refine ⟨?_, ?_, trivial⟩
    · apply inv_ext hinv he hnew hic (some _)
      intro a ha; cases ha
      exact ⟨t', _, ht', hd, by rw [hm]; exact hf, hcnt⟩
    · apply rel_ext hrel he
      exact ⟨t', ht', hd, hm⟩

theorem sim_newCTx {s : St} {sp : Store} (hinv : Inv s) (hrel : Rel s sp) (v : Tx) :
    Sim s sp (.newCTx v) := by
  simp only [Sim, step, Spec.ValueSem.step]
  cases hv : validTx v with
  | false => exact ⟨inv_skip hinv, rel_skip hrel, by simp⟩
  | true =>
    simp only [if_true]
    have key : ∀ wp : Plan, PlanGood s.heap (4 + 3) wp → rootImm s.heap wp →
        (∀ lo hi t, PT s.heap (4 + 3) wp lo hi t → TreeIs false (.wit v.wit) t) →
        Inv (s.bind (allocPlan s.heap (planTx false v wp)).1 (some (allocPlan s.heap (planTx false v wp)).2)) ∧
        Rel (s.bind (allocPlan s.heap (planTx false v wp)).1 (some (allocPlan s.heap (planTx false v wp)).2))
          (Spec.ValueSem.bind sp (some ⟨false, .tx v⟩)) := by
      intro wp hgw hri htw
      have hg : PlanGood s.heap D (planTx false v wp) := by
        rw [D_eq]; exact good_planTx false v hgw hri
      obtain ⟨e, t', he, hnew, hic, ht', hpt, hcnt⟩ := alloc_good hinv hg
      rw [D_eq] at hpt
      obtain ⟨hd, hf⟩ := tree_planTx (w := v.wit) htw hpt
      have hd : decode t' = some (.tx v) := hd
      have hm : t'.isMut = false := flagsOK_isMut hf
      refine ⟨?_, ?_⟩
      · apply inv_ext hinv he hnew hic (some _)
        intro a ha; cases ha
        exact ⟨t', _, ht', hd, by rw [hm]; exact hf, hcnt⟩
      · apply rel_ext hrel he
        exact ⟨t', ht', hd, hm⟩
    cases hw : v.wit.isEmpty with
    | true =>
      have hwe : v.wit = [] := by simpa using hw
      obtain ⟨hg, ht⟩ := good_refDefaultWit hinv.defaults 5
      obtain ⟨o0, o1, _, _, _, _, h1', b1, _, _⟩ := hinv.defaults
      obtain ⟨k1, k2⟩ := key (.ref defaultWit) hg ⟨o1, h1', b1⟩ (by rw [hwe]; exact ht)
      exact ⟨by simpa using k1, by simpa using k2, trivial⟩
    | false =>
      obtain ⟨k1, k2⟩ := key (planWit v.wit) (good_planWit s.heap v.wit 4) rfl
        (fun lo hi t ht => tree_planWit ht)
      exact ⟨by simpa using k1, by simpa using k2, trivial⟩

theorem sim_newHeader {s : St} {sp : Store} (hinv : Inv s) (hrel : Rel s sp) (v : Header) :
    Sim s sp (.newHeader v) := by
  simp only [Sim, step, Spec.ValueSem.step]
  by_cases hv : v.hashPrevBlock.length = 32 ∧ v.hashMerkleRoot.length = 32
  · simp only [hv, and_self, if_true, alloc]
    let o : Obj := { isMut := false, sc := .header v, refs := [] }
    have hu : unfoldA D (s.heap ++ [o]) s.heap.length = some (.node s.heap.length false (.header v) []) := by
      rw [D_eq]
      exact unfoldA_mk (o := o) (by simp) rfl
    have hd : decode (.node s.heap.length false (.header v) []) = some (.header v) := by
      simp [decode_node, mapO, assemble]
    refine ⟨?_, ?_, trivial⟩
    · apply inv_ext hinv (e := [o]) rfl (by simp [o, Scalars.alwaysImm])
        (immClosed_append_one hinv.immClosed (by simp [o])) (some _)
      intro a ha; cases ha
      refine ⟨_, _, hu, hd, ⟨rfl, trivial⟩, fun y => ?_⟩
      simp [cnt]
    · apply rel_ext hrel (e := [o]) rfl
      exact ⟨_, hu, hd, rfl⟩
  · simp only [hv, if_false]
    exact ⟨inv_skip hinv, rel_skip hrel, trivial⟩

end BtcVerif.Model.Heap

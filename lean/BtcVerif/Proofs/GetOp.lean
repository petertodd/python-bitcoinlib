/-
  The tokeniser `CScript.raw_iter` and Bitcoin Core's GetScriptOp, once for every property that walks a
  script: what GetScriptOp reads (exactly the encodings of valid operations) and refuses (exactly truncated
  pushes), one step of the generator as GetScriptOp, the generator unfolded, and the other transcriptions
  of GetScriptOp, each expressed through C08's `Spec.Script.getOp`: `getOp_script_ref` (C06's equals it),
  `getOp_blockcheck` (C16's is it without the data), `sighash_getOp_script` (C03/C04's size and rest
  from it); the `*_push` lemmas are the normal forms they rest on.  Mathlib-free.
-/
import BtcVerif.Model.ScriptIter
import BtcVerif.Spec.Script
import BtcVerif.Spec.ScriptRef
import BtcVerif.Spec.BlockCheck
import BtcVerif.Spec.Sighash
import BtcVerif.Proofs.BigEndian

namespace BtcVerif
open BtcVerif.Spec.Script BtcVerif.Model.Script

/-! ### GetScriptOp: exactly the encodings of valid operations are read, exactly truncated pushes refused -/

theorem declaredSize_opEnc {o : Nat} {d x : Bytes}
    (hd : if o < 0x4c then d.length = o else d.length < 256 ^ lenBytes o) :
    declaredSize o (leBytes (lenBytes o) d.length ++ x) = d.length := by
  unfold declaredSize
  split
  · rename_i h; rw [if_pos h] at hd; exact hd.symm
  · rename_i h; rw [if_neg h] at hd
    rw [List.take_left' (leBytes_length _ _), leNat_leBytes, Nat.mod_eq_of_lt hd]

theorem validOp_nonpush {o : Nat} {d : Bytes} (hv : ValidOp o d) (h : o > 0x4e) : d = [] := by
  have := hv.2; rwa [if_pos h] at this

theorem getOp_opEnc {o : Nat} {d : Bytes} (hv : ValidOp o d) (rest : Bytes) :
    getOp (opEnc o d ++ rest) = some (o, d, rest) := by
  obtain ⟨ho, hd⟩ := hv
  unfold opEnc
  by_cases h1 : o > 0x4e
  · rw [if_pos h1] at hd ⊢
    subst hd
    simp only [List.cons_append, List.nil_append, getOp, toNat_ofNat_lt ho, h1, if_true]
  · rw [if_neg h1] at hd ⊢
    have hl : (leBytes (lenBytes o) d.length).length = lenBytes o := leBytes_length _ _
    simp only [List.cons_append, List.append_assoc, getOp, toNat_ofNat_lt ho, h1, if_false,
      declaredSize_opEnc hd, List.drop_left' hl, List.length_append, hl]
    rw [if_neg (by omega), if_neg (by omega), List.take_left' rfl, List.drop_left' rfl]

theorem getOp_eq_some_iff {s : Bytes} {o : Nat} {d rest : Bytes} :
    getOp s = some (o, d, rest) ↔ ValidOp o d ∧ s = opEnc o d ++ rest := by
  refine ⟨fun h => ?_, fun ⟨hv, hs⟩ => hs ▸ getOp_opEnc hv rest⟩
  rcases s with _ | ⟨b, t⟩
  · simp [getOp] at h
  · simp only [getOp] at h
    by_cases h1 : b.toNat > 0x4e
    · simp only [h1, if_true, Option.some.injEq, Prod.mk.injEq] at h
      obtain ⟨rfl, rfl, rfl⟩ := h
      exact ⟨⟨b.toNat_lt, by rw [if_pos h1]⟩, by simp only [opEnc, h1, if_true, UInt8.ofNat_toNat]; rfl⟩
    · simp only [h1, if_false] at h
      split at h
      · simp at h
      · rename_i hw
        split at h
        · simp at h
        · rename_i hn
          simp only [Option.some.injEq, Prod.mk.injEq] at h
          obtain ⟨rfl, rfl, rfl⟩ := h
          -- the length field is the little-endian size of the payload that follows it
          have hdl : ((t.drop (lenBytes b.toNat)).take (declaredSize b.toNat t)).length = declaredSize b.toNat t := by
            rw [List.length_take]; omega
          have htl : (t.take (lenBytes b.toNat)).length = lenBytes b.toNat := by
            rw [List.length_take]; omega
          have hlen : leBytes (lenBytes b.toNat) (declaredSize b.toNat t) = t.take (lenBytes b.toNat) := by
            unfold declaredSize
            split
            · rename_i h2; simp [lenBytes, h2, leBytes]
            · have := leBytes_leNat (t.take (lenBytes b.toNat)); rwa [htl] at this
          refine ⟨⟨b.toNat_lt, ?_⟩, ?_⟩
          · rw [if_neg h1, hdl]
            unfold declaredSize
            split
            · rfl
            · have := leNat_lt (t.take (lenBytes b.toNat)); rwa [htl] at this
          · simp only [opEnc, h1, if_false, hdl, hlen, UInt8.ofNat_toNat, List.cons_append, List.append_assoc,
              List.take_append_drop]

theorem getOp_eq_none_iff {b : UInt8} {t : Bytes} : getOp (b :: t) = none ↔ TruncatedPush (b :: t) := by
  simp only [getOp]
  constructor
  · intro h
    by_cases h1 : b.toNat > 0x4e
    · simp [h1] at h
    · simp only [h1, if_false] at h
      refine ⟨b, t, rfl, by omega, ?_⟩
      split at h
      · left; assumption
      · split at h
        · right; rename_i hn; rwa [List.length_drop] at hn
        · simp at h
  · rintro ⟨b', t', hbt, hb, ht⟩
    obtain ⟨rfl, rfl⟩ := List.cons.inj hbt
    rw [if_neg (by omega)]
    rcases ht with ht | ht
    · rw [if_pos ht]
    · split
      · rfl
      · rw [if_pos (by rwa [List.length_drop])]

/-! ### one step of the generator -/

/-- `data = r[:n]; if len(data) < n` tests `len(r) < n`, and then `data` is all of `r` -/
theorem take_short_ite {β : Type} (r : Bytes) (n : Nat) (f : Bytes → β) (g : β) :
    (if (r.take n).length < n then f (r.take n) else g) = if r.length < n then f r else g := by
  by_cases h : r.length < n
  · rw [if_pos h, if_pos (by rw [List.length_take]; omega), List.take_of_length_le (by omega)]
  · rw [if_neg h, if_neg (by rw [List.length_take]; omega)]

/- The model, C16's and C03/C04's transcriptions treat the direct pushes and OP_PUSHDATA1/2/4 in separate
   arms that differ only in how many bytes hold the length; `lenBytes` and `declaredSize` say that once, so
   each `*_push` lemma below is the same four-way split bringing one definition to the common form. -/
theorem rawStep_push (idx : Nat) (b : UInt8) (t : Bytes) (h : ¬ b.toNat > 0x4e) :
    rawStep idx (b :: t) =
      if t.length < lenBytes b.toNat then some (.err .missingLen)
      else if (t.drop (lenBytes b.toNat)).length < declaredSize b.toNat t then
        some (.err (.truncated (t.drop (lenBytes b.toNat))))
      else some (.op ⟨b.toNat, some ((t.drop (lenBytes b.toNat)).take (declaredSize b.toNat t)), idx⟩
        ((t.drop (lenBytes b.toNat)).drop (declaredSize b.toNat t))) := by
  simp only [rawStep, h, if_false, lenBytes, declaredSize]
  by_cases h2 : b.toNat < 0x4c
  · simp only [h2, if_true, List.drop_zero, Nat.not_lt_zero, if_false]
    exact take_short_ite t b.toNat (fun d => some (Step.err (.truncated d))) _
  · by_cases h4 : b.toNat = 0x4c
    · rcases t with _ | ⟨l0, r⟩
      · simp [h4]
      · simp only [h4, reduceIte, Nat.reduceEqDiff, List.length_cons, List.drop_succ_cons, List.drop_zero,
          List.take_succ_cons, List.take_zero, leNat, Nat.mul_zero, Nat.add_zero,
          show ¬ (r.length + 1 < 1) by omega, Nat.lt_irrefl]
        exact take_short_ite r l0.toNat (fun d => some (Step.err (.truncated d))) _
    · by_cases h5 : b.toNat = 0x4d
      · rcases t with _ | ⟨l0, _ | ⟨l1, r⟩⟩
        · simp [h5]
        · simp [h5]
        · simp only [h5, reduceIte, Nat.reduceLT, Nat.reduceEqDiff, List.length_cons, List.drop_succ_cons, List.drop_zero, List.take_succ_cons, List.take_zero,
            leNat, Nat.mul_zero, Nat.add_zero, show ¬ (r.length + 1 + 1 < 2) by omega,
            show l0.toNat + 256 * l1.toNat = l0.toNat + l1.toNat * 256 by omega]
          exact take_short_ite r _ (fun d => some (Step.err (.truncated d))) _
      · rcases t with _ | ⟨l0, _ | ⟨l1, _ | ⟨l2, _ | ⟨l3, r⟩⟩⟩⟩
        · simp [h2, h4, h5]
        · simp [h2, h4, h5]
        · simp [h2, h4, h5]
        · simp [h2, h4, h5]
        · simp only [h2, h4, h5, reduceIte, List.length_cons, List.drop_succ_cons, List.drop_zero, List.take_succ_cons, List.take_zero,
            leNat, Nat.mul_zero, Nat.add_zero, show ¬ (r.length + 1 + 1 + 1 + 1 < 4) by omega,
            show l0.toNat + 256 * (l1.toNat + 256 * (l2.toNat + 256 * l3.toNat)) =
              l0.toNat + l1.toNat * 256 + l2.toNat * 65536 + l3.toNat * 16777216 by omega]
          exact take_short_ite r _ (fun d => some (Step.err (.truncated d))) _

theorem rawStep_eq_getOp (idx : Nat) (b : UInt8) (t : Bytes) :
    rawStep idx (b :: t) =
      match getOp (b :: t) with
      | some (o, d, rest) => some (.op ⟨o, if o > 0x4e then none else some d, idx⟩ rest)
      | none => some (.err (if t.length < lenBytes b.toNat then .missingLen
          else .truncated (t.drop (lenBytes b.toNat)))) := by
  by_cases h1 : b.toNat > 0x4e
  · simp only [rawStep, getOp, h1, if_true]
  · rw [rawStep_push idx b t h1]
    simp only [getOp, h1, if_false]
    by_cases hw : t.length < lenBytes b.toNat
    · simp only [hw, if_true]
    · by_cases hn : (t.drop (lenBytes b.toNat)).length < declaredSize b.toNat t <;>
        simp only [hw, hn, if_true, if_false, h1]

/-! ### the generator unfolded; induction along GetScriptOp -/

theorem rawIterFrom_unfold (idx : Nat) (s : Bytes) :
    rawIterFrom idx s =
      match rawStep idx s with
      | none => ([], none)
      | some (.err e) => ([], some e)
      | some (.op o rest) =>
        (o :: (rawIterFrom (idx + (s.length - rest.length)) rest).1,
          (rawIterFrom (idx + (s.length - rest.length)) rest).2) := by
  rw [rawIterFrom]
  split <;> rename_i h <;> simp [h]

theorem rawIterFrom_nil (idx : Nat) : rawIterFrom idx [] = ([], none) := by
  rw [rawIterFrom_unfold]; rfl

theorem rawIterFrom_op {idx : Nat} {s : Bytes} {o : RawOp} {rest : Bytes}
    (h : rawStep idx s = some (.op o rest)) :
    rawIterFrom idx s =
      (o :: (rawIterFrom (idx + (s.length - rest.length)) rest).1,
       (rawIterFrom (idx + (s.length - rest.length)) rest).2) := by
  rw [rawIterFrom_unfold, h]

theorem rawIterFrom_err {idx : Nat} {s : Bytes} {e : IterErr} (h : rawStep idx s = some (.err e)) :
    rawIterFrom idx s = ([], some e) := by
  rw [rawIterFrom_unfold, h]

theorem parse_nil : parse [] = ([], true) := by
  rw [parse]; simp

theorem parse_cons (b : UInt8) (t : Bytes) :
    parse (b :: t) =
      match getOp (b :: t) with
      | some (o, d, rest) => ((o, d) :: (parse rest).1, (parse rest).2)
      | none => ([], false) := by
  rw [parse]
  simp only [List.cons_ne_nil, if_false]
  split <;> rename_i h <;> simp [h]

theorem getOp_induction {motive : Bytes → Prop} (nil : motive [])
    (stop : ∀ b t, getOp (b :: t) = none → motive (b :: t))
    (step : ∀ b t o d rest, getOp (b :: t) = some (o, d, rest) → motive rest → motive (b :: t)) :
    ∀ s, motive s := by
  intro s
  induction h : s.length using Nat.strongRecOn generalizing s with
  | _ n ih =>
    subst h
    rcases s with _ | ⟨b, t⟩
    · exact nil
    · rcases hg : getOp (b :: t) with _ | ⟨o, d, rest⟩
      · exact stop b t hg
      · exact step b t o d rest hg (ih _ (getOp_rest_lt hg) rest rfl)

/-! ### the other transcriptions of GetScriptOp -/

theorem getOp_script_ref (s : Bytes) : Spec.Script.getOp s = Spec.Script.Ref.getOp s := by
  cases s with
  | nil => rfl
  | cons b t =>
    simp only [Spec.Script.getOp, Spec.Script.Ref.getOp, lenBytes, declaredSize]
    by_cases h1 : b.toNat > 0x4e
    · have : ¬ b.toNat ≤ 0x4e := by omega
      simp [h1, this]
    · have h1' : b.toNat ≤ 0x4e := by omega
      simp only [h1, if_false, h1', if_true]
      by_cases h2 : b.toNat < 0x4c
      · simp [h2]
      · by_cases h3 : b.toNat = 0x4c
        · simp only [h3]
          by_cases hk : t.length < 1 <;> simp [hk]
        · by_cases h4 : b.toNat = 0x4d
          · simp only [h4]
            by_cases hk : t.length < 2 <;> simp [hk]
          · simp only [h2, h3, h4, if_false]
            by_cases hk : t.length < 4 <;> simp [hk]

theorem blockcheck_getOp_push (b : UInt8) (t : Bytes) (h : ¬ b.toNat > 0x4e) :
    Spec.BlockCheck.getOp (b :: t) =
      if t.length < lenBytes b.toNat then none
      else if (t.drop (lenBytes b.toNat)).length < declaredSize b.toNat t then none
      else some (b.toNat, (t.drop (lenBytes b.toNat)).drop (declaredSize b.toNat t)) := by
  simp only [Spec.BlockCheck.getOp, lenBytes, declaredSize]
  by_cases h2 : b.toNat < 0x4c
  · simp only [h2, if_true, List.drop_zero, Nat.not_lt_zero, if_false]
  · by_cases h4 : b.toNat = 0x4c
    · rcases t with _ | ⟨l0, r⟩
      · simp [h4]
      · simp only [h4, reduceIte, Nat.reduceLT, Nat.reduceEqDiff, List.length_cons, List.drop_succ_cons,
          List.drop_zero, List.take_succ_cons, List.take_zero, leNat, Nat.mul_zero, Nat.add_zero,
          show ¬ (r.length + 1 < 1) by omega]
    · by_cases h5 : b.toNat = 0x4d
      · rcases t with _ | ⟨l0, _ | ⟨l1, r⟩⟩
        · simp [h5]
        · simp [h5]
        · simp only [h5, reduceIte, Nat.reduceLT, Nat.reduceEqDiff, List.length_cons, List.drop_succ_cons,
            List.drop_zero, List.take_succ_cons, List.take_zero, leNat, Nat.mul_zero, Nat.add_zero,
            show ¬ (r.length + 1 + 1 < 2) by omega]
      · have h6 : b.toNat = 0x4e := by omega
        rcases t with _ | ⟨l0, _ | ⟨l1, _ | ⟨l2, _ | ⟨l3, r⟩⟩⟩⟩
        · simp [h6]
        · simp [h6]
        · simp [h6]
        · simp [h6]
        · simp only [h6, reduceIte, Nat.reduceLT, Nat.reduceEqDiff, List.length_cons, List.drop_succ_cons,
            List.drop_zero, List.take_succ_cons, List.take_zero, leNat, Nat.mul_zero, Nat.add_zero,
            show ¬ (r.length + 1 + 1 + 1 + 1 < 4) by omega,
            show l0.toNat + 256 * (l1.toNat + 256 * (l2.toNat + 256 * l3.toNat)) =
              l0.toNat + 256 * l1.toNat + 65536 * l2.toNat + 16777216 * l3.toNat by omega]

theorem getOp_blockcheck (s : Bytes) :
    Spec.BlockCheck.getOp s = (Spec.Script.getOp s).map (fun x => (x.1, x.2.2)) := by
  cases s with
  | nil => rfl
  | cons b t =>
    by_cases h1 : b.toNat > 0x4e
    · have h2 : ¬ b.toNat < 0x4c := by omega
      have h3 : ¬ b.toNat = 0x4c := by omega
      have h4 : ¬ b.toNat = 0x4d := by omega
      have h5 : ¬ b.toNat = 0x4e := by omega
      simp [Spec.Script.getOp, Spec.BlockCheck.getOp, h1, h2, h3, h4, h5]
    · rw [blockcheck_getOp_push b t h1]
      simp only [Spec.Script.getOp, h1, if_false]
      split
      · rfl
      · split <;> rfl

theorem sighash_getOp_push (b : UInt8) (r : Bytes) (h : ¬ b.toNat > 0x4e) :
    Spec.Sighash.getOp (b :: r) =
      if r.length < lenBytes b.toNat then none
      else if r.length - lenBytes b.toNat < declaredSize b.toNat r then none
      else some (b, 1 + lenBytes b.toNat + declaredSize b.toNat r) := by
  simp only [Spec.Sighash.getOp, show b.toNat ≤ 0x4e by omega, if_true, lenBytes, declaredSize]
  by_cases h2 : b.toNat < 0x4c
  · simp only [h2, if_true, Nat.not_lt_zero, if_false]
  · by_cases h4 : b.toNat = 0x4c
    · simp only [h4, reduceIte, Nat.reduceLT, Nat.reduceEqDiff]
      by_cases hk : r.length < 1 <;> simp only [hk, if_true, if_false]
    · by_cases h5 : b.toNat = 0x4d
      · simp only [h5, reduceIte, Nat.reduceLT, Nat.reduceEqDiff]
        by_cases hk : r.length < 2 <;> simp only [hk, if_true, if_false]
      · simp only [h2, h4, h5, if_false]
        by_cases hk : r.length < 4 <;> simp only [hk, if_true, if_false]

theorem sighash_getOp_script (b : UInt8) (r : Bytes) :
    match Spec.Script.getOp (b :: r) with
    | none => Spec.Sighash.getOp (b :: r) = none
    | some (o, _, rest) =>
        ∃ n, Spec.Sighash.getOp (b :: r) = some (b, n) ∧ 1 ≤ n ∧ n ≤ (b :: r).length ∧
          rest = (b :: r).drop n ∧ o = b.toNat := by
  by_cases h1 : b.toNat > 0x4e
  · have e1 : Spec.Script.getOp (b :: r) = some (b.toNat, [], r) := by simp only [Spec.Script.getOp, h1, if_true]
    have e2 : Spec.Sighash.getOp (b :: r) = some (b, 1) := by
      simp only [Spec.Sighash.getOp, show ¬ b.toNat ≤ 0x4e by omega, if_false]
    rw [e1]
    exact ⟨1, e2, Nat.le_refl 1, by simp, rfl, rfl⟩
  · rw [sighash_getOp_push b r h1]
    simp only [Spec.Script.getOp, h1, if_false, List.length_drop]
    by_cases hw : r.length < lenBytes b.toNat
    · simp only [hw, if_true]
    · by_cases hn : r.length - lenBytes b.toNat < declaredSize b.toNat r
      · simp only [hw, hn, if_true, if_false]
      · simp only [hw, hn, if_false]
        refine ⟨_, rfl, by omega, by simp only [List.length_cons]; omega, ?_, trivial⟩
        rw [show 1 + lenBytes b.toNat + declaredSize b.toNat r = (lenBytes b.toNat + declaredSize b.toNat r) + 1 by omega,
          List.drop_succ_cons, List.drop_drop]

end BtcVerif

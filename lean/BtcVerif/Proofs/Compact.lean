/-
  A non-zero `v` of `nbytes v = nb` bytes has a three-byte window
  `mant v` at its most significant end (`v` shifted left for `nb ≤ 3`, right otherwise), which lies in
  [2¹⁶, 2²⁴).  `compact_from_uint256` stores `(mant v, nb)`, or `(mant v / 256, nb + 1)` when the window's
  top bit is set; decoding, canonicity and the truncation are read off that pair.
-/
import BtcVerif.Model.Compact
import BtcVerif.Spec.Compact
import BtcVerif.Proofs.DigitCount
import Mathlib.Tactic.IntervalCases

namespace BtcVerif

theorem nbytes_zero : nbytes 0 = 0 := by unfold nbytes; simp

theorem nbytes_pos {v : Nat} (h : v ≠ 0) : nbytes v = nbytes (v / 256) + 1 := by
  rw [nbytes]; simp [h]

theorem nbytes_le_iff (v k : Nat) : nbytes v ≤ k ↔ v < 256 ^ k :=
  digitCount_le_iff (by omega) nbytes_zero (fun _ => nbytes_pos) v k

theorem nbytes_bounds (v : Nat) (h : v ≠ 0) : 256 ^ (nbytes v - 1) ≤ v ∧ v < 256 ^ nbytes v :=
  digitCount_bounds (by omega) nbytes_zero (fun _ => nbytes_pos) h

theorem nbytes_eq {v k : Nat} (h1 : 256 ^ k ≤ v) (h2 : v < 256 ^ (k+1)) : nbytes v = k + 1 :=
  (digitCount_eq_iff (by omega) nbytes_zero (fun _ => nbytes_pos) v k).mpr ⟨h1, h2⟩

theorem pow8 (k : Nat) : 2 ^ (8 * k) = 256 ^ k := by rw [Nat.pow_mul]

theorem two_pow_16 : (2 : Nat) ^ 16 = 256 ^ 2 := pow8 2

theorem two_pow_24 : (2 : Nat) ^ 24 = 256 ^ 3 := pow8 3

theorem nbytes_le32 (v : Nat) (hv : v < 2 ^ 256) : nbytes v ≤ 32 :=
  (nbytes_le_iff v 32).mpr (by rw [← pow8]; exact hv)

theorem nbytes_mul_pow {m : Nat} (hm : m ≠ 0) (j : Nat) : nbytes (m * 256 ^ j) = nbytes m + j := by
  induction j with
  | zero => simp
  | succ j ih =>
    have : m * 256 ^ j ≠ 0 := Nat.mul_ne_zero hm (Nat.ne_of_gt (Nat.pow_pos (by omega)))
    rw [Nat.pow_succ, ← Nat.mul_assoc, nbytes_pos (Nat.mul_ne_zero this (by omega)),
      Nat.mul_div_cancel _ (by omega), ih, Nat.add_assoc]

/-- the three most significant bytes of `v` as a number (shifted up when `v` has fewer than three) -/
def mant (v : Nat) : Nat :=
  if nbytes v ≤ 3 then v * 256 ^ (3 - nbytes v) else v / 256 ^ (nbytes v - 3)

theorem mant_bounds {v : Nat} (h : v ≠ 0) : 2 ^ 16 ≤ mant v ∧ mant v < 2 ^ 24 := by
  obtain ⟨h1, h2⟩ := nbytes_bounds v h
  have hpos : 1 ≤ nbytes v := by rw [nbytes_pos h]; omega
  unfold mant
  split
  · rename_i h3
    have e1 : (256 : Nat) ^ (nbytes v - 1) * 256 ^ (3 - nbytes v) = 2 ^ 16 := by
      rw [← Nat.pow_add, show nbytes v - 1 + (3 - nbytes v) = 2 by omega, two_pow_16]
    have e2 : (256 : Nat) ^ nbytes v * 256 ^ (3 - nbytes v) = 2 ^ 24 := by
      rw [← Nat.pow_add, show nbytes v + (3 - nbytes v) = 3 by omega, two_pow_24]
    have hP : 0 < 256 ^ (3 - nbytes v) := Nat.pow_pos (by omega)
    exact ⟨e1 ▸ Nat.mul_le_mul_right _ h1, e2 ▸ Nat.mul_lt_mul_of_pos_right h2 hP⟩
  · rename_i h3
    have e1 : (256 : Nat) ^ (nbytes v - 1) = 2 ^ 16 * 256 ^ (nbytes v - 3) := by
      rw [two_pow_16, ← Nat.pow_add, show 2 + (nbytes v - 3) = nbytes v - 1 by omega]
    have e2 : (256 : Nat) ^ nbytes v = 2 ^ 24 * 256 ^ (nbytes v - 3) := by
      rw [two_pow_24, ← Nat.pow_add, show 3 + (nbytes v - 3) = nbytes v by omega]
    have hP : 0 < 256 ^ (nbytes v - 3) := Nat.pow_pos (by omega)
    exact ⟨(Nat.le_div_iff_mul_le hP).mpr (e1 ▸ h1), (Nat.div_lt_iff_lt_mul hP).mpr (e2 ▸ h2)⟩

theorem mant_mul_pow {m : Nat} (hm : m ≠ 0) (j : Nat) : mant (m * 256 ^ j) = mant m := by
  unfold mant
  rw [nbytes_mul_pow hm]
  by_cases h1 : nbytes m + j ≤ 3
  · rw [if_pos h1, if_pos (by omega), Nat.mul_assoc, ← Nat.pow_add,
      show j + (3 - (nbytes m + j)) = 3 - nbytes m by omega]
  · rw [if_neg h1]
    by_cases h2 : nbytes m ≤ 3
    · obtain ⟨i, rfl⟩ : ∃ i, j = (3 - nbytes m) + i := ⟨j - (3 - nbytes m), by omega⟩
      rw [if_pos h2, show nbytes m + (3 - nbytes m + i) - 3 = i by omega, Nat.pow_add, ← Nat.mul_assoc,
        Nat.mul_div_cancel _ (Nat.pow_pos (by omega))]
    · rw [if_neg h2, show nbytes m + j - 3 = (nbytes m - 3) + j by omega, Nat.pow_add,
        Nat.mul_div_mul_right _ _ (Nat.pow_pos (by omega))]

theorem mant_top {v : Nat} (h : v ≠ 0) : mant v / 2 ^ 16 = v / 256 ^ (nbytes v - 1) := by
  have hpos : 1 ≤ nbytes v := by rw [nbytes_pos h]; omega
  unfold mant
  split
  · rename_i h3
    rw [show (2 : Nat) ^ 16 = 256 ^ (nbytes v - 1) * 256 ^ (3 - nbytes v) by
        rw [← Nat.pow_add, show nbytes v - 1 + (3 - nbytes v) = 2 by omega, two_pow_16],
      Nat.mul_div_mul_right _ _ (Nat.pow_pos (by omega))]
  · rename_i h3
    rw [Nat.div_div_eq_div_mul, two_pow_16, ← Nat.pow_add,
      show nbytes v - 3 + 2 = nbytes v - 1 by omega]

theorem toCompact_eq {v : Nat} (h : v ≠ 0) :
    Model.toCompact v =
      if mant v < 2 ^ 23 then mant v + nbytes v * 2 ^ 24 else mant v / 256 + (nbytes v + 1) * 2 ^ 24 := by
  obtain ⟨m1, m2⟩ := mant_bounds h
  have hc : (if nbytes v ≤ 3 then (v % 2 ^ 24) * 2 ^ (8 * (3 - nbytes v))
      else (v / 2 ^ (8 * (nbytes v - 3))) % 2 ^ 24) = mant v := by
    unfold mant at m2 ⊢
    simp only [pow8]
    split
    · rename_i h3
      have : v < 2 ^ 24 :=
        Nat.lt_of_lt_of_le (nbytes_bounds v h).2 (Nat.pow_le_pow_right (by omega) h3 : 256 ^ nbytes v ≤ 256 ^ 3)
      rw [Nat.mod_eq_of_lt this]
    · rename_i h3
      rw [if_neg h3] at m2
      exact Nat.mod_eq_of_lt m2
  unfold Model.toCompact
  simp only [hc]
  split <;> split <;> omega

theorem fromCompact_mk (m e : Nat) (hm : m < 2 ^ 24) (he : e < 256) :
    Model.fromCompact (m + e * 2 ^ 24) =
      if e ≤ 3 then m / 256 ^ (3 - e) else m * 256 ^ (e - 3) := by
  unfold Model.fromCompact
  have h1 : (m + e * 2 ^ 24) / 2 ^ 24 % 256 = e := by omega
  have h2 : (m + e * 2 ^ 24) % 2 ^ 24 = m := by omega
  simp only [h1, h2, pow8]

theorem canonical_mk (m e : Nat) (hm : m < 2 ^ 24) (he : e < 256)
    (h : 1 ≤ e ∧ 0x8000 ≤ m ∧ m < 0x800000 ∧ m % 256 ^ (3 - e) = 0) :
    Spec.canonical (m + e * 2 ^ 24) := by
  right
  have h1 : (m + e * 2 ^ 24) / 2 ^ 24 = e := by omega
  have h2 : (m + e * 2 ^ 24) % 2 ^ 24 = m := by omega
  simp only [h1, h2]
  omega

theorem mant_div_256 (v : Nat) :
    mant v / 256 = if nbytes v ≤ 2 then v * 256 ^ (2 - nbytes v) else v / 256 ^ (nbytes v - 2) := by
  unfold mant
  by_cases h2 : nbytes v ≤ 2
  · rw [if_pos (by omega), if_pos h2, show 3 - nbytes v = (2 - nbytes v) + 1 by omega, Nat.pow_succ,
      ← Nat.mul_assoc, Nat.mul_div_cancel _ (by omega)]
  · rw [if_neg h2]
    by_cases h3 : nbytes v ≤ 3
    · rw [if_pos h3, show 3 - nbytes v = 0 by omega, show nbytes v - 2 = 1 by omega]; simp
    · rw [if_neg h3, Nat.div_div_eq_div_mul, show nbytes v - 2 = (nbytes v - 3) + 1 by omega, Nat.pow_succ]

theorem toCompact_of_mant {v m e : Nat} (hv : v ≠ 0) (hm : 0x8000 ≤ m ∧ m < 0x800000)
    (hn : nbytes v + 3 = nbytes m + e) (hw : mant v = mant m) : Model.toCompact v = m + e * 2 ^ 24 := by
  rw [toCompact_eq hv, hw]
  by_cases h16 : m < 0x10000
  · have hb : nbytes m = 2 := nbytes_eq (k := 1) (by omega) (by omega)
    have : mant m = m * 256 := by unfold mant; rw [hb]; rfl
    rw [this, if_neg (by omega), Nat.mul_div_cancel _ (by omega), show nbytes v + 1 = e by omega]
  · have hb : nbytes m = 3 := nbytes_eq (k := 2) (by omega) (by omega)
    have : mant m = m := by unfold mant; rw [hb]; simp
    rw [this, if_pos (by omega), show nbytes v = e by omega]

theorem ovf_iff (w s : Nat) (hw : w < 2 ^ 23) (hs3 : 3 < s) :
    (w ≠ 0 ∧ (s > 34 ∨ (w > 0xff ∧ s > 33) ∨ (w > 0xffff ∧ s > 32))) ↔
      2 ^ 256 ≤ w * 2 ^ (8 * (s - 3)) := by
  rcases Nat.lt_or_ge s 33 with h | h
  · -- s ≤ 32: never overflows
    have : w * 2 ^ (8 * (s - 3)) < 2 ^ 256 := by
      calc w * 2 ^ (8 * (s - 3)) < 2 ^ 23 * 2 ^ (8 * (s - 3)) :=
            Nat.mul_lt_mul_of_pos_right hw (Nat.pow_pos (by omega))
        _ = 2 ^ (23 + 8 * (s - 3)) := by rw [Nat.pow_add]
        _ ≤ 2 ^ 256 := Nat.pow_le_pow_right (by omega) (by omega)
    constructor
    · intro ⟨_, h'⟩; omega
    · intro h'; omega
  · rcases Nat.lt_or_ge s 35 with h35 | h35
    · have hs : s = 33 ∨ s = 34 := by omega
      rcases hs with rfl | rfl
      · simp only [show 8 * (33 - 3) = 240 by rfl]; constructor
        · intro ⟨_, h'⟩; omega
        · intro h'; omega
      · simp only [show 8 * (34 - 3) = 248 by rfl]; constructor
        · intro ⟨_, h'⟩; omega
        · intro h'; omega
    · constructor
      · intro ⟨h0, _⟩
        calc 2 ^ 256 ≤ 2 ^ (8 * (s - 3)) := Nat.pow_le_pow_right (by omega) (by omega)
          _ ≤ w * 2 ^ (8 * (s - 3)) := Nat.le_mul_of_pos_left _ (Nat.pos_of_ne_zero h0)
      · intro h'
        refine ⟨?_, Or.inl (by omega)⟩
        intro h0; subst h0; simp at h'

theorem checkPoW_ok_iff (limit : Nat) (hash : Bytes) (bits : Nat) :
    Model.checkPoW limit hash bits = .ok ↔
      (bits / 2 ^ 23) % 2 = 0 ∧ 0 < Model.fromCompact bits ∧ Model.fromCompact bits ≤ limit ∧
        32 ≤ hash.length ∧ leNat (hash.take 32) ≤ Model.fromCompact bits := by
  unfold Model.checkPoW Model.uint256FromStr
  by_cases hs : (bits / 2 ^ 23) % 2 = 1
  · rw [if_pos hs]
    constructor
    · intro h; cases h
    · intro h; omega
  · rw [if_neg hs]
    by_cases ht : 0 < Model.fromCompact bits ∧ Model.fromCompact bits ≤ limit
    · simp only [ht, not_true_eq_false, if_false, and_self, true_and]
      by_cases hl : hash.length < 32
      · simp only [hl, if_true]
        constructor
        · intro h; cases h
        · intro h; omega
      · simp only [hl, if_false]
        by_cases hg : leNat (hash.take 32) > Model.fromCompact bits
        · simp only [hg, if_true]
          constructor
          · intro h; cases h
          · intro h; omega
        · simp only [hg, if_false, true_iff]; omega
    · simp only [ht, not_false_eq_true, if_true]
      constructor
      · intro h; cases h
      · intro h; exact absurd ⟨h.2.1, h.2.2.1⟩ ht

theorem nbytes_eq_bitlength (v : Nat) : nbytes v = (bitLength v + 7) / 8 := by
  unfold bitLength
  by_cases h0 : v = 0
  · subst h0; simp [nbytes_zero]
  · simp only [h0, if_false]
    obtain ⟨h1, h2⟩ := nbytes_bounds v h0
    have hpos : 1 ≤ nbytes v := by rw [nbytes_pos h0]; omega
    generalize nbytes v = nb at *
    rw [← pow8] at h1 h2
    have hl : Nat.log2 v < 8 * nb := (Nat.log2_lt h0).mpr h2
    have hg : 8 * (nb - 1) ≤ Nat.log2 v := (Nat.le_log2 h0).mpr h1
    omega

end BtcVerif

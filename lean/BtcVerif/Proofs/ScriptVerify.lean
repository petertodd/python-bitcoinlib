/-
  C07 — `VerifyScript`: containment of its outcomes and the limits of the captured error states,
  assembled from the `EvalScript` invariants (Proofs/ScriptEvalInv*.lean).
-/
import BtcVerif.Proofs.ScriptEvalInv5

namespace BtcVerif.Model.ScriptEval
open BtcVerif BtcVerif.Spec BtcVerif.Spec.Script BtcVerif.Model.Script

/-- outcome of `VerifyScript`: normal return, a ValidationError with a captured state within the
    limits, or one of the two foreign exceptions of the known findings D7 and D6 -/
def VerOK (c : Ctx) (fl : Flags) {α : Type} : M α → Prop
  | .ok _ => True
  | .error (.eval cap) => Lim 520 cap.stack cap.altstack cap.nOpCount
  | .error .verify => True
  | .error (.invalid _) => False
  | .error (.py cls) => c.Raises cls ∨ (cls = "AssertionError" ∧ fl.admissible = false)

theorem verok_bind {c : Ctx} {fl : Flags} {α β : Type} {x : M α} {f : α → M β}
    (hx : VerOK c fl x) (hf : ∀ a, x = .ok a → VerOK c fl (f a)) : VerOK c fl (x >>= f) := by
  cases x with
  | ok a => exact hf a rfl
  | error e => cases e <;> exact hx

theorem verok_of_evalok {c : Ctx} {fl : Flags} {r : M (List Bytes)} (h : EvalOK c 520 r)
    (hni : ∀ cap, r ≠ .error (.invalid cap)) : VerOK c fl r := by
  cases r with
  | ok s => trivial
  | error e =>
    cases e with
    | eval cap => exact h
    | verify => trivial
    | invalid cap => exact absurd rfl (hni cap)
    | py cls => exact Or.inl h

theorem checkTopTrue_verok {c : Ctx} {fl : Flags} (stack : List Bytes) : VerOK c fl (checkTopTrue stack) := by
  unfold checkTopTrue
  cases stack with
  | nil => simp [VerOK]
  | cons a r =>
    simp only [List.length_cons, Nat.add_one_ne_zero, if_false, getTop?_1, pyIdx, bind, Except.bind]
    split <;> trivial

/-- the first opcode of a P2SH scriptPubKey needs an argument: on an empty stack it fails -/
theorem p2sh_needs_arg (c : Ctx) (fl : Flags) (spk : Bytes) (hp : isP2sh spk = true) :
    ∀ s, evalScript c fl [] spk ≠ .ok s := by
  intro s
  unfold isP2sh at hp
  simp only [Bool.and_eq_true, decide_eq_true_eq] at hp
  obtain ⟨⟨⟨hlen, h0⟩, _⟩, _⟩ := hp
  cases spk with
  | nil => simp at hlen
  | cons b t =>
    simp only [List.getElem?_cons_zero, Option.some.injEq] at h0
    subst h0
    have hstep : rawStep 0 ((0xa9 : UInt8) :: t) = some (.op ⟨0xa9, none, 0⟩ t) := by
      simp [rawStep]
    have hit := rawIterFrom_op hstep
    unfold evalScript evalScriptRaw
    have hsz : ¬ ((0xa9 : UInt8) :: t).length > MAX_SCRIPT_SIZE := by
      rw [hlen]; simp [MAX_SCRIPT_SIZE]
    rw [if_neg hsz]
    simp only [rawIter, hit, loop, bind, Except.bind]
    have : step c fl ((0xa9 : UInt8) :: t) ⟨0xa9, none, 0⟩ ⟨[], [], [], 0, 0⟩ =
        .error (.eval ⟨[], [], 1⟩) := by
      simp [step, disabledOpcodes, countOp, dispatch, checkExec, execOp, binaryNumOps, unaryNumOps, hashTop,
        checkArgs, raiseNamed, MAX_OPS_PER_SCRIPT, St.cap, bind, Except.bind,
        show opcodeName? 169 = some "OP_HASH160" from by decide]
    simp [this]

theorem verifyCleanStack_verok {c : Ctx} {fl : Flags} (stack : List Bytes) :
    VerOK c fl (verifyCleanStack fl stack) := by
  unfold verifyCleanStack
  split_ifs with h1 h2 h3
  · right; exact ⟨rfl, by simp [Flags.admissible, h1]; simpa using h2⟩
  · trivial
  · trivial
  · trivial

theorem elemsLe_nil (B : Nat) : ElemsLe B [] := fun x hx => by simp at hx

theorem verifyP2sh_verok {c : Ctx} {fl : Flags} (hh : HashesOK c.env.hashes) (sig : Bytes) (s1 : List Bytes)
    (hs1 : s1.length ≤ 1000) (he : ElemsLe 520 s1) (hne : s1 ≠ []) :
    VerOK c fl (verifyP2sh c fl sig (some s1)) := by
  unfold verifyP2sh
  split_ifs with hpo
  · trivial
  · cases s1 with
    | nil => exact absurd rfl hne
    | cons x r =>
      simp only [List.length_cons, Nat.add_one_ne_zero, if_false, pop?_cons, pyIdx]
      have hr : r.length ≤ 1000 := by simp only [List.length_cons] at hs1; omega
      have her : ElemsLe 520 r := fun y hy => he y (by simp [hy])
      have e := evalScript_ok (c := c) (B := 520) fl r x hr her (Nat.le_refl _) (by decide) hh
      show VerOK c fl (evalScript c fl r x >>= _)
      refine verok_bind (verok_of_evalok e.1 e.2) (fun s3 _ => ?_)
      exact verok_bind (checkTopTrue_verok s3) (fun _ _ => trivial)

theorem verifyScript_verok {c : Ctx} {fl : Flags} (hh : HashesOK c.env.hashes) (sig spk : Bytes) :
    VerOK c fl (verifyScript c fl sig spk) := by
  unfold verifyScript
  have e1 := evalScript_ok (c := c) (B := 520) fl [] sig (by simp) (elemsLe_nil _) (Nat.le_refl _)
    (by decide) hh
  refine verok_bind (verok_of_evalok e1.1 e1.2) (fun s1 hs1 => ?_)
  have f1 : s1.length ≤ 1000 ∧ ElemsLe 520 s1 := by
    have := e1.1; rw [hs1] at this; exact this
  dsimp only
  have e2 := evalScript_ok (c := c) (B := 520) fl s1 spk f1.1 f1.2 (Nat.le_refl _) (by decide) hh
  refine verok_bind (verok_of_evalok e2.1 e2.2) (fun s2 hs2 => ?_)
  refine verok_bind (checkTopTrue_verok s2) (fun _ _ => ?_)
  by_cases hp : fl.p2sh = true ∧ isP2sh spk = true
  · rw [if_pos hp, if_pos hp.1]
    have hne : s1 ≠ [] := by
      intro h; subst h; exact p2sh_needs_arg c fl spk hp.2 s2 hs2
    exact verok_bind (verifyP2sh_verok hh sig s1 f1.1 f1.2 hne) (fun s3 _ => verifyCleanStack_verok s3)
  · rw [if_neg hp]
    exact verok_bind (x := (.ok s2 : M (List Bytes))) trivial (fun s3 _ => verifyCleanStack_verok s3)

theorem rawIter_nil : rawIter [] = ([], none) := rawIterFrom_none rfl

theorem rawIter_push1 : rawIter [0x01, 0x01] = ([⟨1, some [1], 0⟩], none) := by
  have hs : rawStep 0 [0x01, 0x01] = some (.op ⟨1, some [1], 0⟩ []) := rfl
  rw [rawIter, rawIterFrom_op hs, rawIterFrom_none rfl]

theorem evalScript_nil (c : Ctx) (fl : Flags) (stack : List Bytes) : evalScript c fl stack [] = .ok stack := by
  rw [evalScript, evalScriptRaw, if_neg (by decide), rawIter_nil]; rfl

theorem evalScript_push1 (c : Ctx) (fl : Flags) : evalScript c fl [] [0x01, 0x01] = .ok [[1]] := by
  rw [evalScript, evalScriptRaw, if_neg (by decide), rawIter_push1]; rfl

end BtcVerif.Model.ScriptEval

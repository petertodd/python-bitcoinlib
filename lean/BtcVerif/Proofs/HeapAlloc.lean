/-
  C09: `allocPlan_spec` — allocating a plan (`Fits`, `PlanAll`, `ImmPlan`) extends the heap by objects with
  empty caches, keeps closure of immutability, and yields the tree `PT` describes: fresh nodes at adjacent
  address ranges (`Chain`), references with the tree they have in the base heap.
-/
import BtcVerif.Proofs.HeapPath

namespace BtcVerif.Model.Heap
open BtcVerif BtcVerif.Spec.ValueSem

/-- kids allocated one after the other: their address ranges `[lo,mid) [mid,…) … hi` are adjacent -/
def Chain (R : Plan → Nat → Nat → ATree → Prop) : List Plan → Nat → Nat → List ATree → Prop
  | [], lo, hi, [] => lo = hi
  | p :: ps, lo, hi, t :: ts => ∃ mid, R p lo mid t ∧ Chain R ps mid hi ts
  | _, _, _, _ => False

/-- `t` is the tree built for plan `p` at the fresh addresses `[lo,hi)`; references keep the tree
    they have in the base heap `h0` -/
def PT (h0 : Heap) : Nat → Plan → Nat → Nat → ATree → Prop
  | f, .ref a, lo, hi, t => lo = hi ∧ unfoldA f h0 a = some t
  | 0, .node _ _ _, _, _, _ => False
  | f + 1, .node m sc kids, lo, hi, .node a' m' sc' kids' =>
      a' + 1 = hi ∧ lo ≤ a' ∧ m' = m ∧ sc' = sc ∧ Chain (PT h0 f) kids lo a' kids'

/-- the references of the plan unfold in the base heap and the plan is at most `f` deep -/
def Fits (h0 : Heap) : Nat → Plan → Prop
  | f, .ref a => ∃ t, unfoldA f h0 a = some t
  | 0, .node _ _ _ => False
  | f + 1, .node _ _ kids => ∀ k ∈ kids, Fits h0 f k

def PlanAll (P : Bool → Scalars → Prop) : Nat → Plan → Prop
  | _, .ref _ => True
  | 0, .node _ _ _ => False
  | f + 1, .node m sc kids => P m sc ∧ ∀ k ∈ kids, PlanAll P f k

def rootImm (h0 : Heap) : Plan → Prop
  | .ref a => ∃ o : Obj, h0[a]? = some o ∧ o.isMut = false
  | .node m _ _ => m = false

/-- immutable nodes of the plan get immutable kids -/
def ImmPlan (h0 : Heap) : Nat → Plan → Prop
  | _, .ref _ => True
  | 0, .node _ _ _ => False
  | f + 1, .node m _ kids => (m = false → ∀ k ∈ kids, rootImm h0 k) ∧ ∀ k ∈ kids, ImmPlan h0 f k

theorem getElem?_append_cases {α : Type} {l e : List α} {a : Nat} {y : α} (h : (l ++ e)[a]? = some y) :
    l[a]? = some y ∨ (l.length ≤ a ∧ y ∈ e) := by
  by_cases ha : a < l.length
  · left; rwa [List.getElem?_append_left ha] at h
  · right
    rw [List.getElem?_append_right (Nat.not_lt.mp ha)] at h
    exact ⟨Nat.not_lt.mp ha, List.mem_of_getElem? h⟩

theorem getElem?_append_one {α : Type} {l : List α} {x y : α} {a : Nat} (h : (l ++ [x])[a]? = some y) :
    l[a]? = some y ∨ y = x := by
  rcases getElem?_append_cases h with h1 | ⟨_, h1⟩
  · exact Or.inl h1
  · exact Or.inr (List.mem_singleton.mp h1)

theorem immClosed_append_one {h : Heap} {o : Obj} (hic : ImmClosed h)
    (ho : o.isMut = false → ∀ c ∈ o.refs, ∃ oc : Obj, h[c]? = some oc ∧ oc.isMut = false) :
    ImmClosed (h ++ [o]) := by
  intro a oa hoa hm c hc
  have hold : ∀ c ∈ oa.refs, ∃ oc : Obj, h[c]? = some oc ∧ oc.isMut = false := by
    rcases getElem?_append_one hoa with h1 | rfl
    · exact hic a oa h1 hm
    · exact ho hm
  obtain ⟨oc, hoc, hmc⟩ := hold c hc
  exact ⟨oc, getElem?_append_of_some [o] hoc, hmc⟩

theorem Chain.length_eq {R : Plan → Nat → Nat → ATree → Prop} :
    ∀ {ps : List Plan} {lo hi : Nat} {ts : List ATree}, Chain R ps lo hi ts → ps.length = ts.length
  | [], _, _, [], _ => rfl
  | [], _, _, _ :: _, h => by simp [Chain] at h
  | _ :: _, _, _, [], h => by simp [Chain] at h
  | p :: ps, lo, hi, t :: ts, h => by
    obtain ⟨mid, _, hc⟩ := h
    simp [Chain.length_eq hc]

structure Res (h0 h : Heap) (P : Bool → Scalars → Prop) (f : Nat) (p : Plan) (r : Heap × Addr) : Prop where
  ext : ∃ e, r.1 = h ++ e ∧ ∀ o ∈ e, o.cHash = none ∧ o.cPy = none ∧ P o.isMut o.sc
  tree : ∃ t, unfoldA f r.1 r.2 = some t ∧ PT h0 f p h.length r.1.length t
  imm : ImmClosed h → ImmClosed r.1
  root : rootImm h0 p → ∃ o : Obj, r.1[r.2]? = some o ∧ o.isMut = false

structure ResL (h0 h : Heap) (P : Bool → Scalars → Prop) (f : Nat) (ps : List Plan)
    (r : Heap × List Addr) : Prop where
  ext : ∃ e, r.1 = h ++ e ∧ ∀ o ∈ e, o.cHash = none ∧ o.cPy = none ∧ P o.isMut o.sc
  trees : ∃ ts, mapO (unfoldA f r.1) r.2 = some ts ∧ Chain (PT h0 f) ps h.length r.1.length ts
  imm : ImmClosed h → ImmClosed r.1
  roots : ∀ (i : Nat) (p : Plan) (a : Addr), ps[i]? = some p → r.2[i]? = some a → rootImm h0 p →
    ∃ o : Obj, r.1[a]? = some o ∧ o.isMut = false

mutual
theorem allocPlan_spec (h0 : Heap) (P : Bool → Scalars → Prop) :
    ∀ (p : Plan) (f : Nat) (h : Heap), (∃ e0, h = h0 ++ e0) → Fits h0 f p → PlanAll P f p →
      ImmPlan h0 f p → Res h0 h P f p (allocPlan h p)
  | .ref a, f, h, hpre, hfit, _, _ => by
    obtain ⟨e0, rfl⟩ := hpre
    obtain ⟨t, ht⟩ : ∃ t, unfoldA f h0 a = some t := by cases f <;> simpa [Fits] using hfit
    refine ⟨⟨[], by simp [allocPlan], by simp⟩, ⟨t, ?_, ?_⟩, fun hic => by simpa [allocPlan] using hic, ?_⟩
    · simpa [allocPlan] using unfoldA_ext e0 ht
    · cases f <;> simp [PT, allocPlan, ht]
    · rintro ⟨o, ho, hm⟩
      exact ⟨o, by simpa [allocPlan] using getElem?_append_of_some e0 ho, hm⟩
  | .node m sc kids, 0, h, _, hfit, _, _ => by simp [Fits] at hfit
  | .node m sc kids, f + 1, h, hpre, hfit, hall, himm => by
    simp only [Fits] at hfit
    simp only [PlanAll] at hall
    simp only [ImmPlan] at himm
    have IH := allocPlans_spec h0 P kids f h hpre hfit hall.2 himm.2
    obtain ⟨e, he, hcache⟩ := IH.ext
    obtain ⟨ts, hts, hchain⟩ := IH.trees
    simp only [allocPlan]
    generalize hr : allocPlans h kids = r at *
    obtain ⟨h1, as⟩ := r
    simp only at he hts hchain ⊢
    let onew : Obj := { isMut := m, sc := sc, refs := as }
    have hnew : (h1 ++ [onew])[h1.length]? = some onew := by simp
    refine ⟨⟨e ++ [onew], by simp [he, onew], ?_⟩, ⟨.node h1.length m sc ts, ?_, ?_⟩, ?_, ?_⟩
    · intro o ho
      simp only [List.mem_append, List.mem_singleton] at ho
      rcases ho with ho | rfl
      · exact hcache o ho
      · exact ⟨rfl, rfl, hall.1⟩
    · have := unfoldA_mk (f := f) hnew
        (mapO_congr_some (g := unfoldA f (h1 ++ [onew])) (fun c _ b hb => unfoldA_ext [onew] hb) hts)
      simpa [onew] using this
    · simp only [PT, List.length_append, List.length_singleton, true_and]
      have hle : h.length ≤ h1.length := by rw [he]; simp
      exact ⟨hle, hchain⟩
    · intro hic
      apply immClosed_append_one (IH.imm hic)
      intro hm c hc
      obtain ⟨i, hi, rfl⟩ := List.getElem_of_mem hc
      simp only at hi
      have hlen : kids.length = as.length := by rw [Chain.length_eq hchain]; exact mapO_length hts
      have hi' : i < kids.length := by omega
      exact IH.roots i kids[i] (as[i]) (List.getElem?_eq_getElem hi') (List.getElem?_eq_getElem hi)
        (himm.1 (by simpa [onew] using hm) kids[i] (List.getElem_mem hi'))
    · intro hm
      exact ⟨onew, hnew, hm⟩
theorem allocPlans_spec (h0 : Heap) (P : Bool → Scalars → Prop) :
    ∀ (ps : List Plan) (f : Nat) (h : Heap), (∃ e0, h = h0 ++ e0) → (∀ k ∈ ps, Fits h0 f k) →
      (∀ k ∈ ps, PlanAll P f k) → (∀ k ∈ ps, ImmPlan h0 f k) → ResL h0 h P f ps (allocPlans h ps)
  | [], f, h, _, _, _, _ => by
    refine ⟨⟨[], by simp [allocPlans], by simp⟩, ⟨[], by simp [allocPlans, mapO], by simp [allocPlans, Chain]⟩,
      fun hic => by simpa [allocPlans] using hic, ?_⟩
    intro i p a hp; simp at hp
  | p :: ps, f, h, hpre, hfit, hall, himm => by
    have IH1 := allocPlan_spec h0 P p f h hpre (hfit p (by simp)) (hall p (by simp)) (himm p (by simp))
    obtain ⟨e1, he1, hc1⟩ := IH1.ext
    have hpre1 : ∃ e0, (allocPlan h p).1 = h0 ++ e0 := by
      obtain ⟨e0, rfl⟩ := hpre
      exact ⟨e0 ++ e1, by rw [he1]; simp⟩
    have IH2 := allocPlans_spec h0 P ps f (allocPlan h p).1 hpre1 (fun k hk => hfit k (by simp [hk]))
      (fun k hk => hall k (by simp [hk])) (fun k hk => himm k (by simp [hk]))
    obtain ⟨e2, he2, hc2⟩ := IH2.ext
    obtain ⟨t, ht, hpt⟩ := IH1.tree
    obtain ⟨ts, hts, hch⟩ := IH2.trees
    simp only [allocPlans]
    refine ⟨⟨e1 ++ e2, by rw [he2, he1]; simp, ?_⟩, ⟨t :: ts, ?_, ?_⟩, fun hic => IH2.imm (IH1.imm hic), ?_⟩
    · intro o ho
      simp only [List.mem_append] at ho
      rcases ho with ho | ho
      · exact hc1 o ho
      · exact hc2 o ho
    · have ht' : unfoldA f (allocPlans (allocPlan h p).1 ps).1 (allocPlan h p).2 = some t := by
        rw [he2]; exact unfoldA_ext e2 ht
      simp [mapO, ht', hts]
    · exact ⟨(allocPlan h p).1.length, hpt, hch⟩
    · intro i q a hq ha hri
      cases i with
      | zero =>
        simp at hq ha; subst hq; subst ha
        obtain ⟨o, ho, hm⟩ := IH1.root hri
        exact ⟨o, by rw [he2]; exact getElem?_append_of_some e2 ho, hm⟩
      | succ i =>
        simp at hq ha
        exact IH2.roots i q a hq ha hri
end

end BtcVerif.Model.Heap

/-
  P2P messages (C18): `streamDeserialize` on a 24-byte header as a decision list; the payload codec of every
  message type as a `Dec` fact, from the codec library and C01's transaction and block codecs; what is
  returned was accepted; the stream loops.
-/
import BtcVerif.Model.Messages
import BtcVerif.Proofs.CryptoLen
import BtcVerif.Proofs.Wire
import BtcVerif.Spec.Chain
import Mathlib.Tactic.IntervalCases
import Mathlib.Tactic.NormNum

namespace BtcVerif
open Model.Wire Spec.Wire

@[simp] theorem Res.ok_bind {α β} (x : α) (f : α → Res β) : (Except.ok x >>= f) = f x := rfl
@[simp] theorem Res.error_bind {α β} (e : Exc) (f : α → Res β) :
    ((Except.error e : Res α) >>= f) = .error e := rfl
@[simp] theorem Res.pure_eq {α} (x : α) : (pure x : Res α) = .ok x := rfl
@[simp] theorem Res.map_ok {α β} (f : α → β) (x : α) : (f <$> (Except.ok x : Res α)) = .ok (f x) := rfl
@[simp] theorem Res.emap_ok {α β} (f : α → β) (x : α) : Except.map f (Except.ok x : Res α) = .ok (f x) := rfl
@[simp] theorem Res.throw_eq {α} (e : Exc) : (throw e : Res α) = .error e := rfl

theorem MAX_SIZE_eq : MAX_SIZE = maxSize := rfl

open Model.Msg Spec.Msg Codec

theorem sha256_sha256 (p : Bytes) : Crypto.sha256 (Crypto.sha256 p) = Crypto.hash256 p := by
  simp [Crypto.sha256, Crypto.hash256]

theorem checksum_eq (p : Bytes) : Model.Msg.checksum p = Spec.Msg.checksum p := by
  simp [Model.Msg.checksum, Spec.Msg.checksum, sha256_sha256]

theorem checksumLen : ChecksumLen := by
  intro p
  simp [Spec.Msg.checksum, Crypto.hash256_length]

/-- the model's own command constants are the Spec's -/
theorem command_eq (m : Msg) : Model.Msg.command m = Spec.Msg.command m := by
  cases m <;> (simp only [Model.Msg.command, Spec.Msg.command]; decide)

/-! ### frame level -/

theorem readPos_append (n : Nat) (a rest : Bytes) (hn : a.length = n) (h : n ≤ MAX_SIZE) :
    readPos n (a ++ rest) = (.ok a, rest) := by
  subst hn
  unfold readPos
  have h1 : ¬ a.length > MAX_SIZE := by omega
  simp [h1]

theorem takeWhile_commandField (c : Bytes) (hz : ∀ b ∈ c, b ≠ 0) (k : Nat) :
    (c ++ List.replicate k (0 : UInt8)).takeWhile (· ≠ 0) = c := by
  induction c with
  | nil => cases k <;> simp [List.replicate]
  | cons b c ih =>
    have hb : b ≠ 0 := hz b (by simp)
    have ih' := ih (fun x hx => hz x (by simp [hx]))
    rw [List.cons_append, List.takeWhile_cons, decide_eq_true hb]
    simp only [if_true]
    rw [ih']

/-- for a name of at most 12 bytes, "name then NULs up to 12" is what the Python builds:
    `command + b"\x00" * (12 - len(command))` -/
theorem commandField_eq (c : Bytes) (h : c.length ≤ 12) :
    commandField c = c ++ List.replicate (12 - c.length) 0 := by
  unfold commandField
  rw [List.take_append, List.take_of_length_le h, List.take_replicate]
  congr 2
  omega

theorem commandField_length (c : Bytes) (h : c.length ≤ 12) : (commandField c).length = 12 := by
  simp [commandField_eq c h]; omega

/-- outcome of the dispatch on the command once header and checksum are accepted -/
def dispatch (pv : Nat) (command msg rest : Bytes) : Res (Option Msg) × Bytes :=
  match msgDeser pv command with
  | some p =>
      (match p msg with
       | .ok (m, _) => (.ok (some m), rest)
       | .error e => (.error e, rest))
  | none => (.ok none, rest)

theorem streamDeserialize_short (magic : Bytes) (pv : Nat) (s : Bytes) (h : s.length < 24) :
    streamDeserialize magic pv s = (.error .trunc, []) := by
  unfold streamDeserialize readPos
  have : ¬ 24 > MAX_SIZE := by decide
  simp [this, h]

theorem streamDeserialize_unfold (magic : Bytes) (pv : Nat) (s : Bytes) (h : 24 ≤ s.length) :
    streamDeserialize magic pv s =
      if s.take 4 ≠ magic then (.error .valueerr, s.drop 24)
      else if declaredLen s > MAX_SIZE then (.error .sererr, s.drop 24)
      else if s.length - 24 < declaredLen s then (.error .trunc, [])
      else if (s.drop 20).take 4 ≠ Model.Msg.checksum ((s.drop 24).take (declaredLen s)) then
        (.error .valueerr, s.drop (24 + declaredLen s))
      else dispatch pv (((s.drop 4).take 12).takeWhile (· ≠ 0)) ((s.drop 24).take (declaredLen s))
        (s.drop (24 + declaredLen s)) := by
  unfold streamDeserialize
  have h0 : ¬ 24 > MAX_SIZE := by decide
  have h1 : ¬ s.length < 24 := by omega
  have hr : readPos 24 s = (.ok (s.take 24), s.drop 24) := by simp [readPos, h0, h1]
  rw [hr]
  have t1 : (s.take 24).take 4 = s.take 4 := by simp [List.take_take]
  have t : ∀ k j, k + j ≤ 24 → ((s.take 24).drop k).take j = (s.drop k).take j := by
    intro k j hkj
    rw [List.drop_take, List.take_take, Nat.min_eq_left (by omega)]
  simp only [t1, t 4 12 (by decide), t 16 4 (by decide), t 20 4 (by decide)]
  by_cases hm : s.take 4 ≠ magic
  · simp [hm]
  · simp only [hm, if_false]
    unfold declaredLen
    generalize leNat ((s.drop 16).take 4) = n
    unfold readPos
    by_cases hn : n > MAX_SIZE
    · simp [hn]
    · simp only [hn, if_false, List.length_drop]
      by_cases ht : s.length - 24 < n
      · simp [ht]
      · simp only [ht, if_false, List.drop_drop]
        by_cases hc : (s.drop 20).take 4 ≠ Model.Msg.checksum ((s.drop 24).take n)
        · simp [hc]
        · simp only [hc, if_false]
          rfl

theorem take_drop_segment (pre x post : Bytes) {k j : Nat} (hk : pre.length = k) (hj : x.length = j) :
    ((pre ++ x ++ post).drop k).take j = x := by
  rw [List.append_assoc, List.drop_left' hk, List.take_left' hj]

theorem stream_fields (a b c d body : Bytes) (ha : a.length = 4) (hb : b.length = 12)
    (hc : c.length = 4) (hd : d.length = 4) :
    let s := a ++ b ++ c ++ d ++ body
    24 ≤ s.length ∧ s.take 4 = a ∧ (s.drop 4).take 12 = b ∧ declaredLen s = leNat c ∧
    (s.drop 20).take 4 = d ∧ s.drop 24 = body := by
  intro s
  refine ⟨by simp [s, ha, hb, hc, hd]; omega, ?_, ?_, ?_, ?_, ?_⟩
  · exact (congrArg _ (by simp [s])).trans (take_drop_segment [] a (b ++ c ++ d ++ body) rfl ha)
  · exact (congrArg _ (congrArg _ (by simp [s]))).trans (take_drop_segment a b (c ++ d ++ body) ha hb)
  · exact (congrArg leNat ((congrArg _ (congrArg _ (by simp [s]))).trans
      (take_drop_segment (a ++ b) c (d ++ body) (by simp [ha, hb]) hc)))
  · exact take_drop_segment (a ++ b ++ c) d body (by simp [ha, hb, hc]) hd
  · exact List.drop_left' (by simp [ha, hb, hc, hd])

theorem streamDeserialize_fields (magic : Bytes) (pv : Nat) (a b c d body : Bytes) (ha : a.length = 4)
    (hb : b.length = 12) (hc : c.length = 4) (hd : d.length = 4) :
    streamDeserialize magic pv (a ++ b ++ c ++ d ++ body) =
      if a ≠ magic then (.error .valueerr, body)
      else if leNat c > MAX_SIZE then (.error .sererr, body)
      else if body.length < leNat c then (.error .trunc, [])
      else if d ≠ Model.Msg.checksum (body.take (leNat c)) then (.error .valueerr, body.drop (leNat c))
      else dispatch pv (b.takeWhile (· ≠ 0)) (body.take (leNat c)) (body.drop (leNat c)) := by
  obtain ⟨g0, g1, g2, g3, g4, g5⟩ := stream_fields a b c d body ha hb hc hd
  have hl : (a ++ b ++ c ++ d ++ body).length - 24 = body.length := by
    simp only [List.length_append, ha, hb, hc, hd]; omega
  rw [streamDeserialize_unfold _ _ _ g0, g1, g2, g3, g4, g5, hl, ← List.drop_drop, g5]

theorem leNat_leBytes4 {n : Nat} (h : n ≤ MAX_SIZE) : leNat (leBytes 4 n) = n := by
  rw [leNat_leBytes, Nat.mod_eq_of_lt (Nat.lt_of_le_of_lt h (by decide))]

theorem streamDeserialize_frame (magic : Bytes) (pv : Nat) (cmd payload rest : Bytes)
    (hm : magic.length = 4) (hc : cmd.length ≤ 12) (hz : ∀ b ∈ cmd, b ≠ 0)
    (hp : payload.length ≤ MAX_SIZE) :
    streamDeserialize magic pv (Spec.Msg.frame magic cmd payload ++ rest) = dispatch pv cmd payload rest := by
  have hs : Spec.Msg.frame magic cmd payload ++ rest =
      magic ++ commandField cmd ++ leBytes 4 payload.length ++ Spec.Msg.checksum payload ++ (payload ++ rest) := by
    simp [Spec.Msg.frame]
  rw [hs, streamDeserialize_fields magic pv _ _ _ _ _ hm (commandField_length cmd hc) (leBytes_length _ _)
    (checksumLen payload), leNat_leBytes4 hp, List.take_left' rfl, List.drop_left' rfl, checksum_eq,
    commandField_eq cmd hc, takeWhile_commandField cmd hz]
  have h2 : ¬ (payload ++ rest).length < payload.length := by simp
  simp only [ne_eq, not_true_eq_false, if_false, Nat.not_lt.2 hp, h2]

/-! ### payload structures -/

theorem beNat_beBytes2 (n : Nat) (h : n < 2 ^ 16) : beNat (beBytes 2 n) = n := by
  rw [beNat_beBytes_mod]
  exact Nat.mod_eq_of_lt h

theorem caddr_eq : CADDR_TIME_VERSION = caddrTimeVersion := rfl

theorem serAddr_ok (wt : Bool) (a : NetAddr) (h : WFAddr a) :
    serAddr wt a = .ok (netAddr (!wt) a) := by
  obtain ⟨h1, h2, h3, h4, h5⟩ := h
  unfold serAddr netAddr packBE2
  rw [packU_ok (w := 8) (by omega), if_pos (show a.port < 256 ^ 2 by omega), caddr_eq]
  cases wt
  · by_cases hp : a.protover ≥ caddrTimeVersion
    · simp [hp, packU_ok (show a.nTime < 256 ^ 4 by omega)]
    · simp [hp]
  · simp

/-- an address entry read under the protocol version it was written for -/
theorem dec_deAddr (wt : Bool) (a : NetAddr) (h : WFAddr a) (ht : wt = true → a.nTime = 0) :
    Dec (deAddr a.protover wt) (netAddr (!wt) a) a := by
  obtain ⟨h1, h2, h3, h4, h5⟩ := h
  unfold deAddr netAddr
  rw [caddr_eq, Bool.and_comm (!wt)]
  simp only [List.append_assoc]
  refine Dec.ite_bind (a := a.nTime) (fun _ => dec_readU 4 _ (by omega) (by omega)) ?_ ?_
  · intro hc
    cases wt
    · exact h2 (by simpa using hc)
    · exact ht rfl
  · dsimp only
    refine Dec.bind (dec_readU 8 _ (by omega) (by omega)) ?_
    dsimp only
    refine Dec.bind (dec_serRead _ 16 h4 (by decide)) ?_
    dsimp only
    exact Dec.bind_last (dec_serRead (beBytes 2 a.port) 2 (by simp [beBytes]) (by decide))
      (fun r => by simp only [beNat_beBytes2 _ h5]; rfl)

theorem dec_mapP {α β : Type} (f : α → β) {p : Parser α} {e : Bytes} {a : α} (h : Dec p e a) :
    Dec (mapP f p) e (f a) := Dec.map f h

theorem serInv_ok (i : Inv) (h : WFInv i) : serInv i = .ok (invEntry i) := by
  unfold serInv
  rw [packI_ok (w := 4) h.1 h.2.1]; rfl

theorem dec_deInv (i : Inv) (h : WFInv i) : Dec deInv (invEntry i) i :=
  Dec.bind (dec_readI4 _ h.1 h.2.1) (Dec.bind_last (dec_serRead _ 32 h.2.2 (by decide)) (fun _ => rfl))

theorem serUint256Vector_ok (hs : List Bytes) (hl : hs.length < 2 ^ 64) (h : ∀ x ∈ hs, x.length = 32) :
    serUint256Vector hs = .ok (vec id hs) := by
  unfold serUint256Vector vec
  rw [serVarInt_ok hl, mapM_ok (g := id) hs (fun x hx => by simp [h x hx])]
  rfl

theorem dec_deUint256Vector (hs : List Bytes) (hl : hs.length < 2 ^ 64) (h : ∀ x ∈ hs, x.length = 32) :
    Dec deUint256Vector (vec id hs) hs :=
  Dec.bind (dec_deVarInt _ hl) (dec_deRepeat_id hs (fun x hx => dec_serRead x 32 (h x hx) (by decide)))

theorem serLocatorMsg_ok (l : Locator) (stop : Bytes) (h : WFLocator l) :
    serLocatorMsg l stop = .ok (locatorPayload l stop) := by
  unfold serLocatorMsg serLocator
  rw [packI_ok (w := 4) h.1 h.2.1, serUint256Vector_ok _ h.2.2.1 h.2.2.2]; rfl

theorem dec_deLocatorMsg (mk : Locator → Bytes → Msg) (l : Locator) (stop : Bytes) (h : WFLocator l)
    (hs : stop.length = 32) : Dec (deLocatorMsg mk) (locatorPayload l stop) (mk l stop) :=
  Dec.bind (Dec.bind (dec_readI4 _ h.1 h.2.1)
      (Dec.bind_last (dec_deUint256Vector _ h.2.2.1 h.2.2.2) (fun _ => rfl)))
    (Dec.bind_last (dec_serRead _ 32 hs (by decide)) (fun _ => rfl))

theorem serHeaderEntry_ok (h : Header) (hw : WFHeader h) : serHeaderEntry h = .ok (headerEntry h) := by
  unfold serHeaderEntry
  rw [serHeader_ok hw, serVarInt_ok (by decide)]; rfl

theorem dec_deHeaderEntry (h : Header) (hw : WFHeader h) : Dec deHeaderEntry (headerEntry h) h :=
  Dec.bind (dec_deHeader h hw) (Dec.bind_last (dec_deVarInt 0 (by decide)) (fun _ => rfl))

theorem dec_deAlert (m s : Bytes) (hm : m.length ≤ maxSize) (hs : s.length ≤ maxSize) :
    Dec deAlert (varBytes m ++ varBytes s) (.alert m s) :=
  Dec.bind (dec_deBytes m hm) (Dec.bind_last (dec_deBytes s hs) (fun _ => rfl))

theorem dec_deReject (m c r : Bytes) (hm : m.length ≤ maxSize) (hc : c.length = 1) (hr : r.length ≤ maxSize) :
    Dec deReject (varBytes m ++ c ++ varBytes r) (.reject m c r) := by
  rw [List.append_assoc]
  exact Dec.bind (dec_deBytes m hm) (Dec.bind (dec_serRead c 1 hc (by decide))
    (Dec.bind_last (dec_deBytes r hr) (fun _ => rfl)))

theorem optWF_iff {α} (P : α → Prop) (o : Option α) : optWF P o ↔ ∃ x, o = some x ∧ P x := by
  cases o <;> simp [optWF]

theorem dec_deVersion (pv : Nat) (v : VersionMsg) (h : WFVersion v) (hpv : AddrProto pv (.version v)) :
    Dec (deVersion pv) (versionPayload v) (.version v) := by
  obtain ⟨h1, h2, h3, h4, h5, h6, g106, g209, g70001⟩ := h
  obtain ⟨hpTo, hpFrom⟩ := hpv
  subst hpTo
  unfold deVersion versionPayload
  simp only [List.append_assoc]
  refine Dec.bind (dec_readI4 _ h1 h2) ?_
  -- the `Decidable` instances of the version tests still mention the stream variable: reduce them too
  dsimp +instances only
  refine Dec.bind (dec_readU 8 _ (by omega) (by omega)) ?_
  dsimp only
  refine Dec.bind (dec_readI8 _ h4 h5) ?_
  dsimp only
  refine Dec.bind (dec_deAddr true v.addrTo h6.1 (fun _ => h6.2)) ?_
  dsimp only
  refine Dec.bind (a := (v.addrFrom, v.nNonce, v.strSubVer, v.nStartingHeight)) (Dec.ite ?_ ?_) ?_
  · intro c1
    rw [if_pos c1] at g106
    obtain ⟨g7, g8, g9⟩ := g106
    obtain ⟨fr, hfr, hfw, hft⟩ := (optWF_iff _ _).mp g7
    obtain ⟨n, hn, hn2⟩ := (optWF_iff _ _).mp g8
    obtain ⟨s, hs, hs2⟩ := (optWF_iff _ _).mp g9
    have hfrom := dec_deAddr true fr hfw (fun _ => hft)
    rw [hfr] at hpFrom
    rw [show fr.protover = v.addrTo.protover from hpFrom] at hfrom
    rw [hfr, hn, hs]
    refine Dec.bind hfrom ?_
    dsimp only
    refine Dec.bind (dec_readU 8 n (by omega) (by omega)) ?_
    dsimp only
    refine Dec.bind (dec_deBytes s hs2) ?_
    dsimp only
    refine Dec.ite ?_ ?_
    · intro c2
      rw [if_pos c2] at g209
      obtain ⟨ht, hh, hh1, hh2⟩ := (optWF_iff _ _).mp g209
      rw [hh]
      exact Dec.bind_last (dec_readI4 ht hh1 hh2) (fun _ => rfl)
    · intro c2
      rw [if_neg c2] at g209
      rw [g209]
  · intro c1
    rw [if_neg c1] at g106
    rw [if_neg (show ¬ v.nVersion ≥ 209 by omega)] at g209
    rw [g106.1, g106.2.1, g106.2.2, g209]
  · dsimp only
    rw [← List.append_nil (if v.nVersion ≥ 70001 then leBytes 1 v.fRelay else [])]
    refine Dec.ite_bind (c := v.nVersion ≥ 70001) (a := v.fRelay) ?_ ?_ ?_
    · intro c3
      rw [if_pos c3] at g70001
      exact dec_readU 1 v.fRelay (by omega) (by omega)
    · intro c3
      rw [if_neg c3] at g70001
      exact g70001
    · exact Dec.pure (Msg.version v)

theorem serVersion_ok (v : VersionMsg) (h : WFVersion v) : serVersion v = .ok (versionPayload v) := by
  obtain ⟨h1, h2, h3, h4, h5, ⟨h6, _⟩, g106, g209, g70001⟩ := h
  unfold serVersion versionPayload
  rw [packI_ok (w := 4) h1 h2, packU_ok (show v.nServices < 256 ^ 8 by omega), packI_ok (w := 8) h4 h5,
    serAddr_ok true _ h6]
  simp only [Res.ok_bind]
  by_cases c1 : v.nVersion ≥ 106
  · rw [if_pos c1] at g106
    obtain ⟨g7, g8, g9⟩ := g106
    obtain ⟨fr, hfr, hfw, _⟩ := (optWF_iff _ _).mp g7
    obtain ⟨n, hn, hn2⟩ := (optWF_iff _ _).mp g8
    obtain ⟨s, hs, hs2⟩ := (optWF_iff _ _).mp g9
    rw [hfr, hn, hs]
    by_cases c2 : v.nVersion ≥ 209
    · rw [if_pos c2] at g209
      obtain ⟨ht, hh, hh1, hh2⟩ := (optWF_iff _ _).mp g209
      rw [hh]
      by_cases c3 : v.nVersion ≥ 70001
      · rw [if_pos c3] at g70001
        simp [c1, c2, c3, optBytes, serAddr_ok true _ hfw, packU_ok (show n < 256 ^ 8 by omega),
          serVarStr, serBytes_le hs2, packI_ok (w := 4) hh1 hh2,
          packU_ok (show v.fRelay < 256 ^ 1 by omega)]
      · simp [c1, c2, c3, optBytes, serAddr_ok true _ hfw, packU_ok (show n < 256 ^ 8 by omega),
          serVarStr, serBytes_le hs2, packI_ok (w := 4) hh1 hh2]
    · have c3 : ¬ v.nVersion ≥ 70001 := by omega
      simp [c1, c2, c3, optBytes, serAddr_ok true _ hfw, packU_ok (show n < 256 ^ 8 by omega),
        serVarStr, serBytes_le hs2]
  · have c3 : ¬ v.nVersion ≥ 70001 := by omega
    simp [c1, c3]

/-! ### every message type: `msg_ser` gives the Spec payload, `msg_deser` inverts it -/

theorem msgSer_ok (m : Msg) (h : WFMsg m) : msgSer m = .ok (payload m) := by
  cases m with
  | version v => exact serVersion_ok v h
  | verack => rfl
  | addr as => exact serVector_ok as h.1 (fun a ha => serAddr_ok false a (h.2 a ha))
  | alert m s =>
      show serBytes m >>= _ = _
      rw [serBytes_le h.1]
      show serBytes s >>= _ = _
      rw [serBytes_le h.2]; rfl
  | inv l => exact serVector_ok l h.1 (fun i hi => serInv_ok i (h.2 i hi))
  | getdata l => exact serVector_ok l h.1 (fun i hi => serInv_ok i (h.2 i hi))
  | notfound l => exact serVector_ok l h.1 (fun i hi => serInv_ok i (h.2 i hi))
  | getblocks loc stop => exact serLocatorMsg_ok loc stop h.1
  | getheaders loc stop => exact serLocatorMsg_ok loc stop h.1
  | headers hs => exact serVector_ok hs h.1 (fun x hx => serHeaderEntry_ok x (h.2 x hx))
  | tx t => exact serTx_ok (txRange_of_wf h)
  | block b => exact serBlock_ok (blockRange_of_wf h)
  | getaddr => rfl
  | ping n => exact packU_ok (show n < 256 ^ 8 from h)
  | pong n => exact packU_ok (show n < 256 ^ 8 from h)
  | reject m c r =>
      obtain ⟨h1, h2, h3⟩ := h
      simp [msgSer, serReject, payload, serVarStr, serBytes_le h1, serBytes_le h3, h2]
  | mempool => rfl

theorem payload_parse (pv : Nat) (m : Msg) (h : WFMsg m) (hpv : AddrProto pv m) :
    ∃ p, msgDeser pv (Spec.Msg.command m) = some p ∧ Dec p (payload m) (norm m) := by
  cases m with
  | version v => exact ⟨_, rfl, dec_deVersion pv v h hpv⟩
  | verack => exact ⟨_, rfl, Dec.pure _⟩
  | addr as =>
      refine ⟨_, rfl, dec_mapP _ (dec_deVector_id as h.1 (fun a ha => ?_))⟩
      have := dec_deAddr false a (h.2 a ha) (fun hh => by cases hh)
      rwa [hpv a ha] at this
  | alert m s => exact ⟨_, rfl, dec_deAlert m s h.1 h.2⟩
  | inv l => exact ⟨_, rfl, dec_mapP _ (dec_deVector_id l h.1 (fun i hi => dec_deInv i (h.2 i hi)))⟩
  | getdata l => exact ⟨_, rfl, dec_mapP _ (dec_deVector_id l h.1 (fun i hi => dec_deInv i (h.2 i hi)))⟩
  | notfound l => exact ⟨_, rfl, dec_mapP _ (dec_deVector_id l h.1 (fun i hi => dec_deInv i (h.2 i hi)))⟩
  | getblocks loc stop => exact ⟨_, rfl, dec_deLocatorMsg _ loc stop h.1 h.2⟩
  | getheaders loc stop => exact ⟨_, rfl, dec_deLocatorMsg _ loc stop h.1 h.2⟩
  | headers hs =>
      exact ⟨_, rfl, dec_mapP _ (dec_deVector_id hs h.1 (fun x hx => dec_deHeaderEntry x (h.2 x hx)))⟩
  | tx t => exact ⟨_, rfl, dec_mapP _ (dec_deTx t h)⟩
  | block b => exact ⟨_, rfl, dec_mapP _ (dec_deBlock b h)⟩
  | getaddr => exact ⟨_, rfl, Dec.pure _⟩
  | ping n => exact ⟨_, rfl, dec_mapP _ (dec_readU 8 n (by omega) h)⟩
  | pong n => exact ⟨_, rfl, dec_mapP _ (dec_readU 8 n (by omega) h)⟩
  | reject m c r => exact ⟨_, rfl, dec_deReject m c r h.1 h.2.1 h.2.2⟩
  | mempool => exact ⟨_, rfl, Dec.pure _⟩

theorem command_props (m : Msg) : (Spec.Msg.command m).length ≤ 12 ∧ ∀ b ∈ Spec.Msg.command m, b ≠ 0 := by
  cases m <;> (simp only [Spec.Msg.command]; decide)

theorem serTx_normTx (t : Tx) : serTx (normTx t) = serTx t := by
  unfold normTx
  by_cases hw : t.hasWitness = true
  · rw [if_pos hw]
  · have hn : witIsNull t.wit = true := by
      rw [Tx.hasWitness_eq_not_witIsNull] at hw; simpa using hw
    rw [if_neg hw]
    unfold serTx
    simp only [hn, show witIsNull ([] : List WitStack) = true from rfl, Bool.not_true, Bool.and_false,
      Bool.false_eq_true, if_false]

theorem msgSer_norm (m : Msg) : msgSer (norm m) = msgSer m := by
  cases m with
  | tx t => exact serTx_normTx t
  | block b =>
      simp only [norm, msgSer, serBlock, serVector, List.length_map, List.mapM_map, Function.comp_def, serTx_normTx]
  | _ => rfl

theorem command_norm (m : Msg) : Model.Msg.command (norm m) = Model.Msg.command m := by
  cases m <;> rfl

theorem dispatch_snd (pv : Nat) (c m r : Bytes) : (dispatch pv c m r).2 = r := by
  unfold dispatch
  cases msgDeser pv c with
  | none => rfl
  | some p =>
    simp only
    cases p m with
    | ok x => rfl
    | error e => rfl

/-! ### what is returned was accepted; the stream loops -/

theorem frameAccepted_iff (magic s : Bytes) :
    frameAccepted magic s = true ↔
      (24 ≤ s.length ∧ s.take 4 = magic ∧ declaredLen s ≤ MAX_SIZE ∧ 24 + declaredLen s ≤ s.length ∧
       (s.drop 20).take 4 = Model.Msg.checksum ((s.drop 24).take (declaredLen s))) := by
  simp [frameAccepted, and_assoc]

theorem accepted_dispatch (magic : Bytes) (pv : Nat) (s : Bytes) (h : frameAccepted magic s = true) :
    streamDeserialize magic pv s =
      dispatch pv (((s.drop 4).take 12).takeWhile (· ≠ 0)) ((s.drop 24).take (declaredLen s))
        (s.drop (24 + declaredLen s)) := by
  obtain ⟨h1, h2, h3, h4, h5⟩ := (frameAccepted_iff magic s).mp h
  rw [streamDeserialize_unfold magic pv s h1]
  have c2 : ¬ declaredLen s > MAX_SIZE := by omega
  have c3 : ¬ s.length - 24 < declaredLen s := by omega
  simp [h2, c2, c3, h5]

theorem not_accepted_error (magic : Bytes) (pv : Nat) (s : Bytes) (h : frameAccepted magic s = false) :
    ∃ e r, streamDeserialize magic pv s = (.error e, r) ∧ (e = .trunc ∨ e = .valueerr ∨ e = .sererr) := by
  by_cases hs : s.length < 24
  · exact ⟨.trunc, [], streamDeserialize_short magic pv s hs, Or.inl rfl⟩
  rw [streamDeserialize_unfold magic pv s (by omega)]
  split
  · exact ⟨.valueerr, _, rfl, Or.inr (Or.inl rfl)⟩
  split
  · exact ⟨.sererr, _, rfl, Or.inr (Or.inr rfl)⟩
  split
  · exact ⟨.trunc, _, rfl, Or.inl rfl⟩
  split
  · exact ⟨.valueerr, _, rfl, Or.inr (Or.inl rfl)⟩
  · rename_i c1 c2 c3 c4
    have : frameAccepted magic s = true :=
      (frameAccepted_iff magic s).mpr ⟨by omega, by simpa using c1, by omega, by omega, by simpa using c4⟩
    rw [h] at this
    cases this

theorem streamDeserialize_ok_valid (magic : Bytes) (pv : Nat) (s : Bytes) (m : Option Msg) (r : Bytes)
    (h : streamDeserialize magic pv s = (.ok m, r)) :
    24 ≤ s.length ∧ s.take 4 = magic ∧ declaredLen s ≤ MAX_SIZE ∧ 24 + declaredLen s ≤ s.length ∧
    (s.drop 20).take 4 = Model.Msg.checksum ((s.drop 24).take (declaredLen s)) ∧
    r = s.drop (24 + declaredLen s) := by
  cases ha : frameAccepted magic s with
  | false =>
    obtain ⟨e, r', he, _⟩ := not_accepted_error magic pv s ha
    rw [he] at h
    cases h
  | true =>
    obtain ⟨h1, h2, h3, h4, h5⟩ := (frameAccepted_iff magic s).mp ha
    rw [accepted_dispatch magic pv s ha] at h
    have hr := congrArg Prod.snd h
    rw [dispatch_snd] at hr
    exact ⟨h1, h2, h3, h4, h5, hr.symm⟩

theorem streamDeserialize_ok_shorter (magic : Bytes) (pv : Nat) (s : Bytes) (m : Option Msg) (r : Bytes)
    (h : streamDeserialize magic pv s = (.ok m, r)) : r.length < s.length := by
  obtain ⟨h1, _, _, h4, _, h6⟩ := streamDeserialize_ok_valid magic pv s m r h
  rw [h6, List.length_drop]
  omega

theorem parseTraceAux_fuel (magic : Bytes) (pv : Nat) : ∀ (f1 f2 : Nat) (s : Bytes), s.length ≤ f1 → s.length ≤ f2 →
    parseTraceAux magic pv f1 s = parseTraceAux magic pv f2 s := by
  intro f1
  induction f1 with
  | zero =>
    intro f2 s h1 _
    have hs : s = [] := List.eq_nil_of_length_eq_zero (by omega)
    subst hs
    cases f2 <;> simp [parseTraceAux]
  | succ f1 ih =>
    intro f2 s h1 h2
    cases f2 with
    | zero =>
      have hs : s = [] := List.eq_nil_of_length_eq_zero (by omega)
      subst hs
      simp [parseTraceAux]
    | succ f2 =>
      simp only [parseTraceAux]
      by_cases he : s.isEmpty = true
      · simp [he]
      · simp only [he, Bool.false_eq_true, if_false]
        cases hsd : streamDeserialize magic pv s with
        | mk out r =>
          cases out with
          | error e => rfl
          | ok m =>
            have := streamDeserialize_ok_shorter magic pv s m r hsd
            simp only
            rw [ih f2 r (by omega) (by omega)]

theorem parseTrace_cons (magic : Bytes) (pv : Nat) {s : Bytes} {m : Option Msg} {r : Bytes} (hs : s ≠ [])
    (h : streamDeserialize magic pv s = (.ok m, r)) :
    parseTrace magic pv s = ((m, r) :: (parseTrace magic pv r).1, (parseTrace magic pv r).2) := by
  have hlt := streamDeserialize_ok_shorter magic pv s m r h
  obtain ⟨f, hf⟩ : ∃ f, s.length = f + 1 := ⟨s.length - 1, by omega⟩
  have he : s.isEmpty = false := by
    cases s with
    | nil => exact absurd rfl hs
    | cons => rfl
  unfold parseTrace
  rw [hf]
  simp only [parseTraceAux, he, Bool.false_eq_true, if_false, h]
  rw [parseTraceAux_fuel magic pv f r.length r (by omega) (Nat.le_refl _)]

theorem parseAllAux_eq_trace (magic : Bytes) (pv : Nat) : ∀ (fuel : Nat) (s : Bytes),
    parseAllAux magic pv fuel s =
      ((parseTraceAux magic pv fuel s).1.map Prod.fst, (parseTraceAux magic pv fuel s).2.map Prod.fst) := by
  intro fuel
  induction fuel with
  | zero => intro s; rfl
  | succ fuel ih =>
    intro s
    simp only [parseAllAux, parseTraceAux]
    by_cases he : s.isEmpty = true
    · simp [he]
    · simp only [he, Bool.false_eq_true, if_false]
      cases hsd : streamDeserialize magic pv s with
      | mk out r =>
        cases out with
        | error e => rfl
        | ok m =>
          simp only
          rw [ih r]
          simp

theorem streamTrace_norm (magic : Bytes) (m : Msg) (ms : List Msg) (tail : Bytes) :
    Spec.Msg.streamTrace magic (m :: ms) tail =
      (some (Spec.Msg.norm m), (ms.map (Spec.Msg.frameMsg magic)).flatten ++ tail) ::
        Spec.Msg.streamTrace magic ms tail := by
  cases m <;> rfl

theorem streamTrace_fst (magic : Bytes) (ms : List Msg) (tail : Bytes) :
    (Spec.Msg.streamTrace magic ms tail).map Prod.fst = ms.map (fun m => some (Spec.Msg.norm m)) := by
  induction ms with
  | nil => rfl
  | cons m ms ih => rw [streamTrace_norm, List.map_cons, List.map_cons, ih]

theorem frameMsg_ne_nil (magic : Bytes) (m : Msg) (rest : Bytes) (hm : magic.length = 4) :
    frameMsg magic m ++ rest ≠ [] := by
  intro h
  have := congrArg List.length h
  simp [frameMsg, Spec.Msg.frame, hm] at this

end BtcVerif

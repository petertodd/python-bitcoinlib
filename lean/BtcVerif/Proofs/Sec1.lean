/-
  SEC 1 §2.3.3/§2.3.4 glue of the reference curve (Crypto/Secp256k1.lean): what `decode` accepts for
  the uncompressed and hybrid forms, and that it inverts `encode` there; soundness for the compressed
  form.  Field arithmetic is not unfolded; only the byte-level structure is.
-/
import BtcVerif.Crypto.Secp256k1
import BtcVerif.Proofs.Keys

namespace BtcVerif
open BtcVerif.Crypto BtcVerif.Crypto.Secp256k1

/-! ### uncompressed and hybrid encodings -/

theorem decode_uncompressed (tag : UInt8) (body : Bytes) (ht : tag.toNat = 4 ∨ tag.toNat = 6 ∨ tag.toNat = 7) :
    decode (tag :: body) =
      if body.length ≠ 64 then none
      else if onCurveXY (beNat (body.take 32)) (beNat (body.drop 32)) = false then none
      else if tag.toNat ≠ 4 ∧ ((beNat (body.drop 32)) % 2 == 1) ≠ (tag.toNat == 7) then none
      else some (.aff (beNat (body.take 32)) (beNat (body.drop 32))) := by
  unfold decode
  rcases ht with h | h | h <;> simp [h]

theorem beq_eq_beq_iff {a b c d : Nat} : ((a == b) = (c == d)) ↔ (a = b ↔ c = d) := by
  rw [Bool.eq_iff_iff, beq_iff_eq, beq_iff_eq]

theorem decode_uncompressed_iff (tag : UInt8) (body : Bytes) (P : Point)
    (ht : tag.toNat = 4 ∨ tag.toNat = 6 ∨ tag.toNat = 7) :
    decode (tag :: body) = some P ↔
      body.length = 64 ∧ P = .aff (beNat (body.take 32)) (beNat (body.drop 32)) ∧
      onCurve P = true ∧ (tag.toNat = 4 ∨ ((beNat (body.drop 32)) % 2 = 1 ↔ tag.toNat = 7)) := by
  rw [decode_uncompressed tag body ht]
  simp only [ne_eq, ite_not, Option.ite_none_right_eq_some, Option.ite_none_left_eq_some,
    Option.some.injEq, not_and, Bool.not_eq_false, Decidable.not_not, beq_eq_beq_iff]
  refine and_congr_right fun _ => ⟨?_, ?_⟩
  · rintro ⟨hc, hp, rfl⟩
    exact ⟨rfl, hc, Decidable.or_iff_not_imp_left.mpr hp⟩
  · rintro ⟨rfl, hc, hp⟩
    exact ⟨hc, hp.resolve_left, rfl⟩

theorem decode_encode_uncompressed (x y : Nat) (h : onCurveXY x y = true) :
    decode (encode (.aff x y) false) = some (.aff x y) := by
  obtain ⟨⟨hx, hy⟩, _⟩ : (x < Secp256k1.p ∧ y < Secp256k1.p) ∧ _ := by simpa [onCurveXY] using h
  have hp : Secp256k1.p < 2 ^ 256 := by decide +kernel
  refine (decode_uncompressed_iff 4 (be32 x ++ be32 y) _ (.inl rfl)).mpr ⟨?_, ?_, h, .inl rfl⟩
  · rw [List.length_append, be32_length, be32_length]
  · rw [List.take_left' (be32_length x), List.drop_left' (be32_length x), beNat_be32 x (by omega),
      beNat_be32 y (by omega)]

theorem decode_uncompressed_bytes (tag : UInt8) (body : Bytes) (x y : Nat)
    (ht : tag.toNat = 4 ∨ tag.toNat = 6 ∨ tag.toNat = 7) (h : decode (tag :: body) = some (.aff x y)) :
    body = be32 x ++ be32 y := by
  obtain ⟨hl, hP, _, _⟩ := (decode_uncompressed_iff tag body _ ht).mp h
  injection hP with hx hy
  rw [hx, hy, be32_beNat _ (by rw [List.length_take]; omega), be32_beNat _ (by rw [List.length_drop]; omega),
    List.take_append_drop]

/-! ### compressed encodings: soundness of `decode` -/

theorem sq_neg_mod (m y : Nat) (h : y ≤ m) : (m - y) * (m - y) % m = y * y % m := by
  obtain ⟨d, rfl⟩ : ∃ d, m = d + y := ⟨m - y, by omega⟩
  have e : d * d + (d + y) * y = y * y + (d + y) * d := by
    rw [Nat.add_mul, Nat.add_mul, Nat.mul_comm y d]; omega
  have := congrArg (· % (d + y)) e
  simpa [Nat.add_mul_mod_self_left] using this

theorem liftX_some {x : Nat} {odd : Bool} {P : Point} (h : liftX x odd = some P) :
    ∃ y, y < Secp256k1.p ∧ x < Secp256k1.p ∧ y * y % Secp256k1.p = (x * x % Secp256k1.p * x + 7) % Secp256k1.p ∧
      (y = 0 → odd = false) ∧ P = .aff x (if (y % 2 == 1) = odd then y else Secp256k1.p - y) := by
  unfold liftX at h
  simp only [ge_iff_le, bne_iff_ne, ne_eq, Bool.and_eq_true, beq_iff_eq, ite_not, Option.ite_none_left_eq_some,
    Option.ite_none_right_eq_some, Option.some.injEq, not_and, Bool.not_eq_true] at h
  obtain ⟨h1, h2, h3, h4⟩ := h
  exact ⟨_, Nat.mod_lt _ (by decide), Nat.lt_of_not_le h1, h2, h3, h4.symm⟩

theorem onCurveXY_of {x y : Nat} (hx : x < Secp256k1.p) (hy : y < Secp256k1.p)
    (h : y * y % Secp256k1.p = (x * x % Secp256k1.p * x + 7) % Secp256k1.p) : onCurveXY x y = true := by
  simp [onCurveXY, hx, hy, h]

theorem sub_parity {m y : Nat} (hm : m % 2 = 1) (h : y ≤ m) : (m - y) % 2 = 1 ↔ ¬ y % 2 = 1 := by
  have hm' : ((m - y) % 2 + y % 2) % 2 = 1 := by rw [← Nat.add_mod, Nat.sub_add_cancel h]; exact hm
  rcases Nat.mod_two_eq_zero_or_one (m - y) with a | a <;> rcases Nat.mod_two_eq_zero_or_one y with b | b <;>
    rw [a, b] at hm' ⊢ <;> first | decide | exact absurd hm' (by decide)

theorem liftX_sound (x : Nat) (odd : Bool) (P : Point) (h : liftX x odd = some P) :
    ∃ y, P = .aff x y ∧ onCurveXY x y = true ∧ ((y % 2 == 1) = odd) := by
  obtain ⟨y, hy, hx, hsq, h0, rfl⟩ := liftX_some h
  by_cases hpar : (y % 2 == 1) = odd
  · rw [if_pos hpar]
    exact ⟨y, rfl, onCurveXY_of hx hy hsq, hpar⟩
  · rw [if_neg hpar]
    -- the other root `p − y`: `y ≠ 0` here, `(p − y)² ≡ y²`, and `p` odd flips the parity
    have hy0 : 0 < y := Nat.pos_of_ne_zero fun hz => by rw [hz, h0 hz] at hpar; exact hpar rfl
    refine ⟨_, rfl, onCurveXY_of hx (Nat.sub_lt (Nat.lt_of_le_of_lt (Nat.zero_le x) hx) hy0)
      ((sq_neg_mod _ _ (Nat.le_of_lt hy)).trans hsq), ?_⟩
    have hflip := sub_parity (by decide +kernel : Secp256k1.p % 2 = 1) (Nat.le_of_lt hy)
    cases odd <;> simp_all

theorem decode_compressed_sound (tag : UInt8) (body : Bytes) (P : Point) (ht : tag.toNat = 2 ∨ tag.toNat = 3)
    (h : decode (tag :: body) = some P) :
    body.length = 32 ∧ ∃ y, P = .aff (beNat body) y ∧ onCurve P = true ∧ (y % 2 = 1 ↔ tag.toNat = 3) := by
  unfold decode at h
  have h23 : (tag.toNat == 2 || tag.toNat == 3) = true := by rcases ht with e | e <;> simp [e]
  simp only [h23, if_true, bne_iff_ne, ne_eq, ite_not, Option.ite_none_right_eq_some] at h
  obtain ⟨y, rfl, hc, hpar⟩ := liftX_sound _ _ _ h.2
  exact ⟨h.1, y, rfl, hc, by rw [← beq_iff_eq, hpar, beq_iff_eq]⟩

theorem encode_decode_compressed (tag : UInt8) (body : Bytes) (P : Point) (ht : tag.toNat = 2 ∨ tag.toNat = 3)
    (h : decode (tag :: body) = some P) : encode P true = tag :: body := by
  obtain ⟨hl, y, rfl, _, hpar⟩ := decode_compressed_sound tag body P ht h
  show (if y % 2 == 1 then (3 : UInt8) else 2) :: be32 (beNat body) = tag :: body
  rw [be32_beNat body hl]
  simp only [beq_iff_eq, hpar]
  rcases ht with e | e <;> rw [byte_eq_ofNat e] <;> rfl

end BtcVerif

/-
  C09: edits of the references of a mutable node below a named root: append a freshly built part, replace a
  reference by a freshly built part, delete a reference.
-/
import BtcVerif.Proofs.HeapOpsAssign
import BtcVerif.Proofs.HeapOpsNew

namespace BtcVerif.Model.Heap
open BtcVerif BtcVerif.Spec.ValueSem

/-- **edit of the references of a mutable target** (list edits, `tx.vin = …`, `tx.wit = …`):
    after appending fresh objects `e`, the target `x` gets the references `refs'`, which unfold to `kids'` -/
theorem mutate_kids {s : St} {sp : Store} (hinv : Inv s) (hrel : Rel s sp) {tg : Target} {x : Addr}
    (I : TInfo s sp tg x) (hm : I.o.isMut = true) {kids : List ATree}
    (htx : I.tx = .node x true I.o.sc kids)
    {h1 e : Heap} (he : h1 = s.heap ++ e)
    (hnew : ∀ o ∈ e, o.cHash = none ∧ o.cPy = none ∧ (o.sc.alwaysImm = true → o.isMut = false))
    (hic1 : ImmClosed h1) {refs' : List Addr} {kids' : List ATree}
    (hk' : mapO (unfoldA I.g h1) refs' = some kids')
    (hcnt' : ∀ y, cntL y kids' ≤ cntL y kids + (if s.heap.length ≤ y then 1 else 0))
    (hfl' : flagsOKL true kids')
    {w v' : Val} (hdw : decode (.node x true I.o.sc kids') = some w) (hput : I.e.val.put tg.path w = some v') :
    Inv (s.bind (h1.set x { isMut := true, sc := I.o.sc, refs := refs', cHash := I.o.cHash, cPy := I.o.cPy }) none) ∧
    Rel (s.bind (h1.set x { isMut := true, sc := I.o.sc, refs := refs', cHash := I.o.cHash, cPy := I.o.cPy }) none)
      (Spec.ValueSem.bind (sp.set tg.root (some { I.e with val := v' })) none) := by
  subst he
  obtain ⟨kids0, htx0, hk0, hnot0, hle, hfl0⟩ := I.mut_facts hinv hm
  rw [htx] at htx0
  have hkk : kids0 = kids := by cases htx0; rfl
  subst hkk
  have hxl : x < s.heap.length := (List.getElem?_eq_some_iff.mp I.ho).1
  have hx1 : (s.heap ++ e)[x]? = some I.o := getElem?_append_of_some e I.ho
  have hold0 : ∀ y, s.heap.length ≤ y → cnt y I.tx = 0 := by
    intro y hy
    apply cnt_zero_of_not_mem
    intro hmem
    have hlt : y < s.heap.length := addrs_lt I.hux y hmem
    exact absurd hlt (Nat.not_lt.mpr hy)
  have hcx : ∀ y, (if x = y then 1 else 0) + cntL y kids' ≤ 1 ∧
      (y < s.heap.length → cntL y kids' ≤ cntL y kids0) := by
    intro y
    have h1 := hle y
    have h2 := hcnt' y
    rw [htx] at h1
    simp only [cnt, if_true] at h1
    by_cases hy : s.heap.length ≤ y
    · rw [if_pos hy] at h2
      have h3 := hold0 y hy
      rw [htx] at h3
      simp only [cnt, if_true] at h3
      have hxy : x ≠ y := fun e => by subst e; exact absurd hxl (Nat.not_lt.mpr hy)
      rw [if_neg hxy] at h3 ⊢
      refine ⟨by omega, fun hlt => ?_⟩
      exact absurd hlt (Nat.not_lt.mpr hy)
    · rw [if_neg hy] at h2
      exact ⟨by omega, fun _ => by omega⟩
  -- the new node does not contain itself
  have hnot' : ∀ k ∈ kids', x ∉ addrs k := by
    intro k hk
    have h1 := (hcx x).1
    rw [if_pos rfl] at h1
    have hz : cntL x kids' = 0 := by omega
    obtain ⟨c, _, huc⟩ := mapO_mem hk' hk
    exact not_mem_of_cnt_zero hic1 hx1 hm huc (cntL_eq_zero.mp hz k hk)
  let o' : Obj := { isMut := true, sc := I.o.sc, refs := refs', cHash := I.o.cHash, cPy := I.o.cPy }
  let t' : ATree := .node x true I.o.sc kids'
  have hxl1 : x < (s.heap ++ e).length := by
    rw [List.length_append]; exact Nat.lt_of_lt_of_le hxl (Nat.le_add_right _ _)
  have ht' : unfoldA (I.g + 1) ((s.heap ++ e).set x o') x = some t' :=
    unfold_new_node (o' := o') hxl1 (g := I.g) (tcs := kids') hk' hnot'
  have hdec := decode_replaceAt I.hsub I.hd hdw hput
  have hsc : I.tx.sc = I.o.sc := I.hosc
  have hnai : I.o.sc.alwaysImm = false := by
    cases hh : I.o.sc.alwaysImm with
    | false => rfl
    | true => have := hinv.kindOK x I.o I.ho hh; rw [this] at hm; cases hm
  have hmut := inv_mutate hinv I.hroot I.hu I.hsub I.haddr I.ho hm (h1 := s.heap ++ e) (e := e) rfl hnew hic1
    (o' := o') rfl hnai I.hD ht' hdec
    (by show I.o.sc.alwaysImm = I.tx.sc.alwaysImm; rw [hsc])
    ⟨rfl, hfl'⟩
    (by
      intro y
      obtain ⟨h1, h2⟩ := hcx y
      rw [htx]
      simp only [t', cnt, if_true]
      exact ⟨h1, fun hlt => by have := h2 hlt; omega⟩)
  obtain ⟨hinv', hnewtree, hoth⟩ := hmut
  refine ⟨hinv', ?_⟩
  have hrootflag : (replaceAt I.t tg.path t').isMut = I.e.isMut := by
    have hfl'' := flagsOK_replaceAt (t' := t') I.hsub I.hf
      (by show I.o.sc.alwaysImm = I.tx.sc.alwaysImm; rw [hsc])
      (by rw [htx]; exact ⟨rfl, hfl'⟩)
    rw [flagsOK_isMut hfl'', I.hm]
  exact rel_mutate hrel I.hroot I.hentry hnewtree hdec hrootflag hoth

theorem flagsOKL_append {m : Bool} {a b : List ATree} (ha : flagsOKL m a) (hb : flagsOKL m b) :
    flagsOKL m (a ++ b) := by
  rw [flagsOKL_iff] at ha hb ⊢
  intro k hk
  rcases List.mem_append.mp hk with h | h
  · exact ha k h
  · exact hb k h

theorem flagsOKL_eraseIdx {m : Bool} {a : List ATree} (i : Nat) (ha : flagsOKL m a) :
    flagsOKL m (a.eraseIdx i) := by
  rw [flagsOKL_iff] at ha ⊢
  intro k hk
  exact ha k (List.mem_of_mem_eraseIdx hk)

theorem mapO_ext_heap {h : Heap} (e : Heap) {g : Nat} {refs : List Addr} {kids : List ATree}
    (hk : mapO (unfoldA g h) refs = some kids) : mapO (unfoldA g (h ++ e)) refs = some kids :=
  mapO_congr_some (fun _ _ _ hb => unfoldA_ext e hb) hk

theorem cntL_eraseIdx_le {y : Addr} (ts : List ATree) (i : Nat) : cntL y (ts.eraseIdx i) ≤ cntL y ts := by
  cases hk : ts[i]? with
  | none =>
    rw [List.eraseIdx_of_length_le (List.getElem?_eq_none_iff.mp hk)]
    exact Nat.le_refl _
  | some k => have := cntL_eraseIdx (x := y) hk; omega

/-! ### append a freshly built part, replace reference `j` by one, delete reference `i`

  `kids`/`vs`: trees and values of the node's parts; `c`: value of the fresh part, built with flag `mf`
  (`false` for a witness, which has no mutable variant). -/

theorem edit_set_fresh {s : St} {sp : Store} (hinv : Inv s) (hrel : Rel s sp) {tg : Target} {x : Addr}
    (I : TInfo s sp tg x) (hom : I.o.isMut = true) {kids : List ATree} {vs : List Val}
    (htx : I.tx = .node x true I.o.sc kids) (hkids : mapO (unfoldA I.g s.heap) I.o.refs = some kids)
    (hdec : mapO decode kids = some vs) (hfl : flagsOKL true kids) {j : Nat} (hj : j < kids.length)
    {p : Plan} (hgood : PlanGood s.heap I.g p) {mf : Bool} {c : Val}
    (htree : ∀ lo hi t, PT s.heap I.g p lo hi t → TreeIs mf c t ∧ t.sc.alwaysImm = !mf)
    {w v' : Val} (hasm : assemble I.o.sc (vs.set j c) = some w) (hput : I.e.val.put tg.path w = some v') :
    Inv (s.bind ((allocPlan s.heap p).1.set x
      { isMut := true, sc := I.o.sc, refs := I.o.refs.set j (allocPlan s.heap p).2,
        cHash := I.o.cHash, cPy := I.o.cPy }) none) ∧
    Rel (s.bind ((allocPlan s.heap p).1.set x
      { isMut := true, sc := I.o.sc, refs := I.o.refs.set j (allocPlan s.heap p).2,
        cHash := I.o.cHash, cPy := I.o.cPy }) none)
      (Spec.ValueSem.bind (sp.set tg.root (some { I.e with val := v' })) none) := by
  obtain ⟨ee, tc, he, hnew, hic, htc, hpt, hcnt⟩ := alloc_good hinv hgood
  obtain ⟨⟨hdc, hfc⟩, hsc⟩ := htree _ _ _ hpt
  have hk' : mapO (unfoldA I.g (allocPlan s.heap p).1) (I.o.refs.set j (allocPlan s.heap p).2)
      = some (kids.set j tc) := by
    apply mapO_list_set j _ htc
    rw [he]; exact mapO_ext_heap ee hkids
  exact mutate_kids hinv hrel I hom htx he hnew hic hk'
    (by
      intro y
      have := cntL_set (x := y) (k' := tc) (List.getElem?_eq_getElem hj)
      have := hcnt y
      omega)
    (flagsOKL_set hfl (by rw [hsc]; simpa using hfc))
    (by rw [decode_node, mapO_list_set j hdec hdc]; exact hasm) hput

theorem edit_append_fresh {s : St} {sp : Store} (hinv : Inv s) (hrel : Rel s sp) {tg : Target} {x : Addr}
    (I : TInfo s sp tg x) (hom : I.o.isMut = true) {kids : List ATree} {vs : List Val}
    (htx : I.tx = .node x true I.o.sc kids) (hkids : mapO (unfoldA I.g s.heap) I.o.refs = some kids)
    (hdec : mapO decode kids = some vs) (hfl : flagsOKL true kids)
    {p : Plan} (hgood : PlanGood s.heap I.g p) {mf : Bool} {c : Val}
    (htree : ∀ lo hi t, PT s.heap I.g p lo hi t → TreeIs mf c t ∧ t.sc.alwaysImm = !mf)
    {w v' : Val} (hasm : assemble I.o.sc (vs ++ [c]) = some w) (hput : I.e.val.put tg.path w = some v') :
    Inv (s.bind ((allocPlan s.heap p).1.set x
      { isMut := true, sc := I.o.sc, refs := I.o.refs ++ [(allocPlan s.heap p).2],
        cHash := I.o.cHash, cPy := I.o.cPy }) none) ∧
    Rel (s.bind ((allocPlan s.heap p).1.set x
      { isMut := true, sc := I.o.sc, refs := I.o.refs ++ [(allocPlan s.heap p).2],
        cHash := I.o.cHash, cPy := I.o.cPy }) none)
      (Spec.ValueSem.bind (sp.set tg.root (some { I.e with val := v' })) none) := by
  obtain ⟨ee, tc, he, hnew, hic, htc, hpt, hcnt⟩ := alloc_good hinv hgood
  obtain ⟨⟨hdc, hfc⟩, hsc⟩ := htree _ _ _ hpt
  have hk' : mapO (unfoldA I.g (allocPlan s.heap p).1) (I.o.refs ++ [(allocPlan s.heap p).2])
      = some (kids ++ [tc]) := by
    rw [he]
    apply mapO_append (mapO_ext_heap ee hkids)
    rw [← he]
    exact mapO_cons_eq_some.mpr ⟨tc, [], htc, rfl, rfl⟩
  exact mutate_kids hinv hrel I hom htx he hnew hic hk'
    (by intro y; rw [cntL_append]; simp only [cntL, Nat.add_zero]; have := hcnt y; omega)
    (flagsOKL_append hfl (by simp only [flagsOKL, and_true]; rw [hsc]; simpa using hfc))
    (by
      rw [decode_node, mapO_append hdec (mapO_cons_eq_some.mpr ⟨c, [], hdc, rfl, rfl⟩)]
      exact hasm) hput

theorem edit_erase {s : St} {sp : Store} (hinv : Inv s) (hrel : Rel s sp) {tg : Target} {x : Addr}
    (I : TInfo s sp tg x) (hom : I.o.isMut = true) {kids : List ATree} {vs : List Val}
    (htx : I.tx = .node x true I.o.sc kids) (hkids : mapO (unfoldA I.g s.heap) I.o.refs = some kids)
    (hdec : mapO decode kids = some vs) (hfl : flagsOKL true kids) (i : Nat)
    {w v' : Val} (hasm : assemble I.o.sc (vs.eraseIdx i) = some w) (hput : I.e.val.put tg.path w = some v') :
    Inv (s.bind (s.heap.set x
      { isMut := true, sc := I.o.sc, refs := I.o.refs.eraseIdx i, cHash := I.o.cHash, cPy := I.o.cPy }) none) ∧
    Rel (s.bind (s.heap.set x
      { isMut := true, sc := I.o.sc, refs := I.o.refs.eraseIdx i, cHash := I.o.cHash, cPy := I.o.cPy }) none)
      (Spec.ValueSem.bind (sp.set tg.root (some { I.e with val := v' })) none) :=
  mutate_kids hinv hrel I hom htx (h1 := s.heap) (e := []) (by simp) (by simp) hinv.immClosed
    (mapO_eraseIdx i hkids) (by intro y; have := cntL_eraseIdx_le (y := y) kids i; omega)
    (flagsOKL_eraseIdx i hfl) (by rw [decode_node, mapO_eraseIdx i hdec]; exact hasm) hput

end BtcVerif.Model.Heap

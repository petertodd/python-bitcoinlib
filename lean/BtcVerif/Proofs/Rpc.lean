/-
  C19 — helper lemmas: hex round trips; decimal digit counts; `ScaledEq` (c·10^e = k over the naturals) with
  what `fix` and `truncDec` do to it, and `amountInNum_exact`; the number scanner reads back what the grammar
  writes (`scanNumber_render`); `satoshisDenoted_iff`; the possible outcomes of the conversion (`OverflowOnly`).
-/
import BtcVerif.Model.Rpc
namespace BtcVerif.Rpc
open BtcVerif Model.Rpc

/-! ### hex -/

theorem hexVal_hexDigit : ∀ n, n < 16 → hexVal? (hexDigit n) = some n := by decide

theorem ofNat_hex (x y : Nat) (hx : x < 16) (hy : y < 16) :
    (UInt8.ofNat (16 * x + y)).toNat / 16 = x ∧ (UInt8.ofNat (16 * x + y)).toNat % 16 = y := by
  rw [UInt8.toNat_ofNat']
  omega

theorem ofHexChars_flatMap (b : Bytes) : ofHexChars? (b.flatMap hexOfByte) = some b := by
  induction b with
  | nil => rfl
  | cons x xs ih =>
    have hx := x.toNat_lt
    simp only [List.flatMap_cons, hexOfByte, List.cons_append, List.nil_append, ofHexChars?,
      hexVal_hexDigit _ (show x.toNat / 16 < 16 by omega), hexVal_hexDigit _ (show x.toNat % 16 < 16 by omega), ih]
    have : UInt8.ofNat (16 * (x.toNat / 16) + x.toNat % 16) = x := by
      rw [Nat.div_add_mod]; exact UInt8.ofNat_toNat
    show some (UInt8.ofNat (16 * (x.toNat / 16) + x.toNat % 16) :: xs) = some (x :: xs)
    rw [this]

theorem ofHex_toHex (b : Bytes) : ofHex? (toHex b) = some b := by
  unfold ofHex? toHex
  rw [String.toList_ofList]
  exact ofHexChars_flatMap b

theorem lowerHex_roundtrip (c : Char) (h : Spec.Rpc.isLowerHexChar c = true) :
    ∃ v, v < 16 ∧ hexVal? c = some v ∧ hexDigit v = c := by
  unfold Spec.Rpc.isLowerHexChar at h
  simp only [Bool.or_eq_true, Bool.and_eq_true, decide_eq_true_eq] at h
  rcases h with ⟨h1, h2⟩ | ⟨h1, h2⟩
  · have a1 : 48 ≤ c.toNat := h1
    have a2 : c.toNat ≤ 57 := h2
    refine ⟨c.toNat - 48, by omega, ?_, ?_⟩
    · unfold hexVal?; simp [h1, h2]
    · unfold hexDigit
      have : c.toNat - 48 < 10 := by omega
      simp only [this, if_true]
      rw [show 48 + (c.toNat - 48) = c.toNat by omega, Char.ofNat_toNat]
  · have a1 : 97 ≤ c.toNat := h1
    have a2 : c.toNat ≤ 102 := h2
    refine ⟨c.toNat - 87, by omega, ?_, ?_⟩
    · unfold hexVal?
      have n1 : ¬ ('0' ≤ c ∧ c ≤ '9') := by
        intro ⟨_, hh⟩; have : c.toNat ≤ 57 := hh; omega
      simp [n1, h1, h2]
    · unfold hexDigit
      have : ¬ (c.toNat - 87 < 10) := by omega
      simp only [this, if_false]
      rw [show 87 + (c.toNat - 87) = c.toNat by omega, Char.ofNat_toNat]

theorem flatMap_ofHexChars : ∀ (s : List Char) (b : Bytes), (∀ c ∈ s, Spec.Rpc.isLowerHexChar c = true) →
    ofHexChars? s = some b → b.flatMap hexOfByte = s
  | [], b, _, h => by cases h; rfl
  | [_], b, _, h => by cases h
  | c1 :: c2 :: rest, b, hl, h => by
    obtain ⟨v1, hv1, e1, d1⟩ := lowerHex_roundtrip c1 (hl c1 (by simp))
    obtain ⟨v2, hv2, e2, d2⟩ := lowerHex_roundtrip c2 (hl c2 (by simp))
    unfold ofHexChars? at h
    rw [e1, e2] at h
    cases hr : ofHexChars? rest with
    | none => rw [hr] at h; cases h
    | some r =>
      rw [hr] at h
      have hb : b = UInt8.ofNat (16 * v1 + v2) :: r := by cases h; rfl
      have ih := flatMap_ofHexChars rest r (fun c hc => hl c (by simp [hc])) hr
      obtain ⟨q1, q2⟩ := ofNat_hex v1 v2 hv1 hv2
      rw [hb, List.flatMap_cons, ih, hexOfByte, q1, q2, d1, d2]
      rfl

theorem toHex_ofHex (s : String) (b : Bytes) (hl : ∀ c ∈ s.toList, Spec.Rpc.isLowerHexChar c = true)
    (h : ofHex? s = some b) : toHex b = s := by
  unfold toHex
  rw [flatMap_ofHexChars s.toList b hl h]
  exact String.ofList_toList

/-! ### decimal digits -/

theorem ndigits_pos (n : Nat) : 1 ≤ ndigits n := by rw [ndigits]; split <;> omega

/-- (`k = 0` is excluded: zero has one digit) -/
theorem ndigits_le_iff {n k : Nat} (hk : 1 ≤ k) : ndigits n ≤ k ↔ n < 10 ^ k := by
  induction k generalizing n with
  | zero => omega
  | succ k ih =>
    have h10 : 10 ≤ 10 ^ (k + 1) := Nat.le_self_pow (by omega) 10
    rw [ndigits]
    split
    · omega
    · rw [Nat.add_le_add_iff_right, Nat.pow_succ, ← Nat.div_lt_iff_lt_mul (by omega)]
      rcases Nat.eq_zero_or_pos k with rfl | hk'
      · have := ndigits_pos (n / 10); omega
      · exact ih hk'

theorem ndigits_lt (n : Nat) : n < 10 ^ ndigits n := (ndigits_le_iff (ndigits_pos n)).1 (Nat.le_refl _)

theorem lt_ndigits_iff {n k : Nat} (hn : n ≠ 0) : k < ndigits n ↔ 10 ^ k ≤ n := by
  rcases Nat.eq_zero_or_pos k with rfl | hk
  · have := ndigits_pos n; omega
  · have := @ndigits_le_iff n k hk; omega

theorem ndigits_ge (n : Nat) (hn : n ≠ 0) : 10 ^ (ndigits n - 1) ≤ n :=
  (lt_ndigits_iff hn).1 (by have := ndigits_pos n; omega)

/-! ### `Decimal * COIN`, rounded by the context, then `int()` -/

/-- `c · 10^e = k`, stated over the naturals as `Spec.Rpc.denotesSat` states it -/
def ScaledEq (c : Nat) (e : Int) (k : Nat) : Prop :=
  if 0 ≤ e then c * 10 ^ e.toNat = k else c = k * 10 ^ (-e).toNat

theorem scaledEq_iff {c k : Nat} {e : Int} (a b : Nat) (h : (a : Int) = b + e) :
    ScaledEq c e k ↔ c * 10 ^ a = k * 10 ^ b := by
  have hb : 0 < 10 ^ b := Nat.pow_pos (by omega)
  have ha : 0 < 10 ^ a := Nat.pow_pos (by omega)
  unfold ScaledEq
  split
  · rw [show a = e.toNat + b by omega, Nat.pow_add, ← Nat.mul_assoc, Nat.mul_right_cancel_iff hb]
  · rw [show b = (-e).toNat + a by omega, Nat.pow_add, ← Nat.mul_assoc, Nat.mul_right_cancel_iff ha]

theorem ScaledEq.shift {c k : Nat} {e : Int} (n : Nat) (h : ScaledEq c (e + n) k) : ScaledEq (c * 10 ^ n) e k := by
  have := (scaledEq_iff (e + n).toNat ((-(e + n)).toNat) (by omega)).1 h
  rw [scaledEq_iff (e + n).toNat ((-(e + n)).toNat + n) (by omega), Nat.mul_right_comm, this, Nat.pow_add,
    Nat.mul_assoc]

theorem ScaledEq.eq_zero {c k : Nat} {e : Int} (h : ScaledEq c e k) : c = 0 ↔ k = 0 := by
  have := (scaledEq_iff e.toNat (-e).toNat (by omega)).1 h
  have ha : 0 < 10 ^ e.toNat := Nat.pow_pos (by omega)
  have hb : 0 < 10 ^ (-e).toNat := Nat.pow_pos (by omega)
  constructor
  · rintro rfl
    rw [Nat.zero_mul] at this
    rcases Nat.mul_eq_zero.1 this.symm with h | h <;> omega
  · rintro rfl
    rw [Nat.zero_mul] at this
    rcases Nat.mul_eq_zero.1 this with h | h <;> omega

theorem truncDec_nonneg (c : Nat) {e : Int} (he : 0 ≤ e) : truncDec c e = c * 10 ^ e.toNat := by
  unfold truncDec truncDecNZ
  rw [if_pos he]
  split
  · subst c; rw [Nat.zero_mul]
  · rfl

/-- (the model's shortcut for coefficients shorter than `-e` returns the same 0) -/
theorem truncDec_neg (c : Nat) {e : Int} (he : e < 0) : truncDec c e = c / 10 ^ (-e).toNat := by
  unfold truncDec truncDecNZ
  rw [if_neg (show ¬ 0 ≤ e by omega)]
  split
  · subst c; rw [Nat.zero_div]
  · split
    · exact (Nat.div_eq_of_lt ((ndigits_le_iff (by omega)).1 ‹_›)).symm
    · rfl

theorem truncDec_of_scaledEq {c k : Nat} {e : Int} (h : ScaledEq c e k) : truncDec c e = k := by
  unfold ScaledEq at h
  split at h
  · rw [truncDec_nonneg c ‹_›, h]
  · rw [truncDec_neg c (by omega), h, Nat.mul_div_cancel _ (Nat.pow_pos (by omega))]

theorem fix_small {c : Nat} {e : Int} (hn : ndigits c ≤ PREC) (he : e + ndigits c - 1 ≤ EMAX) :
    fix c e = .ok (c, e) := by
  unfold fix
  by_cases hc : c = 0
  · subst c; rfl
  · rw [if_neg hc, if_neg (by omega), if_pos hn]

theorem fix_trailing_zeros {q d : Nat} {e : Int} (hd : 0 < d) (hn : ndigits (q * 10 ^ d) = PREC + d)
    (he : e + d + PREC - 1 ≤ EMAX) : fix (q * 10 ^ d) e = .ok (q, e + d) := by
  have hp : 0 < 10 ^ d := Nat.pow_pos (by omega)
  have hq : ndigits q ≤ PREC := by
    have := ndigits_lt (q * 10 ^ d)
    rw [hn, Nat.pow_add] at this
    exact (ndigits_le_iff (by decide)).2 (Nat.lt_of_mul_lt_mul_right this)
  have hc : q * 10 ^ d ≠ 0 := by
    intro h
    rw [h] at hn
    have : ndigits 0 = 1 := by rw [ndigits]; rfl
    unfold PREC at hn; omega
  have hhalf : 0 < 5 * 10 ^ (d - 1) := Nat.mul_pos (by omega) (Nat.pow_pos (by omega))
  unfold fix
  rw [if_neg hc]
  have h1 : ¬ e + ↑(PREC + d) - 1 > EMAX := by omega
  have h2 : ¬ PREC + d ≤ PREC := by omega
  have h3 : ¬ (0 > 5 * 10 ^ (d - 1) ∨ 0 = 5 * 10 ^ (d - 1) ∧ q % 2 = 1) := by omega
  simp only [hn, Nat.add_sub_cancel_left, Nat.mul_div_cancel _ hp, Nat.mul_mod_left, if_neg h1, if_neg h2,
    if_neg h3, if_neg (Nat.not_lt.2 hq)]
  exact if_neg (by omega)

theorem fix_exact {c k : Nat} {e : Int} (h : ScaledEq c e k) (hk : k < 10 ^ PREC) :
    ∃ q e', fix c e = .ok (q, e') ∧ ScaledEq q e' k := by
  by_cases hc : c = 0
  · subst c; exact ⟨0, e, rfl, h⟩
  have hk0 : 0 < k := Nat.pos_of_ne_zero (mt h.eq_zero.2 hc)
  have hnd := ndigits_pos c
  by_cases he : 0 ≤ e
  · -- c ≤ c · 10^e = k < 10^PREC
    have hv : c * 10 ^ e.toNat = k := by unfold ScaledEq at h; rwa [if_pos he] at h
    have hpos : 0 < 10 ^ e.toNat := Nat.pow_pos (by omega)
    have hn : ndigits c ≤ PREC := (ndigits_le_iff (by decide)).2
      (Nat.lt_of_le_of_lt (hv ▸ Nat.le_mul_of_pos_right c hpos) hk)
    have he28 : e.toNat < PREC := (Nat.pow_lt_pow_iff_right (by omega)).1
      (Nat.lt_of_le_of_lt (hv ▸ Nat.le_mul_of_pos_left _ (Nat.pos_of_ne_zero hc)) hk)
    exact ⟨c, e, fix_small hn (by unfold EMAX PREC at *; omega), h⟩
  · -- c = k · 10^m
    obtain ⟨m, rfl⟩ : ∃ m : Nat, e = -(m : Int) := ⟨(-e).toNat, by omega⟩
    have hv : c = k * 10 ^ m := (scaledEq_iff 0 m (by omega)).1 h |>.symm ▸ (Nat.mul_one c).symm
    have hle : ndigits c ≤ PREC + m := (ndigits_le_iff (by unfold PREC; omega)).2
      (by rw [hv, Nat.pow_add]; exact Nat.mul_lt_mul_of_pos_right hk (Nat.pow_pos (by omega)))
    by_cases hn : ndigits c ≤ PREC
    · exact ⟨c, _, fix_small hn (by unfold EMAX PREC at *; omega), h⟩
    · -- more than `PREC` digits: the dropped ones are among the `m` zeros
      obtain ⟨d, hd⟩ : ∃ d, ndigits c = PREC + d := ⟨ndigits c - PREC, by omega⟩
      have hd0 : 0 < d := by omega
      have hdm : d ≤ m := by omega
      have hc' : c = k * 10 ^ (m - d) * 10 ^ d := by
        rw [hv, Nat.mul_assoc, ← Nat.pow_add, Nat.sub_add_cancel hdm]
      refine ⟨k * 10 ^ (m - d), -(m : Int) + d, ?_, (scaledEq_iff 0 (m - d) (by omega)).2 (Nat.mul_one _)⟩
      rw [hc'] at hd ⊢
      exact fix_trailing_zeros hd0 hd (by unfold EMAX PREC; omega)

open BtcVerif.Spec.Rpc (NumText COIN digitsVal isDigit)

theorem coin_eq : COIN = 10 ^ 8 := by decide

theorem applySign_eq_iff (neg : Bool) (n : Nat) (k : Int) :
    applySign neg n = k ↔ n = k.natAbs ∧ (k < 0 → neg = true) ∧ (0 < k → neg = false) := by
  cases neg <;> simp only [applySign, Bool.false_eq_true, Bool.true_eq_false, if_false, if_true, imp_false, implies_true,
    and_true, true_and] <;> omega

theorem denotesSat_iff (neg : Bool) (c : Nat) (e : Int) (k : Int) :
    Spec.Rpc.denotesSat neg c e k ↔ ∃ n, ScaledEq c (e + 8) n ∧ applySign neg n = k := by
  simp only [applySign_eq_iff]
  exact ⟨fun ⟨h, hs⟩ => ⟨_, h, rfl, hs⟩, fun ⟨n, h, hn, hs⟩ => ⟨hn ▸ h, hs⟩⟩

theorem amountInNum_int (t : NumText) (h : t.frac = none ∧ t.exp = none) : amountInNum t =
    if t.intDigits.length > INT_MAX_STR_DIGITS then .error .rpcerr
    else .ok (applySign t.neg (digitsVal t.intDigits * COIN)) := by
  unfold amountInNum
  rw [if_pos h]

theorem amountInNum_dec (t : NumText) (h : ¬ (t.frac = none ∧ t.exp = none)) : amountInNum t =
    if t.expo + ndigits t.coeff - 1 > MAX_EMAX ∨ t.expo < MIN_ETINY then .error .rpcerr
    else fix (t.coeff * COIN) t.expo >>= fun p => pure (applySign t.neg (truncDec p.1 p.2)) := by
  unfold amountInNum
  rw [if_neg h]

theorem amountInNum_exact (t : NumText) (hlim : InLimits t) (k : Int) (hk : k.natAbs < 10 ^ PREC)
    (h : t.denotes k) : amountInNum t = .ok k := by
  obtain ⟨n, hval, hn⟩ := (denotesSat_iff _ _ _ _).1 h
  obtain rfl : n = k.natAbs := ((applySign_eq_iff _ _ _).1 hn).1
  obtain ⟨hl1, hl2, hl3⟩ := hlim
  by_cases hint : t.frac = none ∧ t.exp = none
  · have hc : t.coeff = digitsVal t.intDigits := by
      unfold NumText.coeff; rw [hint.1]; exact congrArg _ (List.append_nil _)
    have he : t.expo = 0 := by
      unfold NumText.expo; rw [hint.1, hint.2]; rfl
    rw [he, hc] at hval
    rw [amountInNum_int t hint, if_neg (by omega), coin_eq, show _ * 10 ^ 8 = k.natAbs from hval, hn]
  · obtain ⟨q, e', hfix, hq⟩ := fix_exact (hval.shift 8) hk
    rw [amountInNum_dec t hint, if_neg (by omega), coin_eq, hfix]
    exact congrArg Except.ok ((truncDec_of_scaledEq hq).symm ▸ hn)

open BtcVerif.Spec.Rpc (fracText expText expSignText)

/-! ### the number scanner reads back what the grammar writes -/

/-- the next character, if any, is not a digit -/
def Stops (r : List Char) : Prop := ∀ x r', r = x :: r' → isDigit x = false

theorem stops_nil : Stops [] := by intro x r' h; cases h

theorem stops_cons (x : Char) (r : List Char) (h : isDigit x = false) : Stops (x :: r) := by
  intro y r' e; cases e; exact h

theorem takeWhile_digits (l r : List Char) (hl : ∀ c ∈ l, isDigit c = true) (hr : Stops r) :
    (l ++ r).takeWhile isDigit = l ∧ (l ++ r).dropWhile isDigit = r := by
  induction l with
  | nil =>
    cases r with
    | nil => exact ⟨rfl, rfl⟩
    | cons x r' =>
      have := hr x r' rfl
      simp [this]
  | cons a l ih =>
    have ha := hl a (by simp)
    obtain ⟨i1, i2⟩ := ih (fun c hc => hl c (by simp [hc]))
    simp only [List.cons_append, List.takeWhile, List.dropWhile, ha, i1, i2, and_self]

theorem takeDigits_append (l r : List Char) (hne : l ≠ []) (hl : ∀ c ∈ l, isDigit c = true) (hr : Stops r) :
    takeDigits (l ++ r) = some (l, r) := by
  obtain ⟨h1, h2⟩ := takeWhile_digits l r hl hr
  unfold takeDigits
  simp only [h1, h2, hne, if_false]

theorem scanInt_append (ds r : List Char) (hne : ds ≠ []) (hl : ∀ c ∈ ds, isDigit c = true)
    (hz : ds = ['0'] ∨ ds.head? ≠ some '0') (hr : Stops r) : scanInt (ds ++ r) = some (ds, r) := by
  unfold scanInt
  rw [takeDigits_append ds r hne hl hr]
  have hcond : ¬ (ds.head? = some '0' ∧ 1 < ds.length) := by
    rintro ⟨h1, h2⟩
    rcases hz with h | h
    · rw [h] at h2; simp at h2
    · exact h h1
  simp only [hcond, if_false]

theorem digit_ne (c x : Char) (hc : isDigit c = true) (hx : isDigit x = false) : c ≠ x := by
  intro e; rw [e, hx] at hc; cases hc

theorem expText_stops (x : Option (Char × Option Char × List Char))
    (h : ∀ m s ds, x = some (m, s, ds) → (m = 'e' ∨ m = 'E')) : Stops (expText x) := by
  cases x with
  | none => exact stops_nil
  | some p =>
    obtain ⟨m, s, ds⟩ := p
    rcases h m s ds rfl with rfl | rfl
    · exact stops_cons _ _ (by decide)
    · exact stops_cons _ _ (by decide)

theorem scanExpSign_text (s : Option Char) (ds : List Char) (hs : s = none ∨ s = some '+' ∨ s = some '-')
    (hne : ds ≠ []) (hd : ∀ c ∈ ds, isDigit c = true) : scanExpSign (expSignText s ++ ds) = (s, ds) := by
  rcases hs with rfl | rfl | rfl
  · match ds, hne, hd with
    | c :: rest, _, hd =>
      have hc := hd c (by simp)
      have h1 : c ≠ '+' := digit_ne c '+' hc (by decide)
      have h2 : c ≠ '-' := digit_ne c '-' hc (by decide)
      show scanExpSign (c :: rest) = _
      unfold scanExpSign
      simp only [h1, h2, if_false]
  · rfl
  · rfl

theorem scanExp_expText (x : Option (Char × Option Char × List Char))
    (h : ∀ m s ds, x = some (m, s, ds) → (m = 'e' ∨ m = 'E') ∧ (s = none ∨ s = some '+' ∨ s = some '-') ∧
      ds ≠ [] ∧ ∀ c ∈ ds, isDigit c = true) : scanExp (expText x) = (x, []) := by
  cases x with
  | none => rfl
  | some p =>
    obtain ⟨m, s, ds⟩ := p
    obtain ⟨hm, hs, hne, hd⟩ := h m s ds rfl
    have htd : takeDigits ds = some (ds, []) := by
      have := takeDigits_append ds [] hne hd stops_nil
      rwa [List.append_nil] at this
    show scanExp (m :: (expSignText s ++ ds)) = _
    unfold scanExp
    simp only [hm, if_true, scanExpSign_text s ds hs hne hd, htd]

theorem scanFrac_fracText (f : Option (List Char)) (r : List Char)
    (hf : ∀ g, f = some g → g ≠ [] ∧ ∀ c ∈ g, isDigit c = true) (hr : Stops r)
    (hdot : ∀ r', r ≠ '.' :: r') : scanFrac (fracText f ++ r) = (f, r) := by
  cases f with
  | none =>
    show scanFrac r = _
    cases r with
    | nil => rfl
    | cons c r' =>
      have hc : c ≠ '.' := by intro e; exact hdot r' (by rw [e])
      unfold scanFrac
      simp only [hc, if_false]
  | some g =>
    obtain ⟨hne, hd⟩ := hf g rfl
    show scanFrac ('.' :: (g ++ r)) = _
    unfold scanFrac
    simp only [if_true, takeDigits_append g r hne hd hr]

theorem expText_nodot (x : Option (Char × Option Char × List Char))
    (h : ∀ m s ds, x = some (m, s, ds) → (m = 'e' ∨ m = 'E')) : ∀ r', expText x ≠ '.' :: r' := by
  intro r' e
  cases x with
  | none => cases e
  | some p =>
    obtain ⟨m, s, ds⟩ := p
    rcases h m s ds rfl with rfl | rfl
    · cases e
    · cases e

theorem scanNumber_render (t : NumText) (hwf : t.WF) : scanNumber t.render = some t := by
  obtain ⟨hne, hd, hz, hf, he⟩ := hwf
  have he1 : ∀ m s ds, t.exp = some (m, s, ds) → (m = 'e' ∨ m = 'E') := fun m s ds h => (he m s ds h).1
  have hstopE := expText_stops t.exp he1
  have hstopF : Stops (fracText t.frac ++ expText t.exp) := by
    cases hfr : t.frac with
    | none => exact hstopE
    | some g => exact stops_cons _ _ (by decide)
  have hsign : scanSign t.render = (t.neg, t.intDigits ++ (fracText t.frac ++ expText t.exp)) := by
    unfold NumText.render
    cases hn : t.neg with
    | true => rfl
    | false =>
      match hi : t.intDigits, hne with
      | c :: rest, _ =>
        have hc : isDigit c = true := hd c (by rw [hi]; simp)
        have h1 : c ≠ '-' := digit_ne c '-' hc (by decide)
        show scanSign (c :: (rest ++ _)) = _
        unfold scanSign
        simp only [h1, if_false]
        rfl
  unfold scanNumber
  simp only [hsign, scanInt_append t.intDigits _ hne hd hz hstopF,
    scanFrac_fracText t.frac (expText t.exp) hf hstopE (expText_nodot t.exp he1), scanExp_expText t.exp he, if_true]

theorem satoshisDenoted_iff (t : NumText) (hwf : t.WF) (k : Int) :
    satoshisDenoted t.render = some k ↔ t.denotes k := by
  unfold satoshisDenoted NumText.denotes
  rw [scanNumber_render t hwf, denotesSat_iff]
  unfold ScaledEq
  have hp : 0 < 10 ^ (-(t.expo + 8)).toNat := Nat.pow_pos (by omega)
  by_cases he : 0 ≤ t.expo + 8
  · simp only [if_pos he]
    exact ⟨fun h => ⟨_, rfl, Option.some.inj h⟩, fun ⟨n, hn, h⟩ => by rw [hn, h]⟩
  · simp only [if_neg he]
    by_cases hd : t.coeff % 10 ^ (-(t.expo + 8)).toNat = 0
    · simp only [if_pos hd]
      exact ⟨fun h => ⟨_, (Nat.div_mul_cancel (Nat.dvd_of_mod_eq_zero hd)).symm, Option.some.inj h⟩,
        fun ⟨n, hn, h⟩ => by rw [hn, Nat.mul_div_cancel _ hp, h]⟩
    · simp only [if_neg hd]
      exact ⟨nofun, fun ⟨n, hn, _⟩ => absurd (by rw [hn, Nat.mul_mod_left]) hd⟩

/-! ### what can come out of the conversion -/

/-- a computation whose only failure is the decimal context's Overflow signal -/
def OverflowOnly {α : Type} (r : Res α) : Prop := (∃ a, r = .ok a) ∨ r = .error overflow

theorem OverflowOnly.ok {α : Type} (a : α) : OverflowOnly (.ok a) := .inl ⟨a, rfl⟩

theorem OverflowOnly.ite {α : Type} {p : Prop} [Decidable p] {a b : Res α} (ha : OverflowOnly a)
    (hb : OverflowOnly b) : OverflowOnly (if p then a else b) := by split <;> assumption

theorem OverflowOnly.uncurry {α β γ : Type} {f : β → γ → Res α} (p : β × γ)
    (h : ∀ a b, OverflowOnly (f a b)) : OverflowOnly (match p with | (a, b) => f a b) := h p.1 p.2

theorem OverflowOnly.bind {α β : Type} {r : Res α} {f : α → Res β} (hr : OverflowOnly r)
    (hf : ∀ a, OverflowOnly (f a)) : OverflowOnly (r >>= f) := by
  rcases hr with ⟨a, rfl⟩ | rfl
  · exact hf a
  · exact .inr rfl

theorem fix_outcomes (c : Nat) (e : Int) : OverflowOnly (fix c e) := by
  unfold fix
  refine .ite (.ok _) (.ite (.inr rfl) (.ite (.ok _) ?_))
  exact .uncurry _ fun _ _ => .ite (.inr rfl) (.ok _)

theorem amountInNum_outcomes (t : NumText) :
    (∃ k, amountInNum t = .ok k) ∨ amountInNum t = .error overflow ∨ amountInNum t = .error .rpcerr := by
  by_cases hint : t.frac = none ∧ t.exp = none
  · rw [amountInNum_int t hint]
    split
    · exact .inr (.inr rfl)
    · exact .inl ⟨_, rfl⟩
  · rw [amountInNum_dec t hint]
    split
    · exact .inr (.inr rfl)
    · exact or_assoc.1 (.inl ((fix_outcomes _ _).bind fun _ => .ok _))

end BtcVerif.Rpc

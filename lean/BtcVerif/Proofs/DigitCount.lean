/-
  Number of digits in base `b`, for any function defined by the usual recursion
  (`byteLen`, `nbytes`, `bitLength` are instances): one characterisation serves them all.
-/

namespace BtcVerif

variable {b : Nat} {f : Nat → Nat}

theorem digitCount_le_iff (hb : 2 ≤ b) (h0 : f 0 = 0) (hs : ∀ n, n ≠ 0 → f n = f (n / b) + 1) :
    ∀ n k, f n ≤ k ↔ n < b ^ k := by
  intro n
  induction n using Nat.strongRecOn with
  | _ n ih =>
    intro k
    by_cases hn : n = 0
    · subst hn
      have : 0 < b ^ k := Nat.pow_pos (by omega)
      rw [h0]; omega
    · rw [hs n hn]
      cases k with
      | zero => rw [Nat.pow_zero]; omega
      | succ k =>
        rw [Nat.add_le_add_iff_right, ih (n / b) (Nat.div_lt_self (by omega) (by omega)), Nat.pow_succ,
          Nat.div_lt_iff_lt_mul (by omega)]

theorem digitCount_eq_iff (hb : 2 ≤ b) (h0 : f 0 = 0) (hs : ∀ n, n ≠ 0 → f n = f (n / b) + 1) (n k : Nat) :
    f n = k + 1 ↔ b ^ k ≤ n ∧ n < b ^ (k + 1) := by
  have h1 := digitCount_le_iff hb h0 hs n k
  have h2 := digitCount_le_iff hb h0 hs n (k + 1)
  omega

theorem digitCount_bounds (hb : 2 ≤ b) (h0 : f 0 = 0) (hs : ∀ n, n ≠ 0 → f n = f (n / b) + 1) {n : Nat}
    (hn : n ≠ 0) : b ^ (f n - 1) ≤ n ∧ n < b ^ f n := by
  have hp : f n = (f n - 1) + 1 := by rw [hs n hn]; omega
  have := (digitCount_eq_iff hb h0 hs n (f n - 1)).mp hp
  rwa [← hp] at this

/-- the count in base `b ^ j` is the count in base `b` divided by `j`, rounded up (bits to bytes: `j = 8`) -/
theorem digitCount_pow {g : Nat → Nat} {j : Nat} (hb : 2 ≤ b) (hj : 0 < j) (h0 : f 0 = 0)
    (hs : ∀ n, n ≠ 0 → f n = f (n / b) + 1) (g0 : g 0 = 0) (gs : ∀ n, n ≠ 0 → g n = g (n / b ^ j) + 1) (n : Nat) :
    g n = (f n + (j - 1)) / j := by
  have hbj : 2 ≤ b ^ j := Nat.le_trans hb (Nat.le_self_pow (by omega) b)
  apply Nat.le_antisymm
  · rw [digitCount_le_iff hbj g0 gs, ← Nat.pow_mul]
    apply Nat.lt_of_lt_of_le ((digitCount_le_iff hb h0 hs n (f n)).mp (Nat.le_refl _))
    apply Nat.pow_le_pow_right (by omega)
    have := Nat.div_add_mod (f n + (j - 1)) j
    have := Nat.mod_lt (f n + (j - 1)) hj
    omega
  · rw [Nat.div_le_iff_le_mul_add_pred hj, Nat.mul_comm, ← Nat.sub_le_iff_le_add, Nat.add_sub_cancel,
      digitCount_le_iff hb h0 hs, Nat.mul_comm, Nat.pow_mul]
    exact (digitCount_le_iff hbj g0 gs n (g n)).mp (Nat.le_refl _)

end BtcVerif

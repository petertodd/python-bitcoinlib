/-
  C09, operations with reference arguments: every operation of the base catalogue except `sighash`/`verify`,
  and every operation with a reference argument, preserves `InvX`.
-/
import BtcVerif.Proofs.HeapAliasPlans

namespace BtcVerif.Model.Heap
open BtcVerif BtcVerif.Spec.ValueSem BtcVerif.Spec.AliasSem BtcVerif.Model.HeapX

theorem invx_alloc_write {h : Heap} (hinv : InvX h) {p : Plan} (hg : GoodX h p) {x : Addr} {ox : Obj}
    (hox : h[x]? = some ox) (hmx : ox.isMut = true) {o' : Obj} (hm' : o'.isMut = true)
    (hk' : o'.sc.kind = ox.sc.kind) (ht' : TypedObj (allocPlan h p).1 o') :
    TrX h ((allocPlan h p).1.set x o') := by
  obtain ⟨t1, ⟨e, he⟩, _⟩ := trx_alloc hinv hg
  exact t1.trans (trx_write t1.inv (by rw [he]; exact getElem?_append_of_some e hox) hmx hm' hk' ht')

theorem kind_lt8_of_notSeq {sc : Scalars} (h : sc.isSeq = false) : sc.kind ≠ 10 := by
  cases sc with
  | seq k => simp [Scalars.isSeq] at h
  | _ => simp [Scalars.kind]

theorem getElem?_of_kindAt {h : Heap} {a : Addr} {k : Nat} (hk : kindAt h a = some k) : a < h.length := by
  obtain ⟨o, ho, _⟩ := kindAt_some hk
  exact (List.getElem?_eq_some_iff.mp ho).1

theorem typedObj_mk {h : Heap} {o : Obj} {ks : List Nat} (h1 : mapO (kindAt h) o.refs = some ks)
    (h2 : refKindsK o.sc.kind ks) : TypedObj h o := ⟨ks, h1, h2⟩

theorem pyHashAt_cases {h h' : Heap} {x : Addr} {r : BtcVerif.Res Bytes} (hg : pyHashAt h x = some (h', r)) :
    h' = h ∨ ∃ (o : Obj) (c : Bytes) (v : Val), h[x]? = some o ∧ o.isMut = false ∧ absVal h x = some v ∧
      pyHashOf v = .ok c ∧ h' = h.set x { o with cPy := some c } :=
  memoAt_cases (get := (·.cPy)) (set := fun o c => { o with cPy := some c }) (f := pyHashOf) hg

theorem invx_getHashAt {h h' : Heap} (hinv : InvX h) {x : Addr} {r : BtcVerif.Res Bytes}
    (hg : getHashAt h x = some (h', r)) : TrX h h' ∧ (∀ c, kindAt h' c = kindAt h c) ∧
      (∀ (c : Addr) (o : Obj), h[c]? = some o → ∃ o' : Obj, h'[c]? = some o' ∧ o'.isMut = o.isMut) := by
  rcases getHashAt_cases hg with rfl | ⟨o, c, v, ho, hm, hv, hid, rfl⟩
  · exact ⟨TrX.refl hinv, fun _ => rfl, fun c o ho => ⟨o, ho, rfl⟩⟩
  · refine ⟨trx_same hinv (o' := { o with cHash := some c }) ho rfl rfl rfl (fun _ =>
      ⟨fun c' hc' => by simp only [Option.some.injEq] at hc'; subst hc'; exact ⟨v, hv, hid⟩,
       fun c' hc' => (hinv.cacheOK x o ho hm).2 c' hc'⟩), kindAt_set_same ho rfl, ?_⟩
    intro c2 oc hoc
    by_cases hcx : c2 = x
    · subst hcx; rw [ho] at hoc; cases hoc
      exact ⟨{ o with cHash := some c }, by simp [List.getElem?_set_self (List.getElem?_eq_some_iff.mp ho).1], rfl⟩
    · exact ⟨oc, by rw [List.getElem?_set_ne (fun e => hcx e.symm)]; exact hoc, rfl⟩

theorem invx_fillHashes {h : Heap} (hinv : InvX h) : ∀ (addrs : List Addr),
    TrX h (fillHashes h addrs) ∧ (∀ c, kindAt (fillHashes h addrs) c = kindAt h c) ∧
      (∀ (c : Addr) (o : Obj), h[c]? = some o → ∃ o' : Obj, (fillHashes h addrs)[c]? = some o' ∧ o'.isMut = o.isMut) := by
  intro addrs
  induction addrs generalizing h with
  | nil => exact ⟨TrX.refl hinv, fun _ => rfl, fun c o ho => ⟨o, ho, rfl⟩⟩
  | cons a as ih =>
    simp only [fillHashes]
    cases hg : getHashAt h a with
    | none => exact ih hinv
    | some pr =>
      obtain ⟨h', r⟩ := pr
      obtain ⟨i1, i2, i3⟩ := invx_getHashAt hinv hg
      obtain ⟨j1, j2, j3⟩ := ih i1.inv
      refine ⟨i1.trans j1, fun c => by rw [j2, i2], ?_⟩
      intro c o ho
      obtain ⟨o1, ho1, hm1⟩ := i3 c o ho
      obtain ⟨o2, ho2, hm2⟩ := j3 c o1 ho1
      exact ⟨o2, ho2, by rw [hm2, hm1]⟩

theorem entryAt_kind {h : Heap} {a : Addr} {et : Entry × Tx} (he : entryAt h a = some et) : kindAt h a = some 5 := by
  simp only [entryAt] at he
  cases ho : h[a]? with
  | none => simp [ho] at he
  | some o =>
    cases hv : absVal h a with
    | none => simp [ho, hv] at he
    | some v =>
      simp only [absVal] at hv
      cases hu : unfoldA D h a with
      | none => simp [hu] at hv
      | some t =>
        simp only [hu, Option.bind_some] at hv
        have hk := decode_kind hv
        have hu0 := hu
        rw [D_eq] at hu
        obtain ⟨o2, kids, ho2, _, rfl⟩ := unfoldA_succ hu
        rw [ho] at ho2; cases ho2
        cases v <;> simp [ho, absVal, hu0, hv] at he
        simp only [kindAt, ho, Option.map_some]
        exact congrArg some hk.symm

theorem invx_setTxRef {h : Heap} (hinv : InvX h) {a : Addr} {o : Obj} {vi vo w : Addr}
    (hp : txParts h a = some (o, vi, vo, w)) (hm : o.isMut = true) {p : Plan} (hg : GoodX h p)
    (j k : Nat) (hk : rootKindP h p = some k) (hj : [8, 9, 4][j]? = some k) {h2 : Heap}
    (hs : setRef (allocPlan h p).1 a j (allocPlan h p).2 = some h2) : TrX h h2 := by
  obtain ⟨ho, hk5, hrefs, k1, k2, k3⟩ := txParts_kinds hinv.typed hp
  obtain ⟨t1, ⟨e, he⟩, hkr⟩ := trx_alloc hinv hg
  have hi1 := t1.inv
  have ho1 : (allocPlan h p).1[a]? = some o := by rw [he]; exact getElem?_append_of_some e ho
  simp only [setRef, ho1] at hs
  split at hs
  · rename_i hlt
    cases hs
    have hcur : ∃ cur, o.refs[j]? = some cur ∧ kindAt h cur = some k := by
      rw [hrefs]
      match j, hj with
      | 0, hj => simp at hj; exact ⟨vi, rfl, by rw [← hj]; exact k1⟩
      | 1, hj => simp at hj; exact ⟨vo, rfl, by rw [← hj]; exact k2⟩
      | 2, hj => simp at hj; exact ⟨w, rfl, by rw [← hj]; exact k3⟩
    obtain ⟨cur, hc1, hc2⟩ := hcur
    refine t1.trans (trx_write hi1 ho1 hm
      (o' := { o with refs := o.refs.set j (allocPlan h p).2 }) hm rfl ?_)
    apply typed_setSlot (hi1.typed a o ho1) hc1
    rw [hkr k hk, he, kindAt_append_some e hc2]
  · cases hs

theorem invx_listAppendFresh {h : Heap} (hinv : InvX h) {l : Addr} {lo : Obj} (hlo : h[l]? = some lo)
    (hm : lo.isMut = true) {ek : Nat} (he : elemKind lo.sc.kind = some ek) {p : Plan} (hg : GoodX h p)
    (hk : rootKindP h p = some ek) :
    TrX h ((allocPlan h p).1.set l { isMut := true, sc := lo.sc, refs := lo.refs ++ [(allocPlan h p).2], cHash := lo.cHash, cPy := lo.cPy }) := by
  obtain ⟨t1, ⟨e, hee⟩, hkr⟩ := trx_alloc hinv hg
  have hlo1 : (allocPlan h p).1[l]? = some lo := by rw [hee]; exact getElem?_append_of_some e hlo
  exact invx_alloc_write hinv hg hlo hm (o' := { isMut := true, sc := lo.sc, refs := lo.refs ++ [(allocPlan h p).2], cHash := lo.cHash, cPy := lo.cPy })
    rfl rfl (typed_listAppend (t1.inv.typed l lo hlo1) he (hkr ek hk))

theorem invx_listSetFresh {h : Heap} (hinv : InvX h) {l : Addr} {lo : Obj} (hlo : h[l]? = some lo)
    (hm : lo.isMut = true) {ek : Nat} (he : elemKind lo.sc.kind = some ek) {p : Plan} (hg : GoodX h p)
    (hk : rootKindP h p = some ek) (i : Nat) :
    TrX h ((allocPlan h p).1.set l { isMut := true, sc := lo.sc, refs := lo.refs.set i (allocPlan h p).2, cHash := lo.cHash, cPy := lo.cPy }) := by
  obtain ⟨t1, ⟨e, hee⟩, hkr⟩ := trx_alloc hinv hg
  have hlo1 : (allocPlan h p).1[l]? = some lo := by rw [hee]; exact getElem?_append_of_some e hlo
  exact invx_alloc_write hinv hg hlo hm (o' := { isMut := true, sc := lo.sc, refs := lo.refs.set i (allocPlan h p).2, cHash := lo.cHash, cPy := lo.cPy })
    rfl rfl (typed_listSet (t1.inv.typed l lo hlo1) he i (hkr ek hk))

theorem withTx_trx {s : St} (hinv : InvX s.heap) (r : Nat) {k : Addr → Obj → Addr → Addr → St × Out}
    (hk : ∀ a o vi vo w, txParts s.heap a = some (o, vi, vo, w) → TrX s.heap (k a o vi vo).1.heap) :
    TrX s.heap (withTx s r k).1.heap := by
  unfold withTx
  split
  · exact TrX.refl hinv
  · split
    · exact TrX.refl hinv
    · rename_i hp; exact hk _ _ _ _ _ hp

theorem withList_trx {s : St} (hinv : InvX s.heap) (l : Addr) (immErr : Exc)
    (f : List Addr → Except Exc (List Addr))
    (hf : ∀ (lo : Obj) (items : List Addr), s.heap[l]? = some lo → lo.isMut = true → f lo.refs = .ok items →
      TypedObj s.heap { lo with refs := items }) : TrX s.heap (withList s l immErr f).1.heap := by
  unfold withList
  split
  · exact TrX.refl hinv
  · rename_i lo hlo
    split
    · exact TrX.refl hinv
    · rename_i hm
      have hm' : lo.isMut = true := by simpa using hm
      split
      · exact TrX.refl hinv
      · rename_i items hfi
        exact trx_write hinv hlo hm' (o' := { lo with refs := items }) hm' rfl (hf lo items hlo hm' hfi)

theorem withListAt_eq : @HeapX.withListAt = @withList := rfl

theorem invx_base_core {s : St} (hinv : InvX s.heap) : ∀ (op : Op), coreOp op = true ∨ (∃ h t, op = .newBlock h t) →
    TrX s.heap (Model.Heap.step s op).1.heap
  | .newTx v, _ => by
    simp only [Model.Heap.step]
    split
    · exact (trx_alloc hinv (goodX_planTx true v (goodX_planWit _ _) rfl rfl)).1
    · exact TrX.refl hinv
  | .newCTx v, _ => by
    simp only [Model.Heap.step]
    split
    · split
      · obtain ⟨o0, o1, _, _, _, _, h1, b1, b2, _⟩ := hinv.defaults
        refine (trx_alloc hinv (goodX_planTx false v (wp := .ref defaultWit) ?_ ⟨o1, h1, b1⟩ ?_)).1
        · exact (List.getElem?_eq_some_iff.mp h1).1
        · simp [rootKindP, kindAt, h1, b2, Scalars.kind]
      · exact (trx_alloc hinv (goodX_planTx false v (goodX_planWit _ _) rfl rfl)).1
    · exact TrX.refl hinv
  | .newHeader v, _ => by
    simp only [Model.Heap.step]
    split
    · have : GoodX s.heap (.node false (.header v) []) :=
        ⟨fun _ => rfl, fun _ k hk => by simp at hk, ⟨[], rfl, rfl⟩, trivial⟩
      exact (trx_alloc hinv this).1
    · exact TrX.refl hinv
  | .newBlock hdr txs, _ => by
    simp only [Model.Heap.step]
    cases h1 : mapO s.root txs with
    | none => exact TrX.refl hinv
    | some addrs =>
      simp only []
      cases h2 : mapO (entryAt s.heap) addrs with
      | none => exact TrX.refl hinv
      | some es =>
        simp only []
        cases h3 : newBlockVal hdr es with
        | error x => exact TrX.refl hinv
        | ok b =>
          simp only []
          obtain ⟨i1, i2, i3⟩ := invx_fillHashes hinv addrs
          cases h4 : mapO (planClone false txFuel (fillHashes s.heap addrs)) addrs with
          | none => exact TrX.refl hinv
          | some plans =>
            simp only []
            have hpl : ∀ pl ∈ plans, GoodX (fillHashes s.heap addrs) pl ∧
                rootKindP (fillHashes s.heap addrs) pl = some 5 ∧ rootFrozenP (fillHashes s.heap addrs) pl := by
              intro pl hpl
              obtain ⟨a, ha, hpa⟩ := mapO_mem h4 hpl
              obtain ⟨g1, g2, g3⟩ := planClone_goodX i1.inv false hpa
              obtain ⟨et, _, het⟩ := mapO_mem' h2 ha
              exact ⟨g1, by rw [g2, i2, entryAt_kind het], g3 rfl⟩
            refine i1.trans (trx_alloc i1.inv ?_).1
            refine ⟨fun _ => rfl, ?_, ⟨[11], rfl, rfl⟩, ⟨fun _ => rfl, ?_, ⟨plans.map (fun _ => 5), ?_, ?_⟩, ?_⟩, trivial⟩
            · intro _ k hk; simp only [List.mem_singleton] at hk; subst hk; exact rfl
            · intro _ k hk; exact (hpl k hk).2.2
            · exact mapO_const _ 5 _ (fun p hp => (hpl p hp).2.1)
            · show refKindsK 11 _
              simp only [refKindsK]
              intro k hk; obtain ⟨_, _, rfl⟩ := List.mem_map.mp hk; rfl
            · rw [goodXL_iff]; exact fun p hp => (hpl p hp).1
  | .snapshot t, _ => by
    simp only [Model.Heap.step]
    (repeat' split) <;> first
      | exact TrX.refl hinv
      | (rename_i hp; exact (trx_alloc hinv (planClone_goodX hinv false hp).1).1)
  | .mutCopy t, _ => by
    simp only [Model.Heap.step]
    (repeat' split) <;> first
      | exact TrX.refl hinv
      | (rename_i hp; exact (trx_alloc hinv (planClone_goodX hinv true hp).1).1)
  | .assign t f, _ => by
    simp only [Model.Heap.step]
    cases ht : s.target t with
    | none => exact TrX.refl hinv
    | some x =>
      simp only []
      cases ho : s.heap[x]? with
      | none => exact TrX.refl hinv
      | some o =>
        simp only []
        by_cases hs : o.sc.isSeq = true
        · simp only [hs, if_true]; exact TrX.refl hinv
        · have hs' : o.sc.isSeq = false := by simpa using hs
          simp only [hs', Bool.false_eq_true, if_false, assignAt, ho]
          by_cases hm : o.isMut = true
          · simp only [hm, Bool.not_true, Bool.false_eq_true, if_false]
            cases hap : applySc f o.sc with
            | none => exact TrX.refl hinv
            | some sc' =>
              have hk := applySc_kind hap
              obtain ⟨ks, hks, hok⟩ := hinv.typed x o ho
              exact trx_write hinv ho hm
                (o' := { isMut := true, sc := sc', refs := o.refs, cHash := o.cHash, cPy := o.cPy }) rfl hk
                ⟨ks, hks, by simp only [refKindsOK, hk]; exact hok⟩
          · have hm' : o.isMut = false := by simpa using hm
            simp only [hm', Bool.not_false, if_true]; exact TrX.refl hinv
  | .delAttr t, _ => by simp only [Model.Heap.step]; (repeat' split) <;> exact TrX.refl hinv
  | .ser t, _ => by simp only [Model.Heap.step, observeAt]; (repeat' split) <;> exact TrX.refl hinv
  | .txid t, _ => by simp only [Model.Heap.step, observeAt]; (repeat' split) <;> exact TrX.refl hinv
  | .eq a b, _ => by simp only [Model.Heap.step]; (repeat' split) <;> exact TrX.refl hinv
  | .sighashW r i ht, _ => by simp only [Model.Heap.step]; (repeat' split) <;> exact TrX.refl hinv
  | .getHash t, _ => by
    simp only [Model.Heap.step, observeAt]
    (repeat' split) <;> first
      | exact TrX.refl hinv
      | (rename_i hg; exact (invx_getHashAt hinv hg).1)
  | .pyHash t, _ => by
    simp only [Model.Heap.step, observeAt]
    (repeat' split) <;> first
      | exact TrX.refl hinv
      | (rename_i hg
         rcases pyHashAt_cases hg with rfl | ⟨o, c, v, ho, hm, hv, hid, rfl⟩
         · exact TrX.refl hinv
         · exact trx_same hinv (o' := { o with cPy := some c }) ho rfl rfl rfl (fun _ =>
             ⟨fun c' hc' => (hinv.cacheOK _ o ho hm).1 c' hc',
              fun c' hc' => by simp only [Option.some.injEq] at hc'; subst hc'; exact ⟨v, hv, hid⟩⟩))
  | .sighash r sb i ht, h => by rcases h with h | ⟨_, _, h⟩ <;> simp [coreOp] at h
  | .verify r i c, h => by rcases h with h | ⟨_, _, h⟩ <;> simp [coreOp] at h
  | .setVin r l, _ => by
    simp only [Model.Heap.step]
    refine withTx_trx hinv r fun a o vi vo w hp => ?_
    cases hv : l.all validTxIn with
    | false => exact TrX.refl hinv
    | true =>
      cases hm : o.isMut with
      | false => exact TrX.refl hinv
      | true =>
        simp only [Bool.not_true, Bool.false_eq_true, if_false]
        cases hset : setRef (allocPlan s.heap (planIns true l)).1 a 0 (allocPlan s.heap (planIns true l)).2 with
        | none => exact TrX.refl hinv
        | some h2 => exact invx_setTxRef hinv hp hm (goodX_planIns s.heap true l) 0 8 rfl rfl hset
  | .setVout r l, _ => by
    simp only [Model.Heap.step]
    refine withTx_trx hinv r fun a o vi vo w hp => ?_
    cases hm : o.isMut with
    | false => exact TrX.refl hinv
    | true =>
      simp only [Bool.not_true, Bool.false_eq_true, if_false]
      cases hset : setRef (allocPlan s.heap (planOuts true l)).1 a 1 (allocPlan s.heap (planOuts true l)).2 with
      | none => exact TrX.refl hinv
      | some h2 => exact invx_setTxRef hinv hp hm (goodX_planOuts s.heap true l) 1 9 rfl rfl hset
  | .setWit r wl, _ => by
    simp only [Model.Heap.step]
    refine withTx_trx hinv r fun a o vi vo w hp => ?_
    cases hm : o.isMut with
    | false => exact TrX.refl hinv
    | true =>
      simp only [Bool.not_true, Bool.false_eq_true, if_false]
      cases hset : setRef (allocPlan s.heap (planWit wl)).1 a 2 (allocPlan s.heap (planWit wl)).2 with
      | none => exact TrX.refl hinv
      | some h2 => exact invx_setTxRef hinv hp hm (goodX_planWit s.heap wl) 2 4 rfl rfl hset
  | .appendIn r v, _ => by
    simp only [Model.Heap.step]
    refine withTx_trx hinv r fun a o vi vo w hp => ?_
    obtain ⟨ho, hk5, hrefs, k1, k2, k3⟩ := txParts_kinds hinv.typed hp
    cases hlo : s.heap[vi]? with
    | none => exact TrX.refl hinv
    | some lo =>
      simp only []
      cases hm : lo.isMut with
      | false => exact TrX.refl hinv
      | true =>
        simp only [Bool.not_true, Bool.false_eq_true, if_false]
        cases hv : validTxIn v with
        | false => exact TrX.refl hinv
        | true =>
          simp only [Bool.not_true, Bool.false_eq_true, if_false]
          have hkl : lo.sc.kind = 8 := by simpa [kindAt, hlo] using k1
          exact invx_listAppendFresh hinv hlo hm (by rw [hkl]; rfl) (goodX_planTxIn s.heap true v) rfl
  | .replaceIn r i v, _ => by
    simp only [Model.Heap.step]
    refine withTx_trx hinv r fun a o vi vo w hp => ?_
    obtain ⟨ho, hk5, hrefs, k1, k2, k3⟩ := txParts_kinds hinv.typed hp
    cases hv : validTxIn v with
    | false => exact TrX.refl hinv
    | true =>
      simp only [Bool.not_true, Bool.false_eq_true, if_false]
      cases hlo : s.heap[vi]? with
      | none => exact TrX.refl hinv
      | some lo =>
        simp only []
        cases hm : lo.isMut with
        | false => exact TrX.refl hinv
        | true =>
          simp only [Bool.not_true, Bool.false_eq_true, if_false]
          by_cases hi : i < lo.refs.length
          · simp only [hi, if_true]
            have hkl : lo.sc.kind = 8 := by simpa [kindAt, hlo] using k1
            exact invx_listSetFresh hinv hlo hm (by rw [hkl]; rfl) (goodX_planTxIn s.heap true v) rfl i
          · simp only [hi, if_false]; exact TrX.refl hinv
  | .removeIn r i, _ => by
    simp only [Model.Heap.step]
    refine withTx_trx hinv r fun a o vi vo w hp => ?_
    obtain ⟨ho, hk5, hrefs, k1, k2, k3⟩ := txParts_kinds hinv.typed hp
    refine withList_trx hinv vi _ _ fun lo items hlo _ hf => ?_
    have hkl : lo.sc.kind = 8 := by simpa [kindAt, hlo] using k1
    split at hf
    · cases hf; exact typed_listErase (hinv.typed vi lo hlo) (by rw [hkl]; rfl) i
    · cases hf
  | .appendOut r v, _ => by
    simp only [Model.Heap.step]
    refine withTx_trx hinv r fun a o vi vo w hp => ?_
    obtain ⟨ho, hk5, hrefs, k1, k2, k3⟩ := txParts_kinds hinv.typed hp
    cases hlo : s.heap[vo]? with
    | none => exact TrX.refl hinv
    | some lo =>
      simp only []
      cases hm : lo.isMut with
      | false => exact TrX.refl hinv
      | true =>
        simp only [Bool.not_true, Bool.false_eq_true, if_false]
        have hkl : lo.sc.kind = 9 := by simpa [kindAt, hlo] using k2
        exact invx_listAppendFresh hinv hlo hm (by rw [hkl]; rfl) (goodX_planTxOut s.heap true v) rfl
  | .replaceOut r i v, _ => by
    simp only [Model.Heap.step]
    refine withTx_trx hinv r fun a o vi vo w hp => ?_
    obtain ⟨ho, hk5, hrefs, k1, k2, k3⟩ := txParts_kinds hinv.typed hp
    cases hlo : s.heap[vo]? with
    | none => exact TrX.refl hinv
    | some lo =>
      simp only []
      cases hm : lo.isMut with
      | false => exact TrX.refl hinv
      | true =>
        simp only [Bool.not_true, Bool.false_eq_true, if_false]
        by_cases hi : i < lo.refs.length
        · simp only [hi, if_true]
          have hkl : lo.sc.kind = 9 := by simpa [kindAt, hlo] using k2
          exact invx_listSetFresh hinv hlo hm (by rw [hkl]; rfl) (goodX_planTxOut s.heap true v) rfl i
        · simp only [hi, if_false]; exact TrX.refl hinv
  | .removeOut r i, _ => by
    simp only [Model.Heap.step]
    refine withTx_trx hinv r fun a o vi vo w hp => ?_
    obtain ⟨ho, hk5, hrefs, k1, k2, k3⟩ := txParts_kinds hinv.typed hp
    refine withList_trx hinv vo _ _ fun lo items hlo _ hf => ?_
    have hkl : lo.sc.kind = 9 := by simpa [kindAt, hlo] using k2
    split at hf
    · cases hf; exact typed_listErase (hinv.typed vo lo hlo) (by rw [hkl]; rfl) i
    · cases hf

/-! ### the operations with reference arguments -/

theorem invx_allocObj {h : Heap} (hinv : InvX h) (sc : Scalars) (refs : List Addr) (ks : List Nat)
    (hks : mapO (kindAt h) refs = some ks) (hok : refKindsK sc.kind ks) (hnai : sc.alwaysImm = false) :
    TrX h (alloc h { isMut := true, sc := sc, refs := refs }).1 := by
  have hg : GoodX h (.node true sc (refs.map Plan.ref)) := by
    unfold GoodX
    refine ⟨fun hai => (by rw [hnai] at hai; cases hai), fun hm => (by cases hm), ⟨ks, ?_, hok⟩, ?_⟩
    · rw [← hks]
      apply mapO_congr_idx (by simp)
      intro i p c hp hc
      simp only [List.getElem?_map, hc, Option.map_some, Option.some.injEq] at hp
      subst hp; rfl
    · rw [goodXL_iff]
      intro p hp
      obtain ⟨c, hc, rfl⟩ := List.mem_map.mp hp
      obtain ⟨k, _, hk⟩ := mapO_mem' hks hc
      exact getElem?_of_kindAt hk
  have halloc : allocPlan h (.node true sc (refs.map Plan.ref)) = alloc h { isMut := true, sc := sc, refs := refs } := by
    have : ∀ (l : List Addr) (hh : Heap), allocPlans hh (l.map Plan.ref) = (hh, l) := by
      intro l
      induction l with
      | nil => intro hh; rfl
      | cons c l ih => intro hh; simp [allocPlans, allocPlan, ih]
    simp [allocPlan, this, alloc]
  rw [← halloc]
  exact (trx_alloc hinv hg).1

theorem kindAt_eq {h : Heap} {a : Addr} {o : Obj} (ho : h[a]? = some o) : kindAt h a = some o.sc.kind := by
  simp [kindAt, ho]

theorem invx_newOps {s : St} (hinv : InvX s.heap) : ∀ (op : OpX), (∀ b, op ≠ .base b) → TrX s.heap (HeapX.stepX s op).1.heap
  | .base b, h => absurd rfl (h b)
  | .assignRef t slot src, _ => by
    simp only [HeapX.stepX]
    cases ht : s.target t with
    | none => exact TrX.refl hinv
    | some x =>
      cases hs : s.target src with
      | none => exact TrX.refl hinv
      | some y =>
        simp only []
        cases ho : s.heap[x]? with
        | none => exact TrX.refl hinv
        | some o =>
          simp only []
          cases hseq : o.sc.isSeq with
          | true => exact TrX.refl hinv
          | false =>
            simp only [Bool.false_eq_true, if_false]
            cases hcur : o.refs[slot]? with
            | none => exact TrX.refl hinv
            | some cur =>
              simp only []
              by_cases hk : kindAt s.heap cur = kindAt s.heap y
              · simp only [hk, ne_eq, not_true_eq_false, if_false]
                cases hm : o.isMut with
                | false => exact TrX.refl hinv
                | true =>
                  simp only [Bool.not_true, Bool.false_eq_true, if_false]
                  exact trx_write hinv ho hm
                    (o' := { isMut := true, sc := o.sc, refs := o.refs.set slot y, cHash := o.cHash, cPy := o.cPy })
                    rfl rfl (typed_setSlot (hinv.typed x o ho) hcur hk)
              · simp only [ne_eq, hk, not_false_eq_true, if_true]; exact TrX.refl hinv
  | .setPrevout t v, _ => by
    simp only [HeapX.stepX]
    cases ht : s.target t with
    | none => exact TrX.refl hinv
    | some x =>
      simp only []
      by_cases hk : kindAt s.heap x = some 1
      · simp only [hk, ne_eq, not_true_eq_false, if_false]
        cases hv : validOutPoint v with
        | false => exact TrX.refl hinv
        | true =>
          simp only [Bool.not_true, Bool.false_eq_true, if_false]
          cases ho : s.heap[x]? with
          | none => exact TrX.refl hinv
          | some o =>
            simp only []
            cases hm : o.isMut with
            | false => exact TrX.refl hinv
            | true =>
              simp only [Bool.not_true, Bool.false_eq_true, if_false]
              have hko : o.sc.kind = 1 := by rw [kindAt_eq ho] at hk; exact Option.some.inj hk
              obtain ⟨t1, ⟨e, he⟩, hkr⟩ := trx_alloc hinv (goodX_planOutPoint s.heap true v)
              have hi1 := t1.inv
              have ho1 : (allocPlan s.heap (planOutPoint true v)).1[x]? = some o := by
                rw [he]; exact getElem?_append_of_some e ho
              refine t1.trans (trx_write hi1 ho1 hm
                (o' := { isMut := true, sc := o.sc, refs := [(allocPlan s.heap (planOutPoint true v)).2],
                         cHash := o.cHash, cPy := o.cPy }) rfl rfl ?_)
              refine ⟨[0], by simp [mapO, hkr 0 rfl], ?_⟩
              simp only [refKindsOK, hko, refKindsK]
      · simp only [ne_eq, hk, not_false_eq_true, if_true]; exact TrX.refl hinv
  | .appendRef l src, _ => by
    simp only [HeapX.stepX, withListAt_eq]
    cases hl : s.target l with
    | none => exact TrX.refl hinv
    | some x =>
      cases hs : s.target src with
      | none => exact TrX.refl hinv
      | some y =>
        simp only []
        cases hek : (kindAt s.heap x).bind elemKind with
        | none => exact TrX.refl hinv
        | some ek =>
          simp only []
          by_cases hk : kindAt s.heap y = some ek
          · simp only [hk, ne_eq, not_true_eq_false, if_false]
            refine withList_trx hinv x _ _ fun lo items ho _ hf => ?_
            have he : elemKind lo.sc.kind = some ek := by rw [kindAt_eq ho] at hek; exact hek
            cases hf
            exact typed_listAppend (hinv.typed x lo ho) he hk
          · simp only [ne_eq, hk, not_false_eq_true, if_true]; exact TrX.refl hinv
  | .replaceRef l i src, _ => by
    simp only [HeapX.stepX, withListAt_eq]
    cases hl : s.target l with
    | none => exact TrX.refl hinv
    | some x =>
      cases hs : s.target src with
      | none => exact TrX.refl hinv
      | some y =>
        simp only []
        cases hek : (kindAt s.heap x).bind elemKind with
        | none => exact TrX.refl hinv
        | some ek =>
          simp only []
          by_cases hk : kindAt s.heap y = some ek
          · simp only [hk, ne_eq, not_true_eq_false, if_false]
            refine withList_trx hinv x _ _ fun lo items ho _ hf => ?_
            have he : elemKind lo.sc.kind = some ek := by rw [kindAt_eq ho] at hek; exact hek
            split at hf
            · cases hf; exact typed_listSet (hinv.typed x lo ho) he i hk
            · cases hf
          · simp only [ne_eq, hk, not_false_eq_true, if_true]; exact TrX.refl hinv
  | .newTxFrom vin vout lock ver wit, _ => by
    simp only [HeapX.stepX]
    cases hvi : s.target vin with
    | none => exact TrX.refl hinv
    | some avi =>
      cases hvo : s.target vout with
      | none => exact TrX.refl hinv
      | some avo =>
        simp only []
        by_cases hk1 : kindAt s.heap avi = some 8
        · by_cases hk2 : kindAt s.heap avo = some 9
          · simp only [hk1, hk2, ne_eq, not_true_eq_false, decide_false, Bool.or_self, Bool.false_eq_true, if_false]
            cases wit with
            | none =>
              simp only [Option.map_none]
              by_cases hl : lock ≤ 0xffffffff
              · simp only [hl, if_true]
                cases hlo : s.heap[avi]? with
                | none => exact TrX.refl hinv
                | some lo =>
                  simp only [allocDefaultWit]
                  obtain ⟨t1, ⟨e, he⟩, hkr⟩ := trx_alloc hinv (goodX_defaultWit s.heap lo.refs.length)
                  refine t1.trans (invx_allocObj t1.inv (.tx ver lock) _ [8, 9, 4] ?_ rfl rfl)
                  simp only [mapO]
                  rw [he, kindAt_append_some e hk1, kindAt_append_some e hk2, ← he, hkr 4 rfl]
              · simp only [hl, if_false]; exact TrX.refl hinv
            | some tw =>
              simp only [Option.map_some]
              cases hw : s.target tw with
              | none => exact TrX.refl hinv
              | some aw =>
                simp only []
                by_cases hk3 : kindAt s.heap aw = some 4
                · simp only [hk3, ne_eq, not_true_eq_false, if_false]
                  by_cases hl : lock ≤ 0xffffffff
                  · simp only [hl, if_true]
                    exact invx_allocObj hinv (.tx ver lock) _ [8, 9, 4] (by simp [mapO, hk1, hk2, hk3]) rfl rfl
                  · simp only [hl, if_false]; exact TrX.refl hinv
                · simp only [ne_eq, hk3, not_false_eq_true, if_true]; exact TrX.refl hinv
          · simp [hk2]; exact TrX.refl hinv
        · simp [hk1]; exact TrX.refl hinv
  | .newTxDefault v, _ => by
    simp only [HeapX.stepX]
    cases hv : validTx v with
    | false => exact TrX.refl hinv
    | true =>
      simp only [if_true, allocDefaultWit]
      obtain ⟨i1, ⟨e1, he1⟩, k1⟩ := trx_alloc hinv (goodX_planIns s.heap true v.vin)
      obtain ⟨i2, ⟨e2, he2⟩, k2⟩ := trx_alloc i1.inv (goodX_planOuts _ true v.vout)
      obtain ⟨i3, ⟨e3, he3⟩, k3⟩ := trx_alloc i2.inv (goodX_defaultWit _ v.vin.length)
      refine (i1.trans (i2.trans i3)).trans (invx_allocObj i3.inv (.tx v.nVersion v.nLockTime) _ [8, 9, 4] ?_ rfl rfl)
      simp only [mapO]
      rw [he3, he2, kindAt_append_some e3 (kindAt_append_some e2 (k1 8 rfl)), ← he2, kindAt_append_some e3 (k2 9 rfl),
        ← he3, k3 4 rfl]
  | .newTxInFrom prevout script seq, _ => by
    simp only [HeapX.stepX]
    cases prevout with
    | none =>
      simp only [Option.map_none]
      by_cases hq : seq ≤ 0xffffffff
      · simp only [hq, if_true]
        obtain ⟨i1, _, k1⟩ := trx_alloc hinv (goodX_planOutPoint s.heap true ⟨List.replicate 32 0, 0xffffffff⟩)
        exact i1.trans (invx_allocObj i1.inv (.txin script seq) _ [0] (by simp only [mapO, k1 0 rfl]) rfl rfl)
      · simp only [hq, if_false]; exact TrX.refl hinv
    | some tp =>
      simp only [Option.map_some]
      cases hp : s.target tp with
      | none => exact TrX.refl hinv
      | some ap =>
        simp only []
        by_cases hk : kindAt s.heap ap = some 0
        · simp only [hk, ne_eq, not_true_eq_false, if_false]
          by_cases hq : seq ≤ 0xffffffff
          · simp only [hq, if_true]
            exact invx_allocObj hinv (.txin script seq) _ [0] (by simp [mapO, hk]) rfl rfl
          · simp only [hq, if_false]; exact TrX.refl hinv
        · simp only [ne_eq, hk, not_false_eq_true, if_true]; exact TrX.refl hinv
  | .newCTxInFrom prevout script seq, _ => by
    simp only [HeapX.stepX]
    cases prevout with
    | none =>
      simp only [Option.map_none]
      by_cases hq : seq ≤ 0xffffffff
      · simp only [hq, if_true]
        exact (trx_alloc hinv (goodX_planTxIn s.heap false _)).1
      · simp only [hq, if_false]; exact TrX.refl hinv
    | some tp =>
      simp only [Option.map_some]
      cases hp : s.target tp with
      | none => exact TrX.refl hinv
      | some ap =>
        simp only []
        by_cases hk : kindAt s.heap ap = some 0
        · simp only [hk, ne_eq, not_true_eq_false, if_false]
          by_cases hq : seq ≤ 0xffffffff
          · simp only [hq, if_true]
            (repeat' split) <;> first
              | exact TrX.refl hinv
              | (rename_i hpl
                 obtain ⟨g1, g2, g3⟩ := planClone_goodX hinv false hpl
                 refine (trx_alloc hinv ?_).1
                 refine ⟨fun _ => rfl, ?_, ⟨[0], ?_, rfl⟩, g1, trivial⟩
                 · intro _ k hkk; simp only [List.mem_singleton] at hkk; subst hkk; exact g3 rfl
                 · simp only [mapO, g2, hk])
          · simp only [hq, if_false]; exact TrX.refl hinv
        · simp only [ne_eq, hk, not_false_eq_true, if_true]; exact TrX.refl hinv
  | .witListEdit t i st, _ => by
    simp only [HeapX.stepX]; (repeat' split) <;> exact TrX.refl hinv
  | .stackEdit t j b, _ => by
    simp only [HeapX.stepX]; (repeat' split) <;> exact TrX.refl hinv
  | .newHeaderFrom t, _ => by
    simp only [HeapX.stepX]
    (repeat' split) <;> first
      | exact TrX.refl hinv
      | exact invx_base_core hinv (.newHeader _) (Or.inl rfl)
  | .newBlockFrom t txs, _ => by
    simp only [HeapX.stepX]
    (repeat' split) <;> first
      | exact TrX.refl hinv
      | exact invx_base_core hinv (.newBlock _ _) (Or.inr ⟨_, _, rfl⟩)

end BtcVerif.Model.Heap

/-
  Digest lengths of the executable hash functions of Crypto/: 32 bytes for SHA-256 and its double,
  20 bytes for SHA-1, RIPEMD-160 and Hash160 — for every input.  The final step of each
  implementation writes the state words into a byte-array literal (`digestBE8`, `digestBE5`,
  `digestLE5`), so the length does not depend on the compression loops.
-/
import BtcVerif.Crypto.Sha256
import BtcVerif.Crypto.Sha1
import BtcVerif.Crypto.Ripemd160

namespace BtcVerif.Crypto

theorem digestBE8_size (h : Array UInt32) : (digestBE8 h).data.toList.length = 32 := rfl
theorem digestBE5_size (h : Array UInt32) : (digestBE5 h).data.toList.length = 20 := rfl
theorem digestLE5_size (h : Array UInt32) : (digestLE5 h).data.toList.length = 20 := rfl

theorem sha256_length (m : Bytes) : (sha256 m).length = 32 := digestBE8_size _
theorem hash256_length (m : Bytes) : (hash256 m).length = 32 := digestBE8_size _
theorem hash256_four_le (m : Bytes) : 4 ≤ (hash256 m).length := by rw [hash256_length]; decide
theorem sha1_length (m : Bytes) : (sha1 m).length = 20 := digestBE5_size _
theorem ripemd160_length (m : Bytes) : (ripemd160 m).length = 20 := digestLE5_size _
theorem hash160_length (m : Bytes) : (hash160 m).length = 20 := digestLE5_size _

end BtcVerif.Crypto

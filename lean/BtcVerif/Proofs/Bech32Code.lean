/-
  C11 helper lemmas: the algebra of the BIP173 checksum.

  `polymodStep c v = T c ^^^ v` with `T` xor-linear and injective on 30-bit states; the syndrome of an
  error pattern `E` is `run 0 E`; `NZ k n c` says that no pattern of weight `k` and length ≤ `n` fed from
  state `c` ends in zero, and `NZ_succ` reduces weight `k + 1` to weight `k` after the first error.
  A pattern of weight 1 or 2 (and length ≤ 89) has a non-zero syndrome; the only computation for that is
  `orbitCheck` (31·88 applications of `T`, kernel-checked).
-/
import BtcVerif.Model.Bech32
import Mathlib.Logic.Function.Iterate

namespace BtcVerif.Bech32
open BtcVerif.Model.Bech32

/-! ### bit-operation vocabulary → arithmetic -/

theorem shr_eq (a n : Nat) : a >>> n = a / 2 ^ n := Nat.shiftRight_eq_div_pow a n
theorem shl_eq (a n : Nat) : a <<< n = a * 2 ^ n := Nat.shiftLeft_eq a n
theorem and_m25 (a : Nat) : a &&& 0x1ffffff = a % 2 ^ 25 := Nat.and_two_pow_sub_one_eq_mod a 25
theorem and_31 (a : Nat) : a &&& 31 = a % 32 := Nat.and_two_pow_sub_one_eq_mod a 5

theorem mul32_xor (y x : Nat) (hx : x < 32) : (y * 32) ^^^ x = y * 32 + x := by
  apply Nat.eq_of_testBit_eq
  intro i
  have h1 : y * 32 = y <<< 5 := by rw [Nat.shiftLeft_eq]
  have h2 : y * 32 + x = 2 ^ 5 * y + x := by omega
  rw [h2, Nat.testBit_two_pow_mul_add _ (by simpa using hx), Nat.testBit_xor, h1, Nat.testBit_shiftLeft]
  by_cases hi : i < 5
  · have : ¬ (i ≥ 5) := by omega
    simp [hi, this]
  · have hx' : x.testBit i = false := Nat.testBit_lt_two_pow (Nat.lt_of_lt_of_le hx (by
      have : 2 ^ 5 ≤ 2 ^ i := Nat.pow_le_pow_right (by omega) (by omega)
      simpa using this))
    have : i ≥ 5 := by omega
    simp [hi, this, hx']

/-! ### the generator part `G` and the linear map `T` -/

/-- contribution of the generator constants selected by the bits of `top` -/
def G (top : Nat) : Nat := genXor top generator 0 0

/-- multiplication of the state by x modulo g(x) -/
def T (c : Nat) : Nat := ((c % 2 ^ 25) * 32) ^^^ G (c / 2 ^ 25)

theorem genXor_acc (top : Nat) (gs : List Nat) (i chk : Nat) :
    genXor top gs i chk = chk ^^^ genXor top gs i 0 := by
  induction gs generalizing i chk with
  | nil => simp [genXor]
  | cons g gs ih =>
    simp only [genXor]
    rw [ih (i + 1) (chk ^^^ _), ih (i + 1) (0 ^^^ _), Nat.zero_xor, Nat.xor_assoc]

theorem polymodStep_eq (c v : Nat) : polymodStep c v = T c ^^^ v := by
  unfold polymodStep T G
  simp only []
  rw [genXor_acc, shr_eq, shl_eq, and_m25]
  rw [Nat.xor_assoc, Nat.xor_comm v, ← Nat.xor_assoc]

theorem bit_xor_ite (s t i g : Nat) :
    (if ((s ^^^ t) >>> i) &&& 1 = 1 then g else 0)
      = (if (s >>> i) &&& 1 = 1 then g else 0) ^^^ (if (t >>> i) &&& 1 = 1 then g else 0) := by
  simp only [Nat.and_one_is_mod, Nat.shiftRight_xor_distrib]
  have := @Nat.xor_mod_two_eq_one (s >>> i) (t >>> i)
  by_cases h1 : s >>> i % 2 = 1 <;> by_cases h2 : t >>> i % 2 = 1 <;> simp_all

theorem genXor_linear (s t : Nat) (gs : List Nat) (i : Nat) :
    genXor (s ^^^ t) gs i 0 = genXor s gs i 0 ^^^ genXor t gs i 0 := by
  induction gs generalizing i with
  | nil => simp [genXor]
  | cons g gs ih =>
    simp only [genXor, Nat.zero_xor]
    rw [genXor_acc, genXor_acc s, genXor_acc t, ih, bit_xor_ite]
    ac_rfl

theorem G_linear (s t : Nat) : G (s ^^^ t) = G s ^^^ G t := genXor_linear s t _ 0

theorem T_linear (a b : Nat) : T (a ^^^ b) = T a ^^^ T b := by
  unfold T
  rw [Nat.xor_mod_two_pow, Nat.xor_div_two_pow, G_linear]
  have h : ∀ x : Nat, x * 32 = x <<< 5 := fun x => by rw [Nat.shiftLeft_eq]
  rw [h, h, h, Nat.shiftLeft_xor_distrib]
  ac_rfl

theorem G_zero : G 0 = 0 := by decide

theorem T_zero : T 0 = 0 := by decide

theorem G_mod (t : Nat) : G t = G (t % 32) := by
  have h : ∀ i, i < 5 → (t >>> i) &&& 1 = ((t % 32) >>> i) &&& 1 := by
    intro i hi
    simp only [Nat.and_one_is_mod, shr_eq]
    have : i = 0 ∨ i = 1 ∨ i = 2 ∨ i = 3 ∨ i = 4 := by omega
    rcases this with rfl | rfl | rfl | rfl | rfl <;> omega
  unfold G generator Spec.Bech32.generator
  simp only [genXor, h 0 (by omega), h 1 (by omega), h 2 (by omega), h 3 (by omega), h 4 (by omega)]

theorem G_lt_small : ∀ t < 32, G t < 2 ^ 30 := by decide

theorem G_lt (t : Nat) : G t < 2 ^ 30 := by
  rw [G_mod]; exact G_lt_small _ (Nat.mod_lt _ (by omega))

theorem T_lt (c : Nat) : T c < 2 ^ 30 := by
  unfold T
  apply Nat.xor_lt_two_pow _ (G_lt _)
  have : c % 2 ^ 25 < 2 ^ 25 := Nat.mod_lt _ (by omega)
  omega

theorem G_low_inj : ∀ t < 32, G t % 32 = 0 → t = 0 := by decide

theorem T_eq_zero {c : Nat} (hc : c < 2 ^ 30) (h : T c = 0) : c = 0 := by
  unfold T at h
  have h32 : ((c % 2 ^ 25) * 32 ^^^ G (c / 2 ^ 25)) % 2 ^ 5 = 0 := by rw [h]
  rw [Nat.xor_mod_two_pow] at h32
  have hz : (c % 2 ^ 25) * 32 % 2 ^ 5 = 0 := by omega
  rw [hz, Nat.zero_xor] at h32
  have ht : c / 2 ^ 25 = 0 := G_low_inj _ (by omega) (by simpa using h32)
  rw [ht, G_zero, Nat.xor_zero] at h
  omega

theorem xor_eq_zero {a b : Nat} (h : a ^^^ b = 0) : a = b := by
  apply Nat.eq_of_testBit_eq
  intro i
  have := congrArg (fun x => Nat.testBit x i) h
  simp only [Nat.testBit_xor, Nat.zero_testBit] at this
  cases ha : a.testBit i <;> cases hb : b.testBit i <;> simp_all

theorem xor_lt30 {a b : Nat} (ha : a < 2 ^ 30) (hb : b < 2 ^ 30) : a ^^^ b < 2 ^ 30 :=
  Nat.xor_lt_two_pow ha hb

theorem T_injective {a b : Nat} (ha : a < 2 ^ 30) (hb : b < 2 ^ 30) (h : T a = T b) : a = b := by
  apply xor_eq_zero
  apply T_eq_zero (xor_lt30 ha hb)
  rw [T_linear, h, Nat.xor_self]


theorem iter_lt (n : Nat) {c : Nat} (hc : c < 2 ^ 30) : T^[n] c < 2 ^ 30 := by
  cases n with
  | zero => simpa using hc
  | succ n => rw [Function.iterate_succ_apply']; exact T_lt _

theorem iterate_linear {f : Nat → Nat} (hf : ∀ a b, f (a ^^^ b) = f a ^^^ f b) (n a b : Nat) :
    f^[n] (a ^^^ b) = f^[n] a ^^^ f^[n] b := by
  induction n generalizing a b with
  | zero => rfl
  | succ n ih => simp only [Function.iterate_succ_apply, hf, ih]

theorem iter_linear (n a b : Nat) : T^[n] (a ^^^ b) = T^[n] a ^^^ T^[n] b := iterate_linear T_linear n a b

theorem iter_injective (n : Nat) {a b : Nat} (ha : a < 2 ^ 30) (hb : b < 2 ^ 30)
    (h : T^[n] a = T^[n] b) : a = b := by
  induction n generalizing a b with
  | zero => simpa using h
  | succ n ih =>
    rw [Function.iterate_succ_apply, Function.iterate_succ_apply] at h
    exact T_injective ha hb (ih (T_lt _) (T_lt _) h)

theorem iter_zero (n : Nat) : T^[n] 0 = 0 := by
  induction n with
  | zero => rfl
  | succ n ih => rw [Function.iterate_succ_apply, T_zero, ih]

/-! ### running the checksum from a state; linearity in (state, values) -/

/-- the checksum state after feeding `vs` from state `c` -/
def run (c : Nat) (vs : List Nat) : Nat := vs.foldl (fun c v => T c ^^^ v) c

theorem foldl_polymodStep (c : Nat) (vs : List Nat) : vs.foldl polymodStep c = run c vs := by
  unfold run
  congr 1
  funext c v
  exact polymodStep_eq c v

theorem polymod_eq_run (vs : List Nat) : polymod vs = run 1 vs := foldl_polymodStep 1 vs

@[simp] theorem run_nil (c : Nat) : run c [] = c := rfl
@[simp] theorem run_cons (c v : Nat) (vs : List Nat) : run c (v :: vs) = run (T c ^^^ v) vs := rfl

theorem run_append (c : Nat) (a b : List Nat) : run c (a ++ b) = run (run c a) b := by
  simp [run, List.foldl_append]

theorem run_lt {c : Nat} (hc : c < 2 ^ 30) {vs : List Nat} (hv : ∀ v ∈ vs, v < 2 ^ 30) :
    run c vs < 2 ^ 30 := by
  induction vs generalizing c with
  | nil => simpa using hc
  | cons v vs ih =>
    rw [run_cons]
    exact ih (xor_lt30 (T_lt _) (hv v (by simp))) (fun x hx => hv x (by simp [hx]))

/-- pointwise xor of two value lists of the same length -/
def xorList : List Nat → List Nat → List Nat
  | a :: as, b :: bs => (a ^^^ b) :: xorList as bs
  | _, _ => []

theorem run_xor (c d : Nat) (a b : List Nat) (h : a.length = b.length) :
    run (c ^^^ d) (xorList a b) = run c a ^^^ run d b := by
  induction a generalizing b c d with
  | nil =>
    cases b with
    | nil => rfl
    | cons _ _ => simp at h
  | cons x xs ih =>
    cases b with
    | nil => simp at h
    | cons y ys =>
      simp only [xorList, run_cons]
      have : T (c ^^^ d) ^^^ (x ^^^ y) = (T c ^^^ x) ^^^ (T d ^^^ y) := by
        rw [T_linear]
        ac_rfl
      rw [this]
      exact ih _ _ _ (by simpa using h)

/-! ### error patterns -/

/-- number of non-zero entries -/
def weight : List Nat → Nat
  | [] => 0
  | v :: vs => (if v = 0 then 0 else 1) + weight vs

theorem weight_cons_zero (E : List Nat) : weight (0 :: E) = weight E := by simp [weight]
theorem weight_cons_ne {v : Nat} (hv : v ≠ 0) (E : List Nat) : weight (v :: E) = weight E + 1 := by
  simp [weight, hv, Nat.add_comm]

/-- no error pattern of 5-bit values of weight `k` and length at most `n`, fed from state `c`, ends in state zero -/
def NZ (k n c : Nat) : Prop :=
  ∀ E : List Nat, (∀ v ∈ E, v < 32) → weight E = k → E.length ≤ n → run c E ≠ 0

theorem NZ.mono {k n n' c : Nat} (h : NZ k n c) (hn : n' ≤ n) : NZ k n' c :=
  fun E hE hw hl => h E hE hw (Nat.le_trans hl hn)

/-- weight 0: a non-zero state never becomes zero (`T` is injective) -/
theorem NZ_zero {c : Nat} (hc : c < 2 ^ 30) (h0 : c ≠ 0) (n : Nat) : NZ 0 n c := by
  intro E hE hw hl
  clear hE hl
  induction E generalizing c with
  | nil => exact h0
  | cons v E ih =>
    by_cases hv : v = 0
    · subst hv
      rw [run_cons, Nat.xor_zero]
      exact ih (T_lt _) (fun h => h0 (T_eq_zero hc h)) (by rwa [weight_cons_zero] at hw)
    · rw [weight_cons_ne hv] at hw; omega

/-- weight `k + 1`: the pattern is followed to its first error, value `x` at step `m`; the rest has weight `k` -/
theorem NZ_succ {k n c : Nat}
    (h : ∀ m x, 1 ≤ m → m ≤ n → 1 ≤ x → x < 32 → NZ k (n - m) (T^[m] c ^^^ x)) : NZ (k + 1) n c := by
  intro E hE hw hl
  induction E generalizing c n with
  | nil => simp [weight] at hw
  | cons v E ih =>
    have hE' : ∀ x ∈ E, x < 32 := fun x hx => hE x (List.mem_cons_of_mem _ hx)
    have hl' : E.length + 1 ≤ n := by simpa using hl
    rw [run_cons]
    by_cases hv : v = 0
    · subst hv
      rw [Nat.xor_zero]
      rw [weight_cons_zero] at hw
      refine ih (n := n - 1) (fun m x hm1 hm hx1 hx => ?_) hE' hw (by omega)
      have := h (m + 1) x (by omega) (by omega) hx1 hx
      rwa [Function.iterate_succ_apply, show n - (m + 1) = n - 1 - m by omega] at this
    · rw [weight_cons_ne hv] at hw
      exact h 1 v (by omega) (by omega) (by omega) (hE v (by simp)) E hE' (by omega) (by omega)

theorem iter_pos_lt {m : Nat} (hm : 1 ≤ m) (c : Nat) : T^[m] c < 2 ^ 30 := by
  obtain ⟨m, rfl⟩ : ∃ k, m = k + 1 := ⟨m - 1, by omega⟩
  rw [Function.iterate_succ_apply']
  exact T_lt _

theorem NZ_one {n c : Nat} (h : ∀ m, 1 ≤ m → m ≤ n → 32 ≤ T^[m] c) : NZ 1 n c :=
  NZ_succ fun m x hm1 hm _ hx =>
    NZ_zero (xor_lt30 (iter_pos_lt hm1 c) (by omega))
      (fun h0 => by have := xor_eq_zero h0; have := h m hm1 hm; omega) _

/-- from state zero leading zeros change nothing: the pattern starts at its first error -/
theorem NZ_first {k n : Nat} (h : ∀ v, 1 ≤ v → v < 32 → NZ k n v) : NZ (k + 1) (n + 1) 0 :=
  NZ_succ fun m x _ _ hx1 hx => by
    rw [iter_zero, Nat.zero_xor]
    exact (h x hx1 hx).mono (by omega)

/-! ### the kernel-checked orbit fact -/

/-- `p` holds along the orbit `T c, T² c, …, Tⁿ c` (computed incrementally) -/
def orbitAll (p : Nat → Bool) : Nat → Nat → Bool
  | 0, _ => true
  | n + 1, c => p (T c) && orbitAll p n (T c)

theorem orbitAll_spec (p : Nat → Bool) (n c : Nat) (h : orbitAll p n c = true) :
    ∀ m, 1 ≤ m → m ≤ n → p (T^[m] c) = true := by
  induction n generalizing c with
  | zero => intro m h1 h2; omega
  | succ n ih =>
    simp only [orbitAll, Bool.and_eq_true] at h
    intro m h1 h2
    by_cases hm : m = 1
    · subst hm; simpa using h.1
    · have := ih (T c) h.2 (m - 1) (by omega) (by omega)
      rw [← Function.iterate_succ_apply, show (m - 1).succ = m by omega] at this
      exact this

/-- for every non-zero 5-bit value `x` the orbit `Tᵐ x`, `1 ≤ m ≤ 88`, never returns to a 5-bit value -/
def orbitCheck : Bool :=
  (List.range 31).all fun i => orbitAll (fun s => decide (32 ≤ s)) 88 (i + 1)

theorem orbitCheck_true : orbitCheck = true := by decide +kernel

theorem orbit_ge32 (x : Nat) (hx1 : 1 ≤ x) (hx : x < 32) (m : Nat) (hm1 : 1 ≤ m) (hm : m ≤ 88) :
    32 ≤ T^[m] x := by
  have h := orbitCheck_true
  unfold orbitCheck at h
  rw [List.all_eq_true] at h
  have := orbitAll_spec _ _ _ (h (x - 1) (by simp; omega)) m hm1 hm
  rw [show x - 1 + 1 = x by omega] at this
  simpa using this


theorem syndrome_ne_zero_le2 (E : List Nat) (hE : ∀ v ∈ E, v < 32) (hlen : E.length ≤ 89)
    (hw : weight E = 1 ∨ weight E = 2) : run 0 E ≠ 0 := by
  rcases hw with hw | hw
  · exact NZ_first (fun v h1 h => NZ_zero (by omega) (by omega) 88) E hE hw hlen
  · exact NZ_first (fun v h1 h => NZ_one (orbit_ge32 v h1 h)) E hE hw hlen

end BtcVerif.Bech32

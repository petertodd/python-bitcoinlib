/-
  C09: allocation of a clone; simulation of `snapshot` (`CX.from_x`) and `mutCopy` (`CMutableX.from_x`).
-/
import BtcVerif.Proofs.HeapOpsObserve

namespace BtcVerif.Model.Heap
open BtcVerif BtcVerif.Spec.ValueSem

theorem planClone_some {h : Heap} (tm : Bool) {f : Nat} {a : Addr} {t : ATree}
    (hu : unfoldA f h a = some t) : ∃ p, planClone tm f h a = some p := by
  refine unfoldA_induct (P := fun f a _ => ∃ p, planClone tm f h a = some p) ?_ hu
  intro f a o kids ho hk _ ihc
  simp only [planClone, ho]
  split
  · exact ⟨_, rfl⟩
  · obtain ⟨ps, hps⟩ := mapO_some_of_forall (f := planClone tm f h) (l := o.refs) (fun c hc => by
      obtain ⟨tc, _, htc⟩ := mapO_mem' hk hc
      exact ihc c hc tc htc)
    exact ⟨Plan.node tm o.sc ps, by simp [hps]⟩

theorem clone_step {h : Heap} (hic : ImmClosed h) (hk : KindOK h) (tm : Bool) {x : Addr} {tx : ATree}
    (hux : unfoldA D h x = some tx) :
    ∃ p, planClone tm D h x = some p ∧
      ∃ e t', (allocPlan h p).1 = h ++ e ∧
        (∀ o ∈ e, o.cHash = none ∧ o.cPy = none ∧ (o.sc.alwaysImm = true → o.isMut = false)) ∧
        ImmClosed (allocPlan h p).1 ∧
        unfoldA D (allocPlan h p).1 (allocPlan h p).2 = some t' ∧
        decode t' = decode tx ∧ t'.sc = tx.sc ∧ flagsOK (tm && !t'.sc.alwaysImm) t' ∧
        (∀ y, cnt y t' ≤ (if h.length ≤ y then 1 else 0)) := by
  obtain ⟨p, hp⟩ := planClone_some tm hux
  obtain ⟨hfit, hrefs, himm, hall, _⟩ := planClone_ok hk tm hux hp
  have hres := allocPlan_spec h (fun m sc => (sc.alwaysImm = true → m = false)) p D h
    ⟨[], by simp⟩ hfit hall himm
  obtain ⟨e, he, hnew⟩ := hres.ext
  obtain ⟨t', ht', hpt⟩ := hres.tree
  obtain ⟨hd, hsc, hfl⟩ := clone_tree hic hk tm hux hp hpt
  exact ⟨p, hp, e, t', he, hnew, hres.imm hic, ht', hd, hsc, hfl,
    fun y => cnt_le_fresh (PT.cnt_le y hpt hrefs).2⟩

theorem cnt_imm_root {y : Addr} {t : ATree} (h : t.isMut = false) : cnt y t = 0 := by
  cases t with | node a m sc kids => simp only [ATree.isMut] at h; simp [cnt, h]

theorem sim_snapshot {s : St} {sp : Store} (hinv : Inv s) (hrel : Rel s sp) (tg : Target) :
    Sim s sp (.snapshot tg) := by
  simp only [Sim, step, Spec.ValueSem.step]
  cases ht : s.target tg with
  | none =>
    rw [target_none hinv hrel ht]
    exact ⟨inv_skip hinv, rel_skip hrel, rfl⟩
  | some x =>
    obtain ⟨I⟩ := target_some hinv hrel ht
    simp only [I.ho, I.habs, I.hlook]
    have hna : Inv s.skip ∧ Rel s.skip (Spec.ValueSem.bind sp none) ∧ Out.na = Out.na :=
      ⟨inv_skip hinv, rel_skip hrel, rfl⟩
    have hfull : unfoldA D s.heap x = some I.tx := unfoldA_fuel_le (by have := I.hD; omega) I.hux
    -- the branch taken for the six classes that have a `from_*` constructor
    have main :
        let rm : St × Out :=
          if (!I.o.isMut) = true then (s.bind s.heap (some x), Out.created)
          else if validCtor I.vx = true then
            match planClone false D s.heap x with
            | some p => (s.bind (allocPlan s.heap p).1 (some (allocPlan s.heap p).2), Out.created)
            | none => (s.skip, Out.badRef)
          else (s.skip, Out.err Exc.valueerr)
        let rs : Store × Out :=
          if (!I.tx.isMut) = true then (Spec.ValueSem.bind sp (some ⟨false, I.vx⟩), Out.created)
          else if validCtor I.vx = true then (Spec.ValueSem.bind sp (some ⟨false, I.vx⟩), Out.created)
          else (Spec.ValueSem.bind sp none, Out.err Exc.valueerr)
        Inv rm.1 ∧ Rel rm.1 rs.1 ∧ rm.2 = rs.2 := by
      simp only [I.hom]
      cases hm : I.o.isMut with
      | false =>
        simp only [Bool.not_false, if_true]
        have htm : I.tx.isMut = false := by rw [I.hom]; exact hm
        refine ⟨?_, ?_, trivial⟩
        · apply inv_ext hinv (e := []) (by simp) (by simp) (by simpa using hinv.immClosed) (some x)
          intro a ha; cases ha
          refine ⟨I.tx, I.vx, by simpa using hfull, I.hdx, I.hfx, fun y => ?_⟩
          rw [cnt_imm_root htm]; exact Nat.zero_le _
        · apply rel_ext hrel (e := []) (by simp)
          exact ⟨I.tx, by simpa using hfull, I.hdx, htm⟩
      | true =>
        simp only [Bool.not_true, Bool.false_eq_true, if_false]
        cases hv : validCtor I.vx with
        | false => exact ⟨inv_skip hinv, rel_skip hrel, rfl⟩
        | true =>
          simp only [if_true]
          obtain ⟨p, hp, e, t', he, hnew, hic, ht', hd, hsc, hfl, hcnt⟩ := clone_step hinv.immClosed hinv.kindOK false hfull
          simp only [hp]
          have hfl' : flagsOK false t' := by simpa using hfl
          have htm' : t'.isMut = false := flagsOK_isMut hfl'
          refine ⟨?_, ?_, trivial⟩
          · apply inv_ext hinv he hnew hic (some _)
            intro a ha; cases ha
            exact ⟨t', I.vx, ht', by rw [hd]; exact I.hdx, by rw [htm']; exact hfl', hcnt⟩
          · apply rel_ext hrel he
            exact ⟨t', ht', by rw [hd]; exact I.hdx, htm'⟩
    obtain ⟨_, _, _, _, hsc, _⟩ := I.node
    simp only at main
    revert main
    rw [hsc]
    generalize I.vx = vx
    intro main
    cases vx <;> first | exact main | exact hna

theorem sim_mutCopy {s : St} {sp : Store} (hinv : Inv s) (hrel : Rel s sp) (tg : Target) :
    Sim s sp (.mutCopy tg) := by
  simp only [Sim, step, Spec.ValueSem.step]
  cases ht : s.target tg with
  | none =>
    rw [target_none hinv hrel ht]
    exact ⟨inv_skip hinv, rel_skip hrel, rfl⟩
  | some x =>
    obtain ⟨I⟩ := target_some hinv hrel ht
    simp only [I.ho, I.habs, I.hlook]
    have hna : Inv s.skip ∧ Rel s.skip (Spec.ValueSem.bind sp none) ∧ Out.na = Out.na :=
      ⟨inv_skip hinv, rel_skip hrel, rfl⟩
    have hfull : unfoldA D s.heap x = some I.tx := unfoldA_fuel_le (by have := I.hD; omega) I.hux
    have main : I.o.sc.alwaysImm = false →
        let rm : St × Out :=
          if validCtor I.vx = true then
            match planClone true D s.heap x with
            | some p => (s.bind (allocPlan s.heap p).1 (some (allocPlan s.heap p).2), Out.created)
            | none => (s.skip, Out.badRef)
          else (s.skip, Out.err Exc.valueerr)
        let rs : Store × Out :=
          if validCtor I.vx = true then (Spec.ValueSem.bind sp (some ⟨true, I.vx⟩), Out.created)
          else (Spec.ValueSem.bind sp none, Out.err Exc.valueerr)
        Inv rm.1 ∧ Rel rm.1 rs.1 ∧ rm.2 = rs.2 := by
      intro hai
      cases hv : validCtor I.vx with
      | false => exact ⟨inv_skip hinv, rel_skip hrel, rfl⟩
      | true =>
        simp only [if_true]
        obtain ⟨p, hp, e, t', he, hnew, hic, ht', hd, hsc, hfl, hcnt⟩ := clone_step hinv.immClosed hinv.kindOK true hfull
        simp only [hp]
        have hai' : t'.sc.alwaysImm = false := by rw [hsc, I.hosc]; exact hai
        have hfl' : flagsOK true t' := by simpa [hai'] using hfl
        have htm' : t'.isMut = true := flagsOK_isMut hfl'
        refine ⟨?_, ?_, trivial⟩
        · apply inv_ext hinv he hnew hic (some _)
          intro a ha; cases ha
          exact ⟨t', I.vx, ht', by rw [hd]; exact I.hdx, by rw [htm']; exact hfl', hcnt⟩
        · apply rel_ext hrel he
          exact ⟨t', ht', by rw [hd]; exact I.hdx, htm'⟩
    obtain ⟨_, _, _, _, hsc, _⟩ := I.node
    simp only at main
    revert main
    rw [hsc]
    generalize I.vx = vx
    intro main
    cases vx <;> first | exact main rfl | exact hna

end BtcVerif.Model.Heap

/-
  C03.  The scratch transaction RawSignatureHash builds by list surgery is the "signature view"
  `sigTx`; its serialisation is the spec's `legacyTxBytes`; hence `rawSignatureHash =
  Spec.Sighash.legacySighash` (`raw_eq_anyInt`, `raw_eq`).  Also `isWitnessScriptPubKey_eq`.
-/
import BtcVerif.Proofs.SighashScript

namespace BtcVerif.SighashProofs
open BtcVerif Model.Wire Spec.Wire Spec.Sighash Model.Sighash Model.Script Codec

/-! ### the scratch copy and its serialisation -/

/-- `Codec.serTxIn_ok` needs `≤ MAX_SIZE`; the script code is only below 2^64 bytes -/
theorem serTxIn_ok {i : TxIn} (h1 : WFOutPoint i.prevout) (h2 : i.scriptSig.length < 2 ^ 64)
    (h3 : i.nSequence < 2 ^ 32) : serTxIn i = .ok (txIn i) := by
  simp only [serTxIn, serOutPoint_ok h1, serBytes_ok h2, packU_ok (show i.nSequence < 256 ^ 4 by omega),
    bind_ok, pure_ok, txIn]

theorem scratch_ser (tx : Tx) (vin3 : List TxIn) (vout2 : List TxOut)
    (hv1 : -(2 ^ 31 : Int) ≤ tx.nVersion) (hv2 : tx.nVersion < 2 ^ 31) (hl : tx.nLockTime < 2 ^ 32)
    (h3 : vin3.length < 2 ^ 64) (h4 : ∀ x ∈ vin3, serTxIn x = .ok (txIn x))
    (h5 : vout2.length < 2 ^ 64) (h6 : ∀ x ∈ vout2, serTxOut x = .ok (txOut x)) :
    serTx { tx with vin := vin3, vout := vout2, wit := [] }
      = .ok (leBytesInt 4 tx.nVersion ++ vec txIn vin3 ++ vec txOut vout2 ++ leBytes 4 tx.nLockTime) := by
  have hver : packI 4 tx.nVersion = .ok (leBytesInt 4 tx.nVersion) :=
    packI_ok (by simpa using hv1) (by simpa using hv2)
  have hn : witIsNull ([] : List WitStack) = true := rfl
  simp only [serTx, hver, hn, serVector_ok _ h3 h4, serVector_ok _ h5 h6,
    packU_ok (show tx.nLockTime < 256 ^ 4 by omega), bind_ok, pure_ok, Bool.not_true, Bool.and_false,
    List.append_assoc]
  rfl

theorem noSep_length_le (s : Bytes) : (scriptCodeNoSep s).length ≤ s.length := by
  induction s using scriptCodeNoSep.induct with
  | case1 s h => rw [scriptCodeNoSep_eq, h]; exact Nat.le_refl _
  | case2 s op n h ih =>
    rw [scriptCodeNoSep_eq, h]
    have hb := getOp_bounds h
    have h1 : (if op = OP_CODESEPARATOR then ([] : Bytes) else s.take n).length ≤ n := by
      split <;> simp; omega
    simp only [List.length_append, List.length_drop] at ih ⊢
    omega

theorem hashOne_eq : HASH_ONE = hashOne := by decide

theorem fromTx_ok (tx : Tx) (hwf : FieldsWF tx) : fromTx tx = .ok tx := by
  obtain ⟨_, _, _, _, hin, _, hl⟩ := hwf
  unfold fromTx
  have h1 : tx.vin.all fromTxInOk = true := by
    rw [List.all_eq_true]; intro x hx
    obtain ⟨⟨a, b⟩, c⟩ := hin x hx
    simp only [fromTxInOk, a, Bool.and_eq_true, decide_eq_true_eq]
    exact ⟨⟨trivial, by omega⟩, by omega⟩
  have h2 : decide (tx.nLockTime ≤ 0xffffffff) = true := by rw [decide_eq_true_eq]; omega
  rw [h1, h2]; rfl

theorem map_ok {α β} (f : α → β) (a : α) : Except.map f (Except.ok a : Res α) = Except.ok (f a) := rfl
theorem map_err {α β} (f : α → β) (e : Exc) : Except.map f (Except.error e : Res α) = Except.error e := rfl

/-! ### the signature view -/

/-- input `k` as the signature hash serialises it (throughout: `i` the signed index, then `ht`) -/
def sigIn (sc : Bytes) (i ht k : Nat) (x : TxIn) : TxIn :=
  { prevout := x.prevout
    scriptSig := if k = i then scriptCodeNoSep sc else []
    nSequence := if k ≠ i ∧ (isSingle ht = true ∨ isNone ht = true) then 0 else x.nSequence }

/-- output `k`: under SINGLE the outputs before the signed position are blank -/
def sigOut (i ht k : Nat) (o : TxOut) : TxOut := if isSingle ht = true ∧ k ≠ i then blankTxOut else o

/-- the inputs of the view: under ANYONECANPAY only the signed one -/
def sigVin (sc : Bytes) (i ht : Nat) (v : List TxIn) : List TxIn :=
  if isAnyoneCanPay ht then v[i]?.toList.map (sigIn sc i ht i) else v.mapIdx (sigIn sc i ht)

/-- how many outputs the view keeps: none under NONE, `i + 1` under SINGLE, else all `len` -/
def nOut (i ht len : Nat) : Nat := if isNone ht then 0 else if isSingle ht then i + 1 else len

/-- the outputs of the view -/
def sigVout (i ht : Nat) (v : List TxOut) : List TxOut := (v.take (nOut i ht v.length)).mapIdx (sigOut i ht)

/-- the "signature view": the transaction whose legacy wire encoding is the hashed message
    (without the trailing hash type) -/
def sigTx (sc : Bytes) (t : Tx) (i ht : Nat) : Tx :=
  { nVersion := t.nVersion, vin := sigVin sc i ht t.vin, vout := sigVout i ht t.vout, wit := [],
    nLockTime := t.nLockTime }

theorem map_mapIdx {α β γ} (f : Nat → α → β) (g : β → γ) (l : List α) :
    (l.mapIdx f).map g = l.mapIdx (fun i a => g (f i a)) :=
  List.ext_getElem? fun k => by simp [List.getElem?_mapIdx]; rfl

theorem mem_mapIdx_elim {α β} {f : Nat → α → β} {l : List α} {b : β} (h : b ∈ l.mapIdx f) :
    ∃ k a, a ∈ l ∧ b = f k a := by
  obtain ⟨k, hk, rfl⟩ := List.getElem_of_mem h
  rw [List.length_mapIdx] at hk
  exact ⟨k, l[k], List.getElem_mem hk, by simp⟩

theorem mem_sigVin {sc : Bytes} {ht i : Nat} {v : List TxIn} {x : TxIn} (h : x ∈ sigVin sc i ht v) :
    ∃ k a, a ∈ v ∧ x = sigIn sc i ht k a := by
  unfold sigVin at h
  split at h
  · cases hv : v[i]? with
    | none => simp [hv] at h
    | some a =>
      simp only [hv, Option.toList_some, List.map_cons, List.map_nil, List.mem_singleton] at h
      exact ⟨i, a, List.mem_of_getElem? hv, h⟩
  · exact mem_mapIdx_elim h

theorem length_sigVin_le (sc : Bytes) (i ht : Nat) (v : List TxIn) : (sigVin sc i ht v).length ≤ max v.length 1 := by
  unfold sigVin
  split
  · cases v[i]? <;> simp <;> omega
  · simp; omega

theorem mem_sigVout {ht i : Nat} {v : List TxOut} {o : TxOut} (h : o ∈ sigVout i ht v) : o = blankTxOut ∨ o ∈ v := by
  obtain ⟨k, a, ha, rfl⟩ := mem_mapIdx_elim h
  unfold sigOut
  split
  · exact Or.inl rfl
  · exact Or.inr (List.mem_of_mem_take ha)

theorem length_sigVout_le (i ht : Nat) (v : List TxOut) : (sigVout i ht v).length ≤ v.length := by
  unfold sigVout
  rw [List.length_mapIdx, List.length_take]
  omega

theorem length_sigVout {ht i : Nat} {v : List TxOut} (hr : isSingle ht = true → i < v.length) :
    (sigVout i ht v).length = nOut i ht v.length := by
  unfold sigVout nOut
  rw [List.length_mapIdx, List.length_take]
  split
  · omega
  · split
    · rename_i hs; have := hr hs; omega
    · omega

theorem sigVout_none {ht i : Nat} (v : List TxOut) (h : isNone ht = true) : sigVout i ht v = [] := by
  simp [sigVout, nOut, h]

theorem sigVout_all {ht i : Nat} (v : List TxOut) (hn : isNone ht = false) (hs : isSingle ht = false) :
    sigVout i ht v = v := by
  unfold sigVout nOut
  rw [hn, hs, if_neg (by simp), if_neg (by simp), List.take_length, List.mapIdx_eq_iff]
  intro k; cases v[k]? <;> simp [sigOut, hs]

theorem sigVout_single {ht i : Nat} {v : List TxOut} {o : TxOut} (hs : isSingle ht = true) (ho : v[i]? = some o) :
    sigVout i ht v = List.replicate i blankTxOut ++ [o] := by
  have hlt : i < v.length := (List.getElem?_eq_some_iff.1 ho).1
  have hn : isNone ht = false := by
    cases hn : isNone ht
    · rfl
    · exact absurd ⟨hn, hs⟩ (not_none_and_single ht)
  unfold sigVout nOut
  rw [hn, hs, if_neg (by simp), if_pos rfl]
  apply List.ext_getElem?
  intro k
  rw [List.getElem?_mapIdx, List.getElem?_take, List.getElem?_append, List.getElem?_replicate, List.length_replicate]
  by_cases hk : k < i
  · rw [if_pos (by omega), if_pos hk, if_pos hk, List.getElem?_eq_getElem (by omega : k < v.length)]
    simp [sigOut, hs, Nat.ne_of_lt hk]
  · by_cases hki : k = i
    · subst hki; simp [ho, sigOut]
    · rw [if_neg (by omega), if_neg hk, List.getElem?_eq_none (by simp; omega)]; rfl

/-! ### the hashed message is the wire encoding of the view -/

theorem txIn_sigIn (sc : Bytes) (i ht k : Nat) (x : TxIn) : txIn (sigIn sc i ht k x) = legacyInput sc i ht k x := by
  unfold txIn sigIn legacyInput
  by_cases hk : k = i
  · simp [hk]
  · by_cases hm : isSingle ht = true ∨ isNone ht = true <;> simp [hk, hm, varBytes]

theorem txOut_sigOut (i ht k : Nat) (o : TxOut) : txOut (sigOut i ht k o) = legacyOutput i ht k o := by
  unfold sigOut legacyOutput blankTxOut
  split <;> rfl

theorem map_txIn_sigVin (sc : Bytes) (i ht : Nat) (v : List TxIn) :
    (sigVin sc i ht v).map txIn =
      if isAnyoneCanPay ht then v[i]?.toList.map (legacyInput sc i ht i) else v.mapIdx (legacyInput sc i ht) := by
  unfold sigVin
  split
  · rw [List.map_map]; congr 1; funext x; exact txIn_sigIn sc i ht i x
  · rw [map_mapIdx]; congr 1; funext k x; exact txIn_sigIn sc i ht k x

theorem legacyTxBytes_eq_txLegacy (sc : Bytes) (t : Tx) (i ht : Nat) (hr : isSingle ht = true → i < t.vout.length) :
    legacyTxBytes sc t i ht = txLegacy (sigTx sc t i ht) := by
  have hin := map_txIn_sigVin sc i ht t.vin
  have hl := congrArg List.length hin
  rw [List.length_map] at hl
  have hout : (sigVout i ht t.vout).map txOut =
      (t.vout.take (nOut i ht t.vout.length)).mapIdx (legacyOutput i ht) := by
    unfold sigVout; rw [map_mapIdx]; congr 1; funext k o; exact txOut_sigOut i ht k o
  unfold legacyTxBytes txLegacy vec sigTx
  simp only [hin, hl, hout, length_sigVout hr, nOut, List.append_assoc]

/-! ### the list surgery of RawSignatureHash builds the view -/

theorem scratch_vin (sc : Bytes) (ht : Nat) {vin : List TxIn} {i : Nat} {inp : TxIn} (h : vin[i]? = some inp) :
    (fun vin1 => if isSingle ht = true ∨ isNone ht = true then zeroOtherSeq vin1 i else vin1)
        ((vin.map fun x => { x with scriptSig := [] }).set i
          { ({ inp with scriptSig := [] } : TxIn) with scriptSig := scriptCodeNoSep sc })
      = vin.mapIdx (sigIn sc i ht) := by
  obtain ⟨hlt, hinp⟩ := List.getElem?_eq_some_iff.1 h
  have h1 : ∀ k, ((vin.map fun x => { x with scriptSig := [] }).set i
        { ({ inp with scriptSig := [] } : TxIn) with scriptSig := scriptCodeNoSep sc })[k]? =
      vin[k]?.map fun x : TxIn => { x with scriptSig := if k = i then scriptCodeNoSep sc else [] } := by
    intro k
    rw [List.getElem?_set, List.getElem?_map, List.length_map]
    by_cases hk : i = k
    · subst hk; simp [hlt, ← hinp]
    · have hk' : ¬ k = i := fun hh => hk hh.symm
      cases vin[k]? <;> simp [hk, hk']
  apply List.ext_getElem?
  intro k
  rw [List.getElem?_mapIdx]
  by_cases hm : isSingle ht = true ∨ isNone ht = true
  · simp only [if_pos hm, zeroOtherSeq, List.getElem?_mapIdx, h1]
    cases vin[k]? with
    | none => rfl
    | some x => by_cases hk : k = i <;> simp [sigIn, hk, hm]
  · simp only [if_neg hm, h1]
    cases vin[k]? with
    | none => rfl
    | some x => simp [sigIn, hm]

theorem pruneOutputs_eq (vin1 : List TxIn) (vout : List TxOut) (i ht : Nat) {h : Int} (hr : HtRel h ht) :
    pruneOutputs vin1 vout i h =
      if isSingle ht = true ∧ vout.length ≤ i then none
      else some (if isSingle ht = true ∨ isNone ht = true then zeroOtherSeq vin1 i else vin1, sigVout i ht vout) := by
  unfold pruneOutputs
  by_cases h2 : isNone ht = true
  · have h3 : ¬ isSingle ht = true := fun h3 => not_none_and_single ht ⟨h2, h3⟩
    rw [if_pos ((ht_none_iff hr).2 h2), if_neg (fun hh => h3 hh.1), if_pos (Or.inr h2), sigVout_none _ h2]
  · rw [if_neg (mt (ht_none_iff hr).1 h2)]
    by_cases h3 : isSingle ht = true
    · rw [if_pos ((ht_single_iff hr).2 h3)]
      cases hvo : vout[i]? with
      | none => rw [if_pos ⟨h3, List.getElem?_eq_none_iff.1 hvo⟩]
      | some o =>
        have hlt : i < vout.length := (List.getElem?_eq_some_iff.1 hvo).1
        rw [if_neg (fun hh => absurd hh.2 (by omega)), if_pos (Or.inl h3), sigVout_single h3 hvo]
    · rw [if_neg (mt (ht_single_iff hr).1 h3), if_neg (fun hh => h3 hh.1), if_neg (fun hh => hh.elim h3 h2),
        sigVout_all _ (by simpa using h2) (by simpa using h3)]

theorem pruneInputs_eq (sc : Bytes) {vin : List TxIn} {i ht : Nat} {inp : TxIn} {h : Int} (hr : HtRel h ht)
    (hi : vin[i]? = some inp) : pruneInputs (vin.mapIdx (sigIn sc i ht)) i h = .ok (sigVin sc i ht vin) := by
  unfold pruneInputs sigVin
  by_cases ha : isAnyoneCanPay ht = true
  · rw [if_pos ((ht_acp_iff hr).2 ha), if_pos ha]
    simp only [pyGetNat, List.getElem?_mapIdx, hi, Option.map_some, bind_ok, pure_ok, Option.toList_some,
      List.map_cons, List.map_nil]
  · rw [if_neg (mt (ht_acp_iff hr).1 ha), if_neg ha, pure_ok]

theorem serTx_sigTx (sc : Bytes) (tx : Tx) (i ht : Nat) (hwf : FieldsWF tx) (hsc : sc.length < 2 ^ 64)
    (hr : isSingle ht = true → i < tx.vout.length) :
    serTx (sigTx sc tx i ht) = .ok (legacyTxBytes sc tx i ht) := by
  obtain ⟨hv1, hv2, hvl, hol, hin, hout, hlock⟩ := hwf
  have hc : (scriptCodeNoSep sc).length < 2 ^ 64 := by have := noSep_length_le sc; omega
  rw [legacyTxBytes_eq_txLegacy sc tx i ht hr]
  refine scratch_ser tx _ _ hv1 hv2 hlock (by have := length_sigVin_le sc i ht tx.vin; omega) (fun x hx => ?_)
    (by have := length_sigVout_le i ht tx.vout; omega)
    (fun o ho => ?_)
  · obtain ⟨k, a, ha, rfl⟩ := mem_sigVin hx
    refine serTxIn_ok (hin a ha).1 ?_ ?_ <;> simp only [sigIn] <;> split
    · exact hc
    · simp
    · omega
    · exact (hin a ha).2
  · rcases mem_sigVout ho with rfl | hm
    · exact serTxOut_ok (by decide) (by decide) (by decide)
    · exact serTxOut_ok (hout o hm).1 (hout o hm).2.1 (hout o hm).2.2

theorem legacySighash_err (sc : Bytes) (t : Tx) (i ht : Nat) :
    ((legacySighash sc t i ht).2 = true ↔ (i ≥ t.vin.length ∨ (ht % 32 = 3 ∧ i ≥ t.vout.length))) ∧
    ((legacySighash sc t i ht).2 = true → (legacySighash sc t i ht).1 = hashOne) := by
  have hs : isSingle ht = true ↔ ht % 32 = 3 := by unfold isSingle SIGHASH_SINGLE; exact decide_eq_true_iff
  unfold legacySighash
  by_cases h1 : i ≥ t.vin.length
  · simp [h1]
  · by_cases h2 : isSingle ht = true ∧ i ≥ t.vout.length
    · simp [h1, h2, hs.1 h2.1]
    · rw [if_neg h1, if_neg h2, ← hs]
      simp [h1, h2]

/-! ### RawSignatureHash = the spec -/

/-- for ANY Python int `h` whose mode bits are those of `ht`: the range error of
    `struct.pack('<i', h)` is the only exception that can escape -/
theorem raw_eq_anyInt (sc : Bytes) (tx : Tx) (i ht : Nat) (hp : parses sc) (hsc : sc.length < 2 ^ 64)
    (hwf : FieldsWF tx) {h : Int} (hr : HtRel h ht) :
    rawSignatureHash sc tx i h =
      if i ≥ tx.vin.length then .ok (hashOne, true)
      else if isSingle ht = true ∧ i ≥ tx.vout.length then .ok (hashOne, true)
      else (packI 4 h).map (fun hb => (Crypto.hash256 (legacyTxBytes sc tx i ht ++ hb), false)) := by
  unfold rawSignatureHash
  by_cases hi : i ≥ tx.vin.length
  · rw [if_pos hi, if_pos hi, hashOne_eq]
  · rw [if_neg hi, if_neg hi]
    have hinp : tx.vin[i]? = some tx.vin[i] := List.getElem?_eq_getElem (by omega)
    have hsigned : pyGetNat (tx.vin.map (fun x => { x with scriptSig := [] })) i
        = .ok { tx.vin[i] with scriptSig := [] } := by
      simp only [pyGetNat, List.getElem?_map, hinp, Option.map_some]
    simp only [fromTx_ok tx hwf, findAndDelete_parses hp, hsigned, bind_ok, pruneOutputs_eq _ _ _ _ hr]
    by_cases hs : isSingle ht = true ∧ i ≥ tx.vout.length
    · rw [if_pos hs, if_pos hs, hashOne_eq]; rfl
    · rw [if_neg hs, if_neg hs]
      have hser := serTx_sigTx sc tx i ht hwf hsc fun h3 => Nat.lt_of_not_ge fun hge => hs ⟨h3, hge⟩
      simp only [scratch_vin sc ht hinp, pruneInputs_eq sc hr hinp, bind_ok]
      rw [show ({ tx with vin := sigVin sc i ht tx.vin, vout := sigVout i ht tx.vout, wit := [] } : Tx)
        = sigTx sc tx i ht from rfl, hser]
      cases packI 4 h <;> rfl

theorem raw_eq (sc : Bytes) (tx : Tx) (i ht : Nat) (hp : parses sc) (hsc : sc.length < 2 ^ 64)
    (hwf : FieldsWF tx) {h : Int} (hr : HtRel h ht) (hpk : packI 4 h = .ok (leBytes 4 ht)) :
    rawSignatureHash sc tx i h = .ok (legacySighash sc tx i ht) := by
  rw [raw_eq_anyInt sc tx i ht hp hsc hwf hr, hpk]
  unfold legacySighash legacyPreimage
  split
  · rfl
  · split <;> rfl

/-! ### `CScript.is_witness_scriptpubkey` -/

theorem leInt_byte (b : UInt8) : leInt [b] = if b.toNat < 128 then (b.toNat : Int) else (b.toNat : Int) - 256 := by
  simp only [leInt, leNat1, List.length_singleton]
  split <;> split <;> first | rfl | omega | (simp; omega)

theorem isWitnessScriptPubKey_eq (s : Bytes) : isWitnessScriptPubKey s = .ok (isWitnessProgram s) := by
  unfold isWitnessScriptPubKey isWitnessProgram
  rcases s with _ | ⟨b0, _ | ⟨b1, rest⟩⟩
  · simp
  · simp
  · have h0 := b0.toNat_lt
    have h1 := b1.toNat_lt
    simp only [List.length_cons]
    split
    · rename_i hsz
      congr 1
      simp only [Bool.false_eq, decide_eq_false_iff_not]
      omega
    · rename_i hsz
      simp only [leInt_byte]
      have hop : cscriptOpValue (if b0.toNat < 128 then (b0.toNat : Int) else (b0.toNat : Int) - 256) = .ok (b0.toNat : Int) := by
        unfold cscriptOpValue
        split
        · rw [if_pos (by omega)]
        · rw [if_neg (by omega), if_pos (by omega)]; congr 1; omega
      simp only [hop, bind_ok, pure_ok]
      split
      · rename_i hv
        congr 1
        simp only [Bool.false_eq, decide_eq_false_iff_not]
        omega
      · rename_i hv
        by_cases hb1 : b1.toNat < 128
        · rw [if_pos hb1]
          split
          · rename_i hl
            congr 1
            simp only [Bool.false_eq, decide_eq_false_iff_not]
            omega
          · rename_i hl
            congr 1
            simp only [Bool.true_eq, decide_eq_true_eq]
            omega
        · rw [if_neg hb1]
          split
          · rename_i hl
            congr 1
            simp only [Bool.false_eq, decide_eq_false_iff_not]
            omega
          · rename_i hl
            congr 1
            simp only [Bool.true_eq, decide_eq_true_eq]
            omega

end BtcVerif.SighashProofs

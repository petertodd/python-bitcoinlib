/-
  C07 — invariants of the interpreter model, opcode arm by opcode arm: `Pre B st` holds at the head
  of the `for` loop; `Good c B r` is what one arm may produce from such a state (a state or a
  captured error state within the slightly larger `Lim`; a foreign exception only when
  `RawSignatureHash` raised it: `Ctx.Raises`, known finding D7).
-/
import BtcVerif.Proofs.ScriptEvalBasic

namespace BtcVerif.Model.ScriptEval
open BtcVerif BtcVerif.Spec BtcVerif.Spec.Script BtcVerif.Model.Script

def ElemsLe (B : Nat) (l : List Bytes) : Prop := ∀ x ∈ l, x.length ≤ B

/-- limits of a captured / intermediate state: an arm adds at most 3 items before the 1000-item
    check at the end of the iteration (OP_3DUP, OP_2OVER), and `_CheckMultiSig` adds at most 20 keys
    to the 201 counted operations before its own check -/
def Lim (B : Nat) (s a : List Bytes) (n : Nat) : Prop :=
  s.length + a.length ≤ 1003 ∧ n ≤ 221 ∧ ElemsLe B s ∧ ElemsLe B a

/-- limits at the head of the loop -/
def Pre (B : Nat) (st : St) : Prop :=
  st.stack.length + st.alt.length ≤ 1000 ∧ st.nOpCount ≤ 201 ∧ ElemsLe B st.stack ∧ ElemsLe B st.alt

/-- `RawSignatureHash` lets an exception of class `cls` through for some script code of at most
    10 000 bytes (longer ones never reach it: `_EvalScript` refuses the script) and some hash type byte -/
def Ctx.Raises (c : Ctx) (cls : String) : Prop :=
  ∃ script ht x, script.length ≤ MAX_SCRIPT_SIZE ∧ ht < 256 ∧
    c.sigHash script ht = .error x ∧ x ≠ .invalidscript ∧ cls = excClass x

def Good (c : Ctx) (B : Nat) : M St → Prop
  | .ok st' => Lim B st'.stack st'.alt st'.nOpCount ∧ st'.nOpCount ≤ 201
  | .error (.eval cap) => Lim B cap.stack cap.altstack cap.nOpCount
  | .error (.invalid cap) => Lim B cap.stack cap.altstack cap.nOpCount
  | .error .verify => False
  | .error (.py cls) => c.Raises cls

/-- `OPCODE_NAMES[sop]` hits -/
abbrev Named (sop : Nat) : Prop := (opcodeName? sop).isSome = true

/-- the three hash primitives return short strings (20 / 32 bytes for the real ones) -/
def HashesOK (h : Hashes) : Prop :=
  ∀ x, (h.sha1 x).length ≤ 520 ∧ (h.ripemd160 x).length ≤ 520 ∧ (h.sha256 x).length ≤ 520

theorem Pre.lim {B : Nat} {st : St} (h : Pre B st) : Lim B st.stack st.alt st.nOpCount := by
  obtain ⟨h1, h2, h3, h4⟩ := h
  exact ⟨by omega, by omega, h3, h4⟩

theorem good_raise {c : Ctx} {B : Nat} {st : St} (h : Pre B st) : Good c B (raise st) := h.lim

theorem good_namedErr {c : Ctx} {B : Nat} {st : St} {sop : Nat} (hn : Named sop) (h : Pre B st) :
    Good c B (.error (namedErr sop st)) := by
  obtain ⟨nm, hnm⟩ := Option.isSome_iff_exists.mp hn
  simp only [namedErr, hnm]; exact h.lim

theorem good_raiseNamed {c : Ctx} {B : Nat} {st : St} {sop : Nat} (hn : Named sop) (h : Pre B st) :
    Good c B (raiseNamed sop st) := by
  rw [raiseNamed_eq]; exact good_namedErr hn h

theorem good_ok {c : Ctx} {B : Nat} {s al : List Bytes} {vf vf' : List Bool} {pb pb' n : Nat}
    (h : Pre B ⟨s, al, vf, pb, n⟩) : Good c B (.ok ⟨s, al, vf', pb', n⟩) := ⟨h.lim, h.2.1⟩

theorem good_stack {c : Ctx} {B : Nat} {s al : List Bytes} {vf vf' : List Bool} {pb pb' n : Nat}
    (h : Pre B ⟨s, al, vf, pb, n⟩) (pre : List Bytes) (k : Nat) (hpre : ElemsLe B pre)
    (hlen : pre.length ≤ k + 3) (hk : k ≤ s.length) :
    Good c B (.ok ⟨pre ++ s.drop k, al, vf', pb', n⟩) := by
  obtain ⟨p1, p2, p3, p4⟩ := h
  refine ⟨⟨?_, by dsimp only at p2 ⊢; omega, ?_, p4⟩, p2⟩
  · simp only [List.length_append, List.length_drop] at p1 ⊢; omega
  · intro x hx
    rcases List.mem_append.mp hx with hx | hx
    · exact hpre x hx
    · exact p3 x (List.mem_of_mem_drop hx)

/-- an arm that rearranges the top `k` items: the new stack consists of the items at the positions
    `idxs` (from the top, all below `k`) followed by the old stack without its top `k` items -/
theorem good_pick {c : Ctx} {B : Nat} {s al : List Bytes} {vf vf' : List Bool} {pb pb' n : Nat}
    (h : Pre B ⟨s, al, vf, pb, n⟩) (idxs : List Nat) (k : Nat) (hi : ∀ i ∈ idxs, i < k) (hk : k ≤ s.length)
    (hlen : idxs.length ≤ k + 3) :
    Good c B (.ok ⟨idxs.map (fun i => s.getD i []) ++ s.drop k, al, vf', pb', n⟩) := by
  refine good_stack h _ k ?_ (by rw [List.length_map]; exact hlen) hk
  intro x hx
  obtain ⟨i, hi', rfl⟩ := List.mem_map.mp hx
  have : i < s.length := Nat.lt_of_lt_of_le (hi i hi') hk
  rw [List.getD_eq_getElem?_getD, List.getElem?_eq_getElem this, Option.getD_some]
  exact h.2.2.1 _ (List.getElem_mem this)

theorem elemsLe_flag {B : Nat} (hB : 520 ≤ B) (p : Prop) [Decidable p] :
    ElemsLe B [if p then [1] else []] := by
  intro x hx
  rw [List.mem_singleton.mp hx]
  split <;> simp only [List.length_cons, List.length_nil] <;> omega

@[simp] theorem len_lt_1 (n : Nat) : (n + 1 < 1) = False := by simp
@[simp] theorem len_lt_2 (n : Nat) : (n + 1 + 1 < 2) = False := by simp

section arms
variable {c : Ctx} {B : Nat} {st : St} {sop : Nat}

theorem op2Drop_good (h : Pre B st) (hn : Named sop) : Good c B (op2Drop sop st) := by
  rw [op2Drop, checkArgs, raiseNamed_eq]
  obtain ⟨s, al, vf, pb, n⟩ := st
  rcases s with _ | ⟨a, _ | ⟨b, rest⟩⟩
  · exact good_namedErr hn h
  · exact good_namedErr hn h
  · exact good_pick h [] 2 (by decide) (Nat.le_add_left 2 _) (by decide)

theorem op2Dup_good (h : Pre B st) (hn : Named sop) : Good c B (op2Dup sop st) := by
  rw [op2Dup, checkArgs, raiseNamed_eq]
  obtain ⟨s, al, vf, pb, n⟩ := st
  rcases s with _ | ⟨a, _ | ⟨b, rest⟩⟩
  · exact good_namedErr hn h
  · exact good_namedErr hn h
  · exact good_pick h [0, 1, 0, 1] 2 (by decide) (Nat.le_add_left 2 _) (by decide)

theorem op2Over_good (h : Pre B st) (hn : Named sop) : Good c B (op2Over sop st) := by
  rw [op2Over, checkArgs, raiseNamed_eq]
  obtain ⟨s, al, vf, pb, n⟩ := st
  rcases s with _ | ⟨a, _ | ⟨b, _ | ⟨c', _ | ⟨d, rest⟩⟩⟩⟩
  · exact good_namedErr hn h
  · exact good_namedErr hn h
  · exact good_namedErr hn h
  · exact good_namedErr hn h
  · exact good_pick h [2, 3, 0, 1, 2, 3] 4 (by decide) (Nat.le_add_left 4 _) (by decide)

theorem op2Rot_good (h : Pre B st) (hn : Named sop) : Good c B (op2Rot sop st) := by
  rw [op2Rot, checkArgs, raiseNamed_eq]
  obtain ⟨s, al, vf, pb, n⟩ := st
  rcases s with _ | ⟨a, _ | ⟨b, _ | ⟨c', _ | ⟨d, _ | ⟨e, _ | ⟨f, rest⟩⟩⟩⟩⟩⟩
  · exact good_namedErr hn h
  · exact good_namedErr hn h
  · exact good_namedErr hn h
  · exact good_namedErr hn h
  · exact good_namedErr hn h
  · exact good_namedErr hn h
  · exact good_pick h [4, 5, 0, 1, 2, 3] 6 (by decide) (Nat.le_add_left 6 _) (by decide)

theorem op2Swap_good (h : Pre B st) (hn : Named sop) : Good c B (op2Swap sop st) := by
  rw [op2Swap, checkArgs, raiseNamed_eq]
  obtain ⟨s, al, vf, pb, n⟩ := st
  rcases s with _ | ⟨a, _ | ⟨b, _ | ⟨c', _ | ⟨d, rest⟩⟩⟩⟩
  · exact good_namedErr hn h
  · exact good_namedErr hn h
  · exact good_namedErr hn h
  · exact good_namedErr hn h
  · exact good_pick h [2, 3, 0, 1] 4 (by decide) (Nat.le_add_left 4 _) (by decide)

theorem op3Dup_good (h : Pre B st) (hn : Named sop) : Good c B (op3Dup sop st) := by
  rw [op3Dup, checkArgs, raiseNamed_eq]
  obtain ⟨s, al, vf, pb, n⟩ := st
  rcases s with _ | ⟨a, _ | ⟨b, _ | ⟨c', rest⟩⟩⟩
  · exact good_namedErr hn h
  · exact good_namedErr hn h
  · exact good_namedErr hn h
  · exact good_pick h [0, 1, 2, 0, 1, 2] 3 (by decide) (Nat.le_add_left 3 _) (by decide)

theorem opDrop_good (h : Pre B st) (hn : Named sop) : Good c B (opDrop sop st) := by
  rw [opDrop, checkArgs, raiseNamed_eq]
  obtain ⟨s, al, vf, pb, n⟩ := st
  rcases s with _ | ⟨a, rest⟩
  · exact good_namedErr hn h
  · exact good_pick h [] 1 (by decide) (Nat.le_add_left 1 _) (by decide)

theorem opDup_good (h : Pre B st) (hn : Named sop) : Good c B (opDup sop st) := by
  rw [opDup, checkArgs, raiseNamed_eq]
  obtain ⟨s, al, vf, pb, n⟩ := st
  rcases s with _ | ⟨a, rest⟩
  · exact good_namedErr hn h
  · exact good_pick h [0, 0] 1 (by decide) (Nat.le_add_left 1 _) (by decide)

theorem opNip_good (h : Pre B st) (hn : Named sop) : Good c B (opNip sop st) := by
  rw [opNip, checkArgs, raiseNamed_eq]
  obtain ⟨s, al, vf, pb, n⟩ := st
  rcases s with _ | ⟨a, _ | ⟨b, rest⟩⟩
  · exact good_namedErr hn h
  · exact good_namedErr hn h
  · exact good_pick h [0] 2 (by decide) (Nat.le_add_left 2 _) (by decide)

theorem opOver_good (h : Pre B st) (hn : Named sop) : Good c B (opOver sop st) := by
  rw [opOver, checkArgs, raiseNamed_eq]
  obtain ⟨s, al, vf, pb, n⟩ := st
  rcases s with _ | ⟨a, _ | ⟨b, rest⟩⟩
  · exact good_namedErr hn h
  · exact good_namedErr hn h
  · exact good_pick h [1, 0, 1] 2 (by decide) (Nat.le_add_left 2 _) (by decide)

theorem opRot_good (h : Pre B st) (hn : Named sop) : Good c B (opRot sop st) := by
  rw [opRot, checkArgs, raiseNamed_eq]
  obtain ⟨s, al, vf, pb, n⟩ := st
  rcases s with _ | ⟨a, _ | ⟨b, _ | ⟨c', rest⟩⟩⟩
  · exact good_namedErr hn h
  · exact good_namedErr hn h
  · exact good_namedErr hn h
  · exact good_pick h [2, 0, 1] 3 (by decide) (Nat.le_add_left 3 _) (by decide)

theorem opSwap_good (h : Pre B st) (hn : Named sop) : Good c B (opSwap sop st) := by
  rw [opSwap, checkArgs, raiseNamed_eq]
  obtain ⟨s, al, vf, pb, n⟩ := st
  rcases s with _ | ⟨a, _ | ⟨b, rest⟩⟩
  · exact good_namedErr hn h
  · exact good_namedErr hn h
  · exact good_pick h [1, 0] 2 (by decide) (Nat.le_add_left 2 _) (by decide)

theorem opTuck_good (h : Pre B st) (hn : Named sop) : Good c B (opTuck sop st) := by
  rw [opTuck, checkArgs, raiseNamed_eq]
  obtain ⟨s, al, vf, pb, n⟩ := st
  rcases s with _ | ⟨a, _ | ⟨b, rest⟩⟩
  · exact good_namedErr hn h
  · exact good_namedErr hn h
  · exact good_pick h [0, 1, 0] 2 (by decide) (Nat.le_add_left 2 _) (by decide)

theorem opToAltStack_good (h : Pre B st) (hn : Named sop) : Good c B (opToAltStack sop st) := by
  rw [opToAltStack, checkArgs, raiseNamed_eq]
  obtain ⟨s, al, vf, pb, n⟩ := st
  rcases s with _ | ⟨a, rest⟩
  · exact good_namedErr hn h
  · obtain ⟨p1, p2, p3, p4⟩ := h
    refine ⟨⟨?_, by dsimp only at p2 ⊢; omega, fun x hx => p3 x (List.mem_cons_of_mem _ hx), ?_⟩, p2⟩
    · simp only [List.length_cons] at p1 ⊢; omega
    · intro x hx
      rcases List.mem_cons.mp hx with rfl | hx
      · exact p3 x List.mem_cons_self
      · exact p4 x hx

theorem opFromAltStack_good (h : Pre B st) (hn : Named sop) : Good c B (opFromAltStack sop st) := by
  rw [opFromAltStack, raiseNamed_eq]
  obtain ⟨s, al, vf, pb, n⟩ := st
  rcases al with _ | ⟨a, rest⟩
  · exact good_namedErr hn h
  · obtain ⟨p1, p2, p3, p4⟩ := h
    refine ⟨⟨?_, by dsimp only at p2 ⊢; omega, ?_, fun x hx => p4 x (List.mem_cons_of_mem _ hx)⟩, p2⟩
    · simp only [List.length_cons] at p1 ⊢; omega
    · intro x hx
      rcases List.mem_cons.mp hx with rfl | hx
      · exact p4 x List.mem_cons_self
      · exact p3 x hx

theorem opEqual_good (h : Pre B st) (hn : Named sop) (hB : 520 ≤ B) : Good c B (opEqual sop st) := by
  rw [opEqual, checkArgs, raiseNamed_eq]
  obtain ⟨s, al, vf, pb, n⟩ := st
  rcases s with _ | ⟨a, _ | ⟨b, rest⟩⟩
  · exact good_namedErr hn h
  · exact good_namedErr hn h
  · exact good_stack h _ 2 (elemsLe_flag hB (a = b)) (Nat.le_add_left 1 4) (Nat.le_add_left 2 _)

theorem opEqualVerify_good (h : Pre B st) (hn : Named sop) : Good c B (opEqualVerify sop st) := by
  rw [opEqualVerify, checkArgs, raiseNamed_eq]
  obtain ⟨s, al, vf, pb, n⟩ := st
  rcases s with _ | ⟨a, _ | ⟨b, rest⟩⟩
  · exact good_namedErr hn h
  · exact good_namedErr hn h
  · show Good c B (if a = b then .ok ⟨rest, al, vf, pb, n⟩ else raiseNamed sop ⟨a :: b :: rest, al, vf, pb, n⟩)
    split
    · exact good_pick h [] 2 (by decide) (Nat.le_add_left 2 _) (by decide)
    · exact good_raiseNamed hn h

theorem opIfDup_good (h : Pre B st) (hn : Named sop) : Good c B (opIfDup sop st) := by
  rw [opIfDup, checkArgs, raiseNamed_eq]
  obtain ⟨s, al, vf, pb, n⟩ := st
  rcases s with _ | ⟨a, rest⟩
  · exact good_namedErr hn h
  · show Good c B (if castToBool a then .ok ⟨a :: a :: rest, al, vf, pb, n⟩ else .ok ⟨a :: rest, al, vf, pb, n⟩)
    split
    · exact good_pick h [0, 0] 1 (by decide) (Nat.le_add_left 1 _) (by decide)
    · exact good_ok h

theorem opVerify_good (h : Pre B st) (hn : Named sop) : Good c B (opVerify sop st) := by
  rw [opVerify, checkArgs, raiseNamed_eq]
  obtain ⟨s, al, vf, pb, n⟩ := st
  rcases s with _ | ⟨a, rest⟩
  · exact good_namedErr hn h
  · show Good c B (if castToBool a then .ok ⟨rest, al, vf, pb, n⟩ else raiseNamed sop ⟨a :: rest, al, vf, pb, n⟩)
    split
    · exact good_pick h [] 1 (by decide) (Nat.le_add_left 1 _) (by decide)
    · exact good_raiseNamed hn h

theorem opIf_good (fExec : Bool) (h : Pre B st) (hn : Named sop) : Good c B (opIf sop fExec st) := by
  rw [opIf, checkArgs, raiseNamed_eq]
  obtain ⟨s, al, vf, pb, n⟩ := st
  cases fExec
  · exact good_ok h
  · rcases s with _ | ⟨a, rest⟩
    · exact good_namedErr hn h
    · exact good_pick h [] 1 (by decide) (Nat.le_add_left 1 _) (by decide)

theorem opElse_good (h : Pre B st) : Good c B (opElse st) := by
  obtain ⟨s, al, vf, pb, n⟩ := st
  rcases vf with _ | ⟨a, rest⟩
  · exact h.lim
  · exact good_ok h

theorem opEndIf_good (h : Pre B st) : Good c B (opEndIf st) := by
  obtain ⟨s, al, vf, pb, n⟩ := st
  rcases vf with _ | ⟨a, rest⟩
  · exact h.lim
  · exact good_ok h

theorem opNop_good (fl : Flags) (h : Pre B st) (hn : Named sop) : Good c B (opNop fl sop st) := by
  unfold opNop
  split
  · exact good_raiseNamed hn h
  · exact ⟨h.lim, h.2.1⟩

theorem opCodeSeparator_good (op : RawOp) (h : Pre B st) : Good c B (opCodeSeparator op st) :=
  ⟨h.lim, h.2.1⟩

end arms

end BtcVerif.Model.ScriptEval

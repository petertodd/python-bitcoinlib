/-
  C09, operations with reference arguments: the invariant `InvX` of heaps in which names may share mutable
  objects — no separation clause, the heap alone: closure of immutability (D23: the constructors of the immutable
  classes freeze what they are given), classes, caches, typed reference slots, the shared defaults — and the
  transitions `TrX` that also leave the slots, hence the value, of every immutable object as they are.
-/
import BtcVerif.Proofs.HeapAll
import BtcVerif.Model.HeapX

namespace BtcVerif.Model.Heap
open BtcVerif BtcVerif.Spec.ValueSem BtcVerif.Model.HeapX

/-- an instance of an immutable class, or a tuple -/
def Frozen (o : Obj) : Prop := o.isMut = false

/-- `ImmClosedX` and `KindOKX` unfold to the propositions `ImmClosed` (Proofs/HeapPath) and `KindOK`
    (Proofs/HeapTree): `Inv` is stated with those, `InvX` with these, and a lemma about one pair applies to
    the other as it stands. -/
def ImmClosedX (h : Heap) : Prop :=
  ∀ (a : Addr) (o : Obj), h[a]? = some o → o.isMut = false →
    ∀ c ∈ o.refs, ∃ oc : Obj, h[c]? = some oc ∧ Frozen oc

def KindOKX (h : Heap) : Prop :=
  ∀ (a : Addr) (o : Obj), h[a]? = some o → o.sc.alwaysImm = true → o.isMut = false

/-- the classes the reference slots of an object of class number `k` hold (numbers of `Scalars.kind`,
    Spec/ValueSem; see Proofs/HeapVal) -/
def refKindsK : Nat → List Nat → Prop
  | 0, ks => ks = []
  | 1, ks => ks = [0]
  | 2, ks => ks = []
  | 3, ks => ks = []
  | 4, ks => ks = [10]
  | 5, ks => ks = [8, 9, 4]
  | 6, ks => ks = []
  | 7, ks => ks = [11]
  | 8, ks => ∀ k ∈ ks, k = 1
  | 9, ks => ∀ k ∈ ks, k = 2
  | 10, ks => ∀ k ∈ ks, k = 3
  | 11, ks => ∀ k ∈ ks, k = 5
  | _, _ => False

def refKindsOK (sc : Scalars) (ks : List Nat) : Prop := refKindsK sc.kind ks

def TypedObj (h : Heap) (o : Obj) : Prop := ∃ ks, mapO (kindAt h) o.refs = some ks ∧ refKindsOK o.sc ks

def TypedRefs (h : Heap) : Prop := ∀ (a : Addr) (o : Obj), h[a]? = some o → TypedObj h o

structure InvX (h : Heap) : Prop where
  immClosed : ImmClosedX h
  kindOK : KindOKX h
  cacheOK : CacheOK h
  typed : TypedRefs h
  defaults : DefaultsOK h

theorem refKindsOK_of_kind {a b : Scalars} (h : a.kind = b.kind) (ks : List Nat) : refKindsOK a ks ↔ refKindsOK b ks := by
  simp only [refKindsOK, h]

theorem kindAt_some {h : Heap} {a : Addr} {k : Nat} (hk : kindAt h a = some k) :
    ∃ o : Obj, h[a]? = some o ∧ o.sc.kind = k := by
  simp only [kindAt, Option.map_eq_some_iff] at hk
  exact hk

theorem typed_child {h : Heap} {o : Obj} (ht : TypedObj h o) {c : Addr} (hc : c ∈ o.refs) :
    ∃ (oc : Obj) (ks : List Nat), h[c]? = some oc ∧ refKindsOK o.sc ks ∧ oc.sc.kind ∈ ks := by
  obtain ⟨ks, hks, hok⟩ := ht
  obtain ⟨k, hk, hkc⟩ := mapO_mem' hks hc
  obtain ⟨oc, hoc, hsc⟩ := kindAt_some hkc
  exact ⟨oc, ks, hoc, hok, by rw [hsc]; exact hk⟩

theorem imm_reachX {h : Heap} (hic : ImmClosedX h) (hk : KindOKX h) (ht : TypedRefs h) :
    ∀ {f : Nat} {a : Addr} {t : ATree}, unfoldA f h a = some t → (∀ o : Obj, h[a]? = some o → Frozen o) →
      ∀ x ∈ addrs t, ∃ ox : Obj, h[x]? = some ox ∧ Frozen ox := by
  intro f a t hu hfa
  obtain ⟨o, ho, hm, _⟩ := unfoldA_obj hu
  exact imm_reach hic hu (hm.trans (hfa o ho))

theorem kindAt_set_same {h : Heap} {x : Addr} {ox o' : Obj} (hox : h[x]? = some ox)
    (hk : o'.sc.kind = ox.sc.kind) (c : Addr) : kindAt (h.set x o') c = kindAt h c := by
  simp only [kindAt]
  by_cases hcx : c = x
  · subst hcx
    rw [List.getElem?_set_self (List.getElem?_eq_some_iff.mp hox).1, hox]
    simp [hk]
  · rw [List.getElem?_set_ne (fun e => hcx e.symm)]

theorem typedObj_congr {h h' : Heap} (hk : ∀ c, kindAt h' c = kindAt h c) {o : Obj} (ht : TypedObj h o) :
    TypedObj h' o := by
  obtain ⟨ks, hks, hok⟩ := ht
  exact ⟨ks, by rw [← hks]; exact mapO_congr_idx rfl (fun i a b ha hb => by rw [ha] at hb; cases hb; exact hk a), hok⟩

theorem invx_write {h : Heap} (hinv : InvX h) {x : Addr} {ox o' : Obj} (hox : h[x]? = some ox)
    (hmx : ox.isMut = true) (hm' : o'.isMut = true) (hk' : o'.sc.kind = ox.sc.kind)
    (ht' : TypedObj h o') : InvX (h.set x o') := by
  have hkinds := kindAt_set_same (o' := o') hox hk'
  refine ⟨immClosed_set_mut hinv.immClosed hox hmx hm',
    kindOK_set hinv.kindOK hox (hm'.trans hmx.symm) (kind_alwaysImm hk').1,
    cacheOK_set_mut hinv.cacheOK hinv.immClosed hox hmx hm', ?_, ?_⟩
  · intro a oa hoa
    rcases getElem?_set_cases hoa with ⟨_, rfl⟩ | ⟨_, h0⟩
    · exact typedObj_congr hkinds ht'
    · exact typedObj_congr hkinds (hinv.typed a oa h0)
  · apply defaults_set hinv.defaults
    intro o2 ho2 hm2
    rw [hox] at ho2; cases ho2
    rw [hmx] at hm2; cases hm2

theorem invx_ext {h : Heap} (hinv : InvX h) {e : Heap}
    (hnew : ∀ o ∈ e, o.cHash = none ∧ o.cPy = none)
    (hic : ImmClosedX (h ++ e)) (hk : KindOKX (h ++ e)) (ht : TypedRefs (h ++ e)) : InvX (h ++ e) :=
  ⟨hic, hk, cacheOK_ext hinv.cacheOK hnew, ht, defaults_ext e hinv.defaults⟩

theorem invx_same {h : Heap} (hinv : InvX h) {x : Addr} {o o' : Obj} (hox : h[x]? = some o)
    (h1 : o'.isMut = o.isMut) (h2 : o'.sc = o.sc) (h3 : o'.refs = o.refs)
    (hc : o.isMut = false →
      (∀ c, o'.cHash = some c → ∃ v, absVal h x = some v ∧ identOf v = .ok c) ∧
      (∀ c, o'.cPy = some c → ∃ v, absVal h x = some v ∧ pyHashOf v = .ok c)) :
    InvX (h.set x o') := by
  have hkinds := kindAt_set_same (o' := o') hox (by rw [h2])
  refine ⟨immClosed_set_same hinv.immClosed hox h1 h3, kindOK_set hinv.kindOK hox h1 (by rw [h2]),
    cacheOK_set_same hinv.cacheOK hox h1 h2 h3 hc, ?_, ?_⟩
  · intro a oa hoa
    rcases getElem?_set_cases hoa with ⟨_, rfl⟩ | ⟨_, h0⟩
    · obtain ⟨ks, hks, hok⟩ := hinv.typed x o hox
      exact typedObj_congr hkinds ⟨ks, by rw [h3]; exact hks, by rw [h2]; exact hok⟩
    · exact typedObj_congr hkinds (hinv.typed a oa h0)
  · apply defaults_set hinv.defaults
    intro o2 ho2 hm2
    rw [hox] at ho2; cases ho2
    exact ⟨by rw [h1]; exact hm2, h2, h3⟩

/-! ### transitions: the invariant afterwards, and frozen objects keep their slots -/

def KeepImm (h h' : Heap) : Prop :=
  ∀ (a : Addr) (o : Obj), h[a]? = some o → Frozen o →
    ∃ o' : Obj, h'[a]? = some o' ∧ o'.isMut = o.isMut ∧ o'.sc = o.sc ∧ o'.refs = o.refs

structure TrX (h h' : Heap) : Prop where
  inv : InvX h'
  keep : KeepImm h h'

theorem TrX.refl {h : Heap} (hinv : InvX h) : TrX h h := ⟨hinv, fun _ o ho _ => ⟨o, ho, rfl, rfl, rfl⟩⟩

theorem TrX.trans {h h1 h2 : Heap} (t1 : TrX h h1) (t2 : TrX h1 h2) : TrX h h2 := by
  refine ⟨t2.inv, ?_⟩
  intro a o ho hf
  obtain ⟨o1, ho1, e1, e2, e3⟩ := t1.keep a o ho hf
  obtain ⟨o2, ho2, f1, f2, f3⟩ := t2.keep a o1 ho1 (by unfold Frozen at hf ⊢; rw [e1]; exact hf)
  exact ⟨o2, ho2, by rw [f1, e1], by rw [f2, e2], by rw [f3, e3]⟩

theorem trx_write {h : Heap} (hinv : InvX h) {x : Addr} {ox o' : Obj} (hox : h[x]? = some ox)
    (hmx : ox.isMut = true) (hm' : o'.isMut = true) (hk' : o'.sc.kind = ox.sc.kind)
    (ht' : TypedObj h o') : TrX h (h.set x o') := by
  refine ⟨invx_write hinv hox hmx hm' hk' ht', ?_⟩
  intro a o ho hf
  have hax : a ≠ x := by
    intro e; subst e
    rw [hox] at ho; cases ho
    rw [hf] at hmx; cases hmx
  exact ⟨o, by rw [List.getElem?_set_ne (fun e => hax e.symm)]; exact ho, rfl, rfl, rfl⟩

theorem trx_ext {h : Heap} (hinv : InvX h) {e : Heap}
    (hnew : ∀ o ∈ e, o.cHash = none ∧ o.cPy = none)
    (hic : ImmClosedX (h ++ e)) (hk : KindOKX (h ++ e)) (ht : TypedRefs (h ++ e)) : TrX h (h ++ e) :=
  ⟨invx_ext hinv hnew hic hk ht, fun _ o ho _ => ⟨o, getElem?_append_of_some e ho, rfl, rfl, rfl⟩⟩

theorem trx_same {h : Heap} (hinv : InvX h) {x : Addr} {o o' : Obj} (hox : h[x]? = some o)
    (h1 : o'.isMut = o.isMut) (h2 : o'.sc = o.sc) (h3 : o'.refs = o.refs)
    (hc : o.isMut = false →
      (∀ c, o'.cHash = some c → ∃ v, absVal h x = some v ∧ identOf v = .ok c) ∧
      (∀ c, o'.cPy = some c → ∃ v, absVal h x = some v ∧ pyHashOf v = .ok c)) :
    TrX h (h.set x o') := by
  refine ⟨invx_same hinv hox h1 h2 h3 hc, ?_⟩
  intro a oa hoa _
  by_cases hax : a = x
  · subst hax
    rw [hox] at hoa; cases hoa
    exact ⟨o', by simp [List.getElem?_set_self (List.getElem?_eq_some_iff.mp hox).1], h1, h2, h3⟩
  · exact ⟨oa, by rw [List.getElem?_set_ne (fun e => hax e.symm)]; exact hoa, rfl, rfl, rfl⟩

theorem unfoldA_keep {h h' : Heap} (hic : ImmClosedX h) (hk : KindOKX h) (ht : TypedRefs h) (hkeep : KeepImm h h')
    {f : Nat} {a : Addr} {t : ATree} (hu : unfoldA f h a = some t) (hfa : ∀ o : Obj, h[a]? = some o → Frozen o) :
    unfoldA f h' a = some t :=
  unfoldA_transfer hu fun x hx o ho => by
    obtain ⟨ox, hox, hfr⟩ := imm_reachX hic hk ht hu hfa x hx
    rw [ho] at hox; cases hox
    exact hkeep x o ho hfr

theorem absVal_keep {h h' : Heap} (hinv : InvX h) (hkeep : KeepImm h h') {a : Addr} {o : Obj} {v : Val}
    (ho : h[a]? = some o) (hm : o.isMut = false) (hv : absVal h a = some v) : absVal h' a = some v := by
  simp only [absVal] at hv ⊢
  cases hu : unfoldA D h a with
  | none => simp [hu] at hv
  | some t =>
    rw [unfoldA_keep hinv.immClosed hinv.kindOK hinv.typed hkeep hu
      (fun o' ho' => by rw [ho] at ho'; cases ho'; exact hm)]
    simpa [hu] using hv

end BtcVerif.Model.Heap

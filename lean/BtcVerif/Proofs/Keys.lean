/-
  Lemmas about the glue of Model/Keys.lean for C13 / C14: `CompareBigEndian` has the sign of the
  difference of the values (`SameSign`); `IsLowDERSignature`, `DERSignature.deserialize` and the
  padding of `sign_compact` on octet strings of the strict-DER shape; the low representative `lowS`;
  32-byte fields.
-/
import BtcVerif.Model.Keys
import BtcVerif.Proofs.Der
import BtcVerif.Proofs.Codec

namespace BtcVerif
open BtcVerif.Crypto BtcVerif.Crypto.Secp256k1 BtcVerif.Model.Keys

-- `decide` on the outcomes of the model (`Res α = Except Exc α`) needs this; core derives none
deriving instance DecidableEq for Except

/-! ### `CompareBigEndian` -/

/-- `c` has the sign of `a − b` -/
def SameSign (c : Int) (a b : Nat) : Prop := (0 < c ↔ b < a) ∧ (c = 0 ↔ a = b) ∧ (c < 0 ↔ a < b)

theorem SameSign.of_gt {c : Int} {a b : Nat} (hc : 0 < c) (h : b < a) : SameSign c a b := by
  unfold SameSign; omega

theorem SameSign.of_lt {c : Int} {a b : Nat} (hc : c < 0) (h : a < b) : SameSign c a b := by
  unfold SameSign; omega

theorem SameSign.add_left {c : Int} {a b : Nat} (k : Nat) (h : SameSign c a b) : SameSign c (k + a) (k + b) :=
  ⟨h.1.trans Nat.add_lt_add_iff_left.symm, h.2.1.trans Nat.add_left_cancel_iff.symm,
    h.2.2.trans Nat.add_lt_add_iff_left.symm⟩

theorem lex_lt {x y A B L : Nat} (hA : A < L) (hxy : x < y) : x * L + A < y * L + B := by
  have h1 : (x + 1) * L ≤ y * L := Nat.mul_le_mul_right L hxy
  rw [Nat.add_mul] at h1
  omega

theorem cmpEqLen_cons (a b : UInt8) (as bs : Bytes) :
    cmpEqLen (a :: as) (b :: bs) =
      if (a.toNat : Int) - (b.toNat : Int) ≠ 0 then (a.toNat : Int) - (b.toNat : Int) else cmpEqLen as bs := rfl

theorem cmpEqLen_spec (a b : Bytes) (h : a.length = b.length) : SameSign (cmpEqLen a b) (beNat a) (beNat b) := by
  induction a generalizing b with
  | nil => cases b with
    | nil => exact ⟨by decide, by decide, by decide⟩
    | cons y ys => cases h
  | cons x xs ih =>
    cases b with
    | nil => cases h
    | cons y ys =>
      have hl : xs.length = ys.length := Nat.succ.inj h
      rw [cmpEqLen_cons, beNat_cons, beNat_cons, hl]
      rcases Nat.lt_trichotomy x.toNat y.toNat with hlt | heq | hgt
      · rw [if_pos (by omega)]
        exact .of_lt (by omega) (lex_lt (hl ▸ beNat_lt xs) hlt)
      · rw [if_neg (by omega), heq]
        exact (ih ys hl).add_left _
      · rw [if_pos (by omega)]
        exact .of_gt (by omega) (lex_lt (beNat_lt ys) hgt)

theorem compareBigEndian_spec (c1 c2 : Bytes) :
    SameSign (compareBigEndian c1 c2) (beNat c1) (beNat c2) := by
  fun_induction compareBigEndian c1 c2 with
  | case1 c2 b rest hlen hb =>
    exact .of_gt (by decide) (beNat_lt_beNat_cons (Nat.ne_of_gt hb) (Nat.le_of_lt_succ hlen))
  | case2 c2 b rest _ hb ih =>
    obtain rfl : b = 0 := byte_eq_ofNat (Nat.eq_zero_of_not_pos hb)
    rwa [beNat_zero_cons]
  | case3 c1 b rest hlen _ hb =>
    exact .of_lt (by decide) (beNat_lt_beNat_cons (Nat.ne_of_gt hb) (Nat.le_of_lt_succ hlen))
  | case4 c1 b rest _ _ hb ih =>
    obtain rfl : b = 0 := byte_eq_ofNat (Nat.eq_zero_of_not_pos hb)
    rwa [beNat_zero_cons]
  | case5 c1 c2 h1 h2 => exact cmpEqLen_spec c1 c2 (by omega)

/-! ### `IsLowDERSignature` -/

theorem beNat_maxModHalfOrder : beNat maxModHalfOrder = Secp256k1.n / 2 := by decide +kernel

theorem lowS_comparisons (S : Bytes) :
    (decide (compareBigEndian S [0] > 0) && decide (compareBigEndian S maxModHalfOrder ≤ 0)) =
      decide (0 < beNat S ∧ beNat S ≤ Secp256k1.n / 2) := by
  have c0 := compareBigEndian_spec S [0]
  have cm := compareBigEndian_spec S maxModHalfOrder
  rw [beNat_maxModHalfOrder] at cm
  rw [← Bool.decide_and, decide_eq_decide]
  exact and_congr c0.1 ⟨fun h => Nat.not_lt.mp fun hlt => absurd (cm.1.mpr hlt) (Int.not_lt.mpr h),
    fun h => Int.not_lt.mp fun hlt => absurd (cm.1.mp hlt) (Nat.not_lt.mpr h)⟩

theorem isLowDER_layout (t0 l0 t1 t2 : UInt8) (R S : Bytes) (hR : R.length < 256) (hS : S.length < 256) :
    isLowDERSignature (t0 :: l0 :: (tlv t1 R ++ tlv t2 S)) =
      .ok (decide (0 < beNat S ∧ beNat S ≤ Secp256k1.n / 2)) := by
  have h3 : (t0 :: l0 :: (tlv t1 R ++ tlv t2 S))[3]? = some (UInt8.ofNat R.length) := rfl
  have h5 : (t0 :: l0 :: (tlv t1 R ++ tlv t2 S))[5 + R.length]? = some (UInt8.ofNat S.length) := by
    rw [Nat.add_comm]; simp [tlv]
  have hd : (t0 :: l0 :: (tlv t1 R ++ tlv t2 S)).drop (6 + R.length) = S := by
    rw [Nat.add_comm]; simp [tlv]
  unfold isLowDERSignature
  simp only [h3, toNat_ofNat_lt hR, h5, toNat_ofNat_lt hS, hd, List.take_length, ne_eq, not_true_eq_false, if_false,
    lowS_comparisons]

theorem isLowDER_derEncode (r s : Nat) (hl : (derIntBody r).length + (derIntBody s).length ≤ 123) :
    isLowDERSignature (derEncode r s) = .ok (decide (0 < s ∧ s ≤ Secp256k1.n / 2)) := by
  have := isLowDER_layout 0x30 (UInt8.ofNat (derInt r ++ derInt s).length) 2 2 (derIntBody r) (derIntBody s)
    (by omega) (by omega)
  rwa [beNat_derIntBody] at this

theorem lowS_of_le {s : Nat} (h : s ≤ Spec.Keys.halfOrder) : Spec.Keys.lowS s = s := if_neg (Nat.not_lt.mpr h)

theorem lowS_of_gt {s : Nat} (h : Spec.Keys.halfOrder < s) : Spec.Keys.lowS s = Secp256k1.n - s := if_pos h

theorem half_cases {n m s : Nat} (hn : n = 2 * m + 1) (_ : 0 < s) (hs : s < n) :
    (s ≤ m ∧ m < n - s) ∨ (m < s ∧ 0 < n - s ∧ n - s ≤ m) := by omega

/-! ### 32-byte fields and the padding of `sign_compact` -/

theorem be32_length (v : Nat) : (be32 v).length = 32 := beBytes_length 32 v

theorem beNat_be32 (v : Nat) (h : v < 2 ^ 256) : beNat (be32 v) = v :=
  (beNat_beBytes_mod 32 v).trans (Nat.mod_eq_of_lt h)

theorem be32_beNat (b : Bytes) (h : b.length = 32) : be32 (beNat b) = b := by
  rw [be32, ← h, beBytes_beNat]

theorem pad32_ok (v : Bytes) (hl : v.length ≤ 33) (hv : beNat v < 256 ^ 32) :
    pad32 v = .ok (be32 (beNat v)) := by
  unfold pad32
  rcases Nat.lt_or_ge 32 v.length with h33 | h32
  · -- 33 octets with a value below 2^256: the first is zero, which is what the assertion asks
    cases v with
    | nil => exact absurd h33 (by decide)
    | cons b t =>
      have ht : t.length = 32 := by rw [List.length_cons] at hl h33; omega
      have hb : b.toNat = 0 := Nat.eq_zero_of_not_pos fun hb => by
        have := beNat_pos_of_head (bs := t) (Nat.ne_of_gt hb); rw [ht] at this; omega
      obtain rfl : b = 0 := byte_eq_ofNat hb
      rw [if_pos (.inr (by rw [List.length_cons, ht]; rfl)), beNat_zero_cons, be32_beNat t ht,
        List.length_cons, ht]
      rfl
  · rw [if_pos (.inl h32), List.drop_append_of_le_length (by simpa using h32), List.drop_replicate]
    congr 1
    refine (be32_beNat _ ?_).symm.trans (by rw [beNat_replicate_zero_append])
    rw [List.length_append, List.length_replicate]; omega

theorem pad32_derIntBody (v : Nat) (h : v < 2 ^ 256) :
    pad32 (derIntBody v) = .ok (Secp256k1.be32 v) := by
  have := pad32_ok (derIntBody v) (derIntBody_length_le 32 v h) (by rwa [beNat_derIntBody])
  rwa [beNat_derIntBody] at this

/-! ### `DERSignature.deserialize` on strict DER -/

/-- below 0xfd the one-byte length of `tlv` is the CompactSize `BytesSerializer` reads -/
theorem deBytes_short (body rest : Bytes) (h : body.length < 0xfd) :
    Model.Wire.deBytes (UInt8.ofNat body.length :: (body ++ rest)) = .ok (body, rest) := by
  have := (Codec.dec_deBytes body (by rw [← Codec.maxSize_eq, Model.Wire.MAX_SIZE]; omega)).1 rest
  rwa [Spec.Wire.varBytes, Spec.Wire.compactSize, if_pos h] at this

theorem serRead_tlv (tag : UInt8) (body rest : Bytes) :
    Model.Wire.serRead 1 (tlv tag body ++ rest) = .ok ([tag], UInt8.ofNat body.length :: (body ++ rest)) :=
  (Codec.dec_serRead [tag] 1 rfl (by decide)).1 _

theorem derSigDeserialize_tlv (R S : Bytes) (h : R.length + S.length + 4 < 0xfd) :
    derSigDeserialize (tlv 0x30 (tlv 2 R ++ tlv 2 S)) = .ok (R, S) := by
  have hc : (tlv 2 R ++ (tlv 2 S ++ [])).length < 0xfd := by
    simp only [List.length_append, tlv_length, List.length_nil]; omega
  have h1 := deBytes_short _ [] hc
  have h2 := deBytes_short R (tlv 2 S ++ []) (by omega)
  have h3 := deBytes_short S [] (by omega)
  -- every element is read as `tlv _ _ ++ rest`, the last of a sequence with `rest = []`
  rw [← List.append_nil (tlv 2 S), ← List.append_nil (tlv 0x30 _)]
  unfold derSigDeserialize
  simp only [serRead_tlv, h1, h2, h3, bind, Except.bind, ne_eq, not_true_eq_false, if_false]
  rfl

theorem derSigDeserialize_derEncode (r s : Nat) (hl : (derIntBody r).length + (derIntBody s).length ≤ 123) :
    derSigDeserialize (derEncode r s) = .ok (derIntBody r, derIntBody s) :=
  derSigDeserialize_tlv _ _ (by omega)

end BtcVerif

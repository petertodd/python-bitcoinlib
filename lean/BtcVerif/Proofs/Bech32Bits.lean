/-
  `convertbits` is bit-string regrouping (C11): the arithmetic of its accumulator; for any two widths, the
  pending bits and the data read as one bit string are the groups put out followed by the bits still pending
  (`drain_spec`, `convertLoop_spec`), and the inner loop leaves through its own test (`drain_exits`); hence
  `convertbits d 5 8 False = some p ↔ Spec.Regroup d p` for 5-bit values (`convertbits58_iff`),
  `convertbits p 8 5 True` yields the reference 5-bit groups of `p`, zero-padded (`convertbits85`,
  `convertbits85_eq_spec`), and 8 → 5 → 8 is the identity on lists of byte values (`convertbits_roundtrip_nat`).
-/
import BtcVerif.Model.Bech32
import BtcVerif.Proofs.Positional
import Mathlib.Tactic.IntervalCases
import Mathlib.Tactic.Ring

namespace BtcVerif.Bech32
open BtcVerif.Model.Bech32 BtcVerif.Positional
open BtcVerif.Spec.Bech32 (beValue beDigits Regroup toBase32)

/-! ### the arithmetic of the accumulator -/

/-- `acc = ((acc << frombits) | value) & max_acc` -/
theorem acc_update (acc v f w : Nat) (hv : v < 2 ^ f) :
    ((acc <<< f) ||| v) &&& (2 ^ w - 1) = (acc * 2 ^ f + v) % 2 ^ w := by
  rw [← Nat.shiftLeft_add_eq_or_of_lt hv, Nat.shiftLeft_eq, Nat.and_two_pow_sub_one_eq_mod]

/-- the `bits` pending bits followed by a new `f`-bit value are the low `bits + f` bits of the updated
    accumulator, as long as `max_acc` is wide enough to hold them -/
theorem pending_step (acc v f w bits : Nat) (hv : v < 2 ^ f) (hb : bits + f ≤ w) :
    (acc * 2 ^ f + v) % 2 ^ w % 2 ^ (bits + f) = acc % 2 ^ bits * 2 ^ f + v := by
  rw [Nat.mod_mod_of_dvd _ (Nat.pow_dvd_pow 2 hb), Nat.pow_add, Nat.mul_comm (2 ^ bits), Nat.mod_mul,
    Nat.mul_comm acc, Nat.mul_add_mod, Nat.mod_eq_of_lt hv, Nat.mul_add_div (Nat.two_pow_pos f),
    Nat.div_eq_of_lt hv, Nat.add_zero, Nat.add_comm, Nat.mul_comm]

theorem split_bits (x k t : Nat) : x % 2 ^ (k + t) = x / 2 ^ k % 2 ^ t * 2 ^ k + x % 2 ^ k := by
  rw [Nat.pow_add, Nat.mod_mul, Nat.add_comm, Nat.mul_comm]

/-- `(acc >> bits) & maxv` -/
theorem emit_eq (a k t : Nat) : (a >>> k) &&& (2 ^ t - 1) = a / 2 ^ k % 2 ^ t := by
  rw [Nat.and_two_pow_sub_one_eq_mod, Nat.shiftRight_eq_div_pow]

/-- `(acc << (tobits - bits)) & maxv`: the pending bits, zero-padded to a full group -/
theorem pad_group (acc bits t : Nat) (h : bits ≤ t) :
    (acc <<< (t - bits)) &&& (2 ^ t - 1) = acc % 2 ^ bits * 2 ^ (t - bits) := by
  have e : 2 ^ t = 2 ^ bits * 2 ^ (t - bits) := by rw [← Nat.pow_add, Nat.add_sub_cancel' h]
  rw [Nat.and_two_pow_sub_one_eq_mod, Nat.shiftLeft_eq, e, Nat.mul_mod_mul_right]

theorem value_shift_eq_zero {v f : Nat} (hv : v < 2 ^ f) : (v >>> f != 0) = false := by
  rw [Nat.shiftRight_eq_div_pow, Nat.div_eq_of_lt hv]; rfl

/-! ### the two loops, for any two widths -/

theorem pow_div_mod (t n : Nat) : (2 ^ t) ^ (n / t) * 2 ^ (n % t) = 2 ^ n := by
  rw [← Nat.pow_mul, ← Nat.pow_add, Nat.div_add_mod]

theorem pow_regroup {f t a n k p : Nat} (h : a + f * n = t * k + p) :
    2 ^ a * (2 ^ f) ^ n = (2 ^ t) ^ k * 2 ^ p := by
  rw [← Nat.pow_mul, ← Nat.pow_mul, ← Nat.pow_add, ← Nat.pow_add, h]

theorem drain_spec (t acc : Nat) (ht : 0 < t) (fuel bits : Nat) (ret : List Nat) (hf : bits ≤ fuel) :
    ∃ e, drain t (2 ^ t - 1) acc fuel bits ret = (bits % t, ret ++ e) ∧ (∀ x ∈ e, x < 2 ^ t) ∧
      e.length = bits / t ∧
      acc % 2 ^ bits = beValue (2 ^ t) e * 2 ^ (bits % t) + acc % 2 ^ (bits % t) := by
  induction fuel generalizing bits ret with
  | zero =>
    have : bits = 0 := by omega
    subst this
    exact ⟨[], by simp [drain], by simp, by simp, by simp [beValue]⟩
  | succ fuel ih =>
    by_cases hb : t ≤ bits
    · obtain ⟨k, rfl⟩ : ∃ k, bits = k + t := ⟨bits - t, by omega⟩
      obtain ⟨e, he, hlt, hlen, hval⟩ := ih k (ret ++ [(acc >>> k) &&& (2 ^ t - 1)]) (by omega)
      refine ⟨acc / 2 ^ k % 2 ^ t :: e, ?_, ?_, ?_, ?_⟩
      · rw [emit_eq] at he
        simp only [drain, ge_iff_le, hb, if_true, Nat.add_sub_cancel, emit_eq, Nat.add_mod_right]
        rw [he, List.append_assoc]
        rfl
      · intro x hx
        rcases List.mem_cons.1 hx with rfl | hx
        · exact Nat.mod_lt _ (Nat.two_pow_pos t)
        · exact hlt x hx
      · rw [List.length_cons, hlen, Nat.add_div_right _ ht]
      · rw [Nat.add_mod_right, split_bits, hval, beValue_cons, hlen, Nat.add_mul, Nat.mul_assoc, pow_div_mod,
          Nat.add_assoc]
    · have hlt : bits < t := by omega
      refine ⟨[], ?_, by simp, by simp [Nat.div_eq_of_lt hlt], by simp [beValue, Nat.mod_eq_of_lt hlt]⟩
      simp [drain, hb, Nat.mod_eq_of_lt hlt]

/-- under the precondition `0 < tobits`, `drain` started with `fuel ≥ bits` leaves through its own
    exit test: the returned `bits` is below `tobits` (CPython's `while bits >= tobits` has terminated) -/
theorem drain_exits (tobits maxv acc : Nat) (htb : 0 < tobits) (fuel bits : Nat) (ret : List Nat)
    (hf : bits ≤ fuel) : (drain tobits maxv acc fuel bits ret).1 < tobits := by
  induction fuel generalizing bits ret with
  | zero =>
    have : bits = 0 := by omega
    subst this
    simpa [drain] using htb
  | succ fuel ih =>
    simp only [drain]
    split
    · exact ih _ _ (by omega)
    · simp only; omega

theorem convertLoop_spec (f t : Nat) (ht : 0 < t) (pad : Bool) (data : List Nat) :
    ∀ (acc bits : Nat) (ret : List Nat), bits < t → (∀ v ∈ data, v < 2 ^ f) →
    ∃ out accF bF, convertLoop f t pad (2 ^ t - 1) (2 ^ (f + t - 1) - 1) data acc bits ret =
        convertLoop f t pad (2 ^ t - 1) (2 ^ (f + t - 1) - 1) [] accF bF (ret ++ out) ∧
      (∀ x ∈ out, x < 2 ^ t) ∧ bF < t ∧ bits + f * data.length = t * out.length + bF ∧
      beFrom (2 ^ f) (acc % 2 ^ bits) data = beValue (2 ^ t) out * 2 ^ bF + accF % 2 ^ bF := by
  induction data with
  | nil =>
    intro acc bits ret hb _
    exact ⟨[], acc, bits, by simp, by simp, hb, by simp, by simp [beValue]⟩
  | cons v rest ih =>
    intro acc bits ret hb hd
    have hv : v < 2 ^ f := hd v (by simp)
    have hrest : ∀ x ∈ rest, x < 2 ^ f := fun x hx => hd x (by simp [hx])
    obtain ⟨acc1, hacc1⟩ : ∃ a, a = (acc * 2 ^ f + v) % 2 ^ (f + t - 1) := ⟨_, rfl⟩
    have hpend : acc1 % 2 ^ (bits + f) = acc % 2 ^ bits * 2 ^ f + v := by
      rw [hacc1]; exact pending_step acc v f (f + t - 1) bits hv (by omega)
    obtain ⟨e, he, helt, helen, heval⟩ := drain_spec t acc1 ht (bits + f) (bits + f) ret (Nat.le_refl _)
    obtain ⟨out, accF, bF, hloop, hout, hbF, hlen, hval⟩ :=
      ih acc1 ((bits + f) % t) (ret ++ e) (Nat.mod_lt _ ht) hrest
    refine ⟨e ++ out, accF, bF, ?_, ?_, hbF, ?_, ?_⟩
    · simp only [convertLoop, value_shift_eq_zero hv, Bool.false_eq_true, if_false, acc_update acc v f _ hv,
        ← hacc1, he, hloop, List.append_assoc]
    · intro x hx
      rcases List.mem_append.1 hx with hx | hx
      · exact helt x hx
      · exact hout x hx
    · have := Nat.div_add_mod (bits + f) t
      rw [List.length_cons, Nat.mul_succ, List.length_append, Nat.mul_add, helen]
      omega
    · rw [beFrom_cons, ← hpend, heval, beFrom_add, hval, beValue_append, Nat.mul_assoc, pow_regroup hlen, Nat.add_mul,
        Nat.mul_assoc, Nat.add_assoc]

/-! ### 5 → 8 without padding (`decode`), 8 → 5 with padding (`encode`) -/

theorem convertbits58_iff (d p : List Nat) (hd : ∀ v ∈ d, v < 32) :
    convertbits d 5 8 false = some p ↔ Regroup d p := by
  obtain ⟨out, accF, bF, hloop, hout, hbF, hlen, hval⟩ :=
    convertLoop_spec 5 8 (by decide) false d 0 0 [] (by decide) hd
  have hloop' : convertbits d 5 8 false = convertLoop 5 8 false 255 4095 [] accF bF out := hloop
  have hgrp : (accF <<< (8 - bF)) &&& 255 = accF % 2 ^ bF * 2 ^ (8 - bF) := pad_group accF bF 8 (by omega)
  have hr : accF % 2 ^ bF < 2 ^ bF := Nat.mod_lt _ (Nat.two_pow_pos _)
  rw [Nat.zero_mod, beFrom_eq, Nat.zero_mul, Nat.zero_add] at hval
  have hval : beValue 32 d = beValue 256 out * 2 ^ bF + accF % 2 ^ bF := hval
  have hout : ∀ x ∈ out, x < 256 := hout
  rw [hloop']
  simp only [convertLoop, Bool.false_eq_true, if_false, hgrp]
  constructor
  · intro h
    split at h
    · exact absurd h (by simp)
    · rename_i hc
      simp only [Bool.or_eq_true, decide_eq_true_eq, bne_iff_ne, ne_eq, not_or, not_not] at hc
      have h0 : accF % 2 ^ bF = 0 := (Nat.mul_eq_zero.1 hc.2).resolve_right (by have := Nat.two_pow_pos (8 - bF); omega)
      rw [← Option.some.inj h]
      exact ⟨hout, bF, by omega, by omega, by rw [hval, h0, Nat.add_zero]⟩
  · rintro ⟨hbytes, pad, hp, hl, hv⟩
    have hpl : p.length = out.length := by omega
    have hpad : pad = bF := by omega
    subst hpad
    rw [hval] at hv
    obtain ⟨hvo, h0⟩ := divmod_unique (Nat.two_pow_pos pad) hr (by rw [Nat.add_zero]; exact hv.symm)
    have hpo : p = out := beValue_inj hbytes hout hpl hvo
    have : ¬ ((decide (pad ≥ 5) || (accF % 2 ^ pad * 2 ^ (8 - pad) != 0)) = true) := by
      simp [← h0, Nat.not_le_of_lt hp]
    rw [if_neg this, hpo]

theorem convertbits85 (p : List Nat) (hp : ∀ v ∈ p, v < 256) :
    ∃ d, convertbits p 8 5 true = some d ∧ (∀ x ∈ d, x < 32) ∧ Regroup d p ∧
      d.length = (8 * p.length + 4) / 5 := by
  obtain ⟨out, accF, bF, hloop, hout, hbF, hlen, hval⟩ :=
    convertLoop_spec 8 5 (by decide) true p 0 0 [] (by decide) hp
  have hloop' : convertbits p 8 5 true = convertLoop 8 5 true 31 4095 [] accF bF out := hloop
  rw [Nat.zero_mod, beFrom_eq, Nat.zero_mul, Nat.zero_add] at hval
  have hval : beValue 256 p = beValue 32 out * 2 ^ bF + accF % 2 ^ bF := hval
  have hout : ∀ x ∈ out, x < 32 := hout
  rw [hloop']
  simp only [convertLoop, if_true]
  by_cases h0 : bF = 0
  · subst h0
    rw [Nat.pow_zero, Nat.mod_one, Nat.add_zero] at hval
    exact ⟨out, by simp, hout, ⟨hp, 0, by decide, by omega, by rw [hval, Nat.pow_zero, Nat.mul_one, Nat.mul_one]⟩, by omega⟩
  · have hne : (bF != 0) = true := by simpa using h0
    have hgrp : (accF <<< (5 - bF)) &&& 31 = accF % 2 ^ bF * 2 ^ (5 - bF) := pad_group accF bF 5 (by omega)
    have h32 : (2 : Nat) ^ bF * 2 ^ (5 - bF) = 32 := by rw [← Nat.pow_add, Nat.add_sub_cancel' (by omega)]
    rw [if_pos hne, hgrp]
    refine ⟨_, rfl, ?_, ⟨hp, 5 - bF, by omega, by rw [List.length_append, List.length_singleton]; omega, ?_⟩,
      by rw [List.length_append, List.length_singleton]; omega⟩
    · intro x hx
      rcases List.mem_append.1 hx with hx | hx
      · exact hout x hx
      · rw [List.mem_singleton.1 hx, ← hgrp, Nat.and_two_pow_sub_one_eq_mod _ 5]
        exact Nat.mod_lt _ (by decide)
    · rw [beValue_append, hval, Nat.add_mul, Nat.mul_assoc, h32]
      simp [beValue]

theorem convertbits_roundtrip_nat (p : List Nat) (hp : ∀ v ∈ p, v < 256) :
    ∃ d, convertbits p 8 5 true = some d ∧ (∀ x ∈ d, x < 32) ∧ convertbits d 5 8 false = some p := by
  obtain ⟨d, h1, h2, h3, _⟩ := convertbits85 p hp
  exact ⟨d, h1, h2, (convertbits58_iff d p h2).2 h3⟩

theorem convertbits85_eq_spec (p : List Nat) (hp : ∀ v ∈ p, v < 256) :
    convertbits p 8 5 true = some (toBase32 p) := by
  obtain ⟨d, h1, h2, ⟨_, pad, hpad, hl, hval⟩, hlen⟩ := convertbits85 p hp
  rw [h1]
  congr 1
  have hpad' : pad = 5 * ((8 * p.length + 4) / 5) - 8 * p.length := by omega
  rw [eq_beDigits 32 d h2 (by omega), hval, hlen, hpad']
  rfl

end BtcVerif.Bech32

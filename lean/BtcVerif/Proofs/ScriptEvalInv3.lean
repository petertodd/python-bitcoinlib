/-
  C07 — the arm invariant `Good` for OP_PICK / OP_ROLL and OP_CHECKSIG(VERIFY), with the possible
  outcomes of `FindAndDelete` and `_CheckSig` (`findAndDelete_cases`, `checkSig_cases`).
-/
import BtcVerif.Proofs.ScriptEvalInv2
import BtcVerif.Proofs.ScriptFad

namespace BtcVerif.Model.ScriptEval
open BtcVerif BtcVerif.Spec BtcVerif.Spec.Script BtcVerif.Model.Script

theorem findAndDelete_cases (cap : Captured) (script sig : Bytes) :
    (∃ r, findAndDelete cap script sig = .ok r) ∨ findAndDelete cap script sig = .error (.invalid cap) := by
  unfold findAndDelete
  simp only
  split
  · right; rfl
  · left; exact ⟨_, rfl⟩

theorem encodeOpPushdata_ok (d : Bytes) (h : d.length < 2 ^ 32) : ∃ e, encodeOpPushdata d = .ok e := by
  unfold encodeOpPushdata
  split_ifs
  · exact ⟨_, rfl⟩
  · exact ⟨_, rfl⟩
  · exact ⟨_, rfl⟩
  · exact ⟨_, rfl⟩
  · omega

theorem checkSig_cases (c : Ctx) (cap : Captured) (sig pubkey script : Bytes)
    (hlen : script.length ≤ MAX_SCRIPT_SIZE) :
    (∃ b, checkSig c cap sig pubkey script = .ok b) ∨
    checkSig c cap sig pubkey script = .error (.invalid cap) ∨
    (∃ cls, checkSig c cap sig pubkey script = .error (.py cls) ∧ c.Raises cls) := by
  unfold checkSig
  by_cases h0 : sig.length = 0
  · left; simp [h0]
  · simp only [h0, if_false]
    cases hl : sig.getLast? with
    | none =>
      rw [List.getLast?_eq_none_iff] at hl
      subst hl; simp at h0
    | some ht =>
      simp only
      cases hh : c.sigHash script ht.toNat with
      | ok d => left; exact ⟨_, rfl⟩
      | error x =>
        by_cases hx : x = .invalidscript
        · subst hx; right; left; rfl
        · right; right
          refine ⟨excClass x, ?_, script, ht.toNat, x, hlen, ht.toNat_lt, hh, hx, rfl⟩
          cases x <;> first | rfl | exact absurd rfl hx

section arms
variable {c : Ctx} {B : Nat} {st : St} {sop : Nat}

theorem opPickRoll_good (h : Pre B st) (hn : Named sop) (hB2 : B < 2 ^ 32) : Good c B (opPickRoll sop st) := by
  simp only [opPickRoll, checkArgs, raiseNamed_eq]
  obtain ⟨s, al, vf, pb, n⟩ := st
  rcases s with _ | ⟨a, _ | ⟨b, rest⟩⟩
  · exact good_namedErr hn h
  · exact good_namedErr hn h
  · have ha : a.length ≤ B := h.2.2.1 a List.mem_cons_self
    have hp := pre_tail h
    show Good c B (castToBigNum a _ >>= fun v =>
      if v < 0 ∨ v ≥ ((b :: rest).length : Int) then .error (namedErr sop ⟨b :: rest, al, vf, pb, n⟩) else
      pyIdx (getTop? (b :: rest) (v + 1)) >>= fun vch =>
      if sop = 0x7a then pyIdx (delTop? (b :: rest) (v + 1)) >>= fun s => .ok ⟨vch :: s, al, vf, pb, n⟩
      else .ok ⟨vch :: b :: rest, al, vf, pb, n⟩)
    refine good_castToBigNum hp (by omega) fun v _ _ => ?_
    by_cases hr : v < 0 ∨ v ≥ ((b :: rest).length : Int)
    · rw [if_pos hr]; exact good_namedErr hn hp
    · rw [if_neg hr]
      have hv : v.toNat < (b :: rest).length := by omega
      rw [getTop?_succ _ v (by omega), List.getElem?_eq_getElem hv, pyIdx_some, ok_bind]
      have hx : ElemsLe B [(b :: rest)[v.toNat]] := fun x hx => by
        rw [List.mem_singleton.mp hx]; exact hp.2.2.1 _ (List.getElem_mem hv)
      by_cases hroll : sop = 0x7a
      · rw [if_pos hroll, delTop?_succ _ v (by omega) (by omega), pyIdx_some, ok_bind]
        -- the item moves to the top: one item more than after the erase, all of them old
        obtain ⟨p1, p2, p3, p4⟩ := hp
        refine ⟨⟨?_, Nat.le_trans p2 (by decide), ?_, p4⟩, p2⟩
        · simp only [List.length_cons, List.length_eraseIdx] at p1 ⊢; split <;> omega
        · intro y hy
          rcases List.mem_cons.mp hy with rfl | hy
          · exact hx _ List.mem_cons_self
          · exact p3 y (List.mem_of_mem_eraseIdx hy)
      · rw [if_neg hroll]
        exact good_stack hp _ 0 hx (Nat.le_add_left 1 2) (Nat.zero_le _)

theorem opCheckSig_good (script : Bytes) (hlen : script.length ≤ MAX_SCRIPT_SIZE) (h : Pre B st) (hn : Named sop)
    (hB : 520 ≤ B) (hB2 : B < 2 ^ 32) :
    Good c B (opCheckSig c script sop st) := by
  simp only [opCheckSig, checkArgs, raiseNamed_eq]
  obtain ⟨s, al, vf, pb, n⟩ := st
  rcases s with _ | ⟨a, _ | ⟨b, rest⟩⟩
  · exact good_namedErr hn h
  · exact good_namedErr hn h
  · have hb : b.length ≤ B := h.2.2.1 b (List.mem_cons_of_mem _ List.mem_cons_self)
    have hpat := pushEnc_pat b (by omega)
    simp only [List.length_cons, len_lt_2, if_false, ok_bind, getTop?_1, getTop?_2, pyIdx_some,
      encodeOpPushdata_eq b (by omega), pop?_cons]
    rcases findAndDelete_cases (St.cap ⟨a :: b :: rest, al, vf, pb, n⟩) (List.drop pb script) (Ref.pushEnc b) with
      ⟨r, hf⟩ | hf
    · have hrl : r.length ≤ MAX_SCRIPT_SIZE := by
        have := findAndDelete_length_le hpat hf
        simp only [List.length_drop] at this; omega
      rw [hf, ok_bind]
      rcases checkSig_cases c (St.cap ⟨a :: b :: rest, al, vf, pb, n⟩) b a r hrl with ⟨ok, hk⟩ | hk | ⟨cls, hk, hneg⟩
      · rw [hk, ok_bind]
        -- raise with both operands on the stack, or replace them by at most one flag byte
        cases ok <;> by_cases had : sop = 0xad <;>
          simp only [had, Bool.not_false, Bool.not_true, Bool.false_eq_true, and_self, and_false, false_and,
            if_true, if_false, ne_eq, not_true_eq_false, not_false_eq_true]
        · exact good_namedErr (had ▸ hn) h
        · exact good_stack h [[]] 2 (fun x hx => by rw [List.mem_singleton.mp hx]; exact Nat.zero_le _) (by decide)
            (Nat.le_add_left 2 _)
        · exact good_ok (pre_tail (pre_tail h))
        · exact good_stack h [[1]] 2 (fun x hx => by rw [List.mem_singleton.mp hx]; exact Nat.le_trans (by decide) hB)
            (by decide) (Nat.le_add_left 2 _)
      · rw [hk]; exact h.lim
      · rw [hk]; exact hneg
    · rw [hf]; exact h.lim

end arms

end BtcVerif.Model.ScriptEval

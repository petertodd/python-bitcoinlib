/-
  C05 — the commitment table.  `Agree ht i t t'` read field by field (`agree_iff`, `AgreeIn`, `AgreeOut`);
  in the regular case two signature views `sigTx` are equal exactly when the transactions agree
  (`sigTx_eq_iff`), and the wire encoding of a view is injective; an `Uncommitted` edit is checked
  against `AgreeIn` / `AgreeOut` edit by edit (`uncommitted_agree`).
-/
import BtcVerif.Spec.Commit
import BtcVerif.Proofs.SighashLegacy
import BtcVerif.Proofs.Wire

namespace BtcVerif.CommitProofs
open BtcVerif BtcVerif.Spec.Sighash BtcVerif.Spec.Commit BtcVerif.Spec.Wire BtcVerif.SighashProofs

theorem length_eq_of_getElem?_map {α β} {l l' : List α} (f : α → β)
    (h : ∀ k : Nat, l'[k]?.map f = l[k]?.map f) : l'.length = l.length := by
  have := congrArg List.length (List.ext_getElem? (l₁ := l'.map f) (l₂ := l.map f)
    fun k => by rw [List.getElem?_map, List.getElem?_map, h k])
  simpa using this

theorem lt_length_iff_of_map_eq {α β} {l l' : List α} {k : Nat} (f : α → β)
    (h : l'[k]?.map f = l[k]?.map f) : k < l'.length ↔ k < l.length := by
  have e : ∀ m : List α, k < m.length ↔ m[k]?.map f ≠ none := fun m => by
    rw [Ne, Option.map_eq_none_iff, List.getElem?_eq_none_iff]; omega
  rw [e, e, h]

theorem toList_inj {α} {a b : Option α} (h : a.toList = b.toList) : a = b := by
  cases a <;> cases b <;> simp_all

/-! ### `Agree`, field by field -/

theorem isAll_iff (ht : Nat) : isAll ht = true ↔ isNone ht = false ∧ isSingle ht = false := by
  unfold isAll; cases isNone ht <;> cases isSingle ht <;> simp

/-- what the hash type commits to of the input list `v` (against `v'`): the outpoint at `i`, and
    everywhere without ANYONECANPAY; the sequence number at `i`, and everywhere under ALL without
    ANYONECANPAY.  The number of inputs is implied: without ANYONECANPAY every position is read. -/
structure AgreeIn (ht i : Nat) (v v' : List TxIn) : Prop where
  prevout : ∀ k, k = i ∨ isAnyoneCanPay ht = false → v'[k]?.map (·.prevout) = v[k]?.map (·.prevout)
  sequence : ∀ k, k = i ∨ (isAnyoneCanPay ht = false ∧ isAll ht = true) →
    v'[k]?.map (·.nSequence) = v[k]?.map (·.nSequence)

/-- … of the output list: every position under ALL, position `i` under SINGLE -/
def AgreeOut (ht i : Nat) (v v' : List TxOut) : Prop :=
  ∀ k, isAll ht = true ∨ (isSingle ht = true ∧ k = i) → v'[k]? = v[k]?

theorem optBytes_inj {a b : Option Bytes} (h : optBytes a = optBytes b) : a = b := by
  cases a <;> cases b <;> simp_all [optBytes]
theorem optNat_inj {a b : Option Nat} (h : optNat a = optNat b) : a = b := by
  cases a <;> cases b <;> simp_all [optNat]
theorem optInt_inj {a b : Option Int} (h : optInt a = optInt b) : a = b := by
  cases a <;> cases b <;> simp_all [optInt]

theorem outpoint_opt_eq {a b : Option TxIn} (h1 : a.map (·.prevout.hash) = b.map (·.prevout.hash))
    (h2 : a.map (·.prevout.n) = b.map (·.prevout.n)) : a.map (·.prevout) = b.map (·.prevout) := by
  rcases a with _ | ⟨⟨ha, na⟩, sa, qa⟩ <;> rcases b with _ | ⟨⟨hb, nb⟩, sb, qb⟩ <;> simp_all

theorem txout_opt_eq {a b : Option TxOut} (h1 : a.map (·.nValue) = b.map (·.nValue))
    (h2 : a.map (·.scriptPubKey) = b.map (·.scriptPubKey)) : a = b := by
  rcases a with _ | ⟨va, sa⟩ <;> rcases b with _ | ⟨vb, sb⟩ <;> simp_all

theorem agree_iff {ht i : Nat} {t t' : Tx} :
    Agree ht i t t' ↔ t'.nVersion = t.nVersion ∧ t'.nLockTime = t.nLockTime ∧
      AgreeIn ht i t.vin t'.vin ∧ AgreeOut ht i t.vout t'.vout := by
  constructor
  · intro H
    refine ⟨by simpa [Part.get] using H .version rfl, by simpa [Part.get] using H .lockTime rfl,
      ⟨fun k hk => ?_, fun k hk => ?_⟩, fun k hk => ?_⟩
    · have hc : committed ht i (.prevHash k) = true := by simpa [committed] using hk
      exact outpoint_opt_eq (optBytes_inj (H (.prevHash k) hc)) (optNat_inj (H (.prevN k) hc))
    · exact optNat_inj (H (.sequence k) (by simpa [committed] using hk))
    · have hc : committed ht i (.value k) = true := by simpa [committed] using hk
      exact txout_opt_eq (optInt_inj (H (.value k) hc)) (optBytes_inj (H (.spk k) hc))
  · rintro ⟨hv, hl, hin, hout⟩ p hc
    cases p with
    | version => simp only [Part.get, hv]
    | lockTime => simp only [Part.get, hl]
    | witness => simp [committed] at hc
    | scriptSig k => simp [committed] at hc
    | inCount =>
      have hacp : isAnyoneCanPay ht = false := by simpa [committed] using hc
      simp only [Part.get, length_eq_of_getElem?_map _ fun k => hin.prevout k (Or.inr hacp)]
    | outCount =>
      have hall : isAll ht = true := hc
      simp only [Part.get, List.ext_getElem? fun k => hout k (Or.inl hall)]
    | prevHash k =>
      have := congrArg (Option.map (·.hash)) (hin.prevout k (by simpa [committed] using hc))
      simp only [Option.map_map] at this
      exact congrArg optBytes this
    | prevN k =>
      have := congrArg (Option.map (·.n)) (hin.prevout k (by simpa [committed] using hc))
      simp only [Option.map_map] at this
      exact congrArg optNat this
    | sequence k => simp only [Part.get, hin.sequence k (by simpa [committed] using hc)]
    | value k => simp only [Part.get, hout k (by simpa [committed] using hc)]
    | spk k => simp only [Part.get, hout k (by simpa [committed] using hc)]

theorem regular_iff_of_agree {ht i : Nat} {t t' : Tx} (H : Agree ht i t t') : Regular ht i t' ↔ Regular ht i t := by
  obtain ⟨_, _, hin, hout⟩ := agree_iff.1 H
  have h1 := lt_length_iff_of_map_eq _ (hin.prevout i (Or.inl rfl))
  have h2 : isSingle ht = true → (i < t'.vout.length ↔ i < t.vout.length) := fun hs =>
    lt_length_iff_of_map_eq id (congrArg _ (hout i (Or.inr ⟨hs, rfl⟩)))
  unfold Regular
  exact ⟨fun h => ⟨h1.1 h.1, fun hs => (h2 hs).1 (h.2 hs)⟩, fun h => ⟨h1.2 h.1, fun hs => (h2 hs).2 (h.2 hs)⟩⟩

theorem legacySighash_eq (sc : Bytes) (t : Tx) (i ht : Nat) :
    legacySighash sc t i ht =
      if Regular ht i t then (Crypto.hash256 (legacyPreimage sc t i ht), false) else (hashOne, true) := by
  by_cases hr : Regular ht i t
  · rw [if_pos hr, legacySighash, if_neg (by have := hr.1; omega),
      if_neg (fun h => absurd (hr.2 h.1) (by have := h.2; omega))]
  · rw [if_neg hr, legacySighash]
    by_cases h1 : i ≥ t.vin.length
    · rw [if_pos h1]
    · rw [if_neg h1, if_pos]
      refine Classical.byContradiction fun h2 => hr ⟨by omega, fun hs => ?_⟩
      exact Nat.lt_of_not_ge fun hge => h2 ⟨hs, hge⟩

/-! ### the signature view -/

theorem masked_iff (ht i k : Nat) :
    (k ≠ i ∧ (isSingle ht = true ∨ isNone ht = true)) ↔ ¬ (k = i ∨ isAll ht = true) := by
  rw [isAll_iff]
  cases isNone ht <;> cases isSingle ht <;> simp

theorem opt_sigIn_iff {sc : Bytes} {i ht k : Nat} {a b : Option TxIn} :
    a.map (sigIn sc i ht k) = b.map (sigIn sc i ht k) ↔
      a.map (·.prevout) = b.map (·.prevout) ∧
      (k = i ∨ isAll ht = true → a.map (·.nSequence) = b.map (·.nSequence)) := by
  rcases a with _ | x' <;> rcases b with _ | x <;> simp only [Option.map_none, Option.map_some, reduceCtorEq,
    false_and, implies_true, and_self, Option.some.injEq, sigIn, TxIn.mk.injEq, true_and]
  by_cases hm : k ≠ i ∧ (isSingle ht = true ∨ isNone ht = true)
  · simp only [if_pos hm, (masked_iff ht i k).1 hm, false_imp_iff, and_true]
  · simp only [if_neg hm, Classical.not_not.1 (mt (masked_iff ht i k).2 hm), true_imp_iff]

theorem sigVin_eq_iff {sc : Bytes} {ht i : Nat} {v v' : List TxIn} :
    sigVin sc i ht v' = sigVin sc i ht v ↔ AgreeIn ht i v v' := by
  unfold sigVin
  cases hacp : isAnyoneCanPay ht
  · simp only [Bool.false_eq_true, if_false, List.ext_getElem?_iff, List.getElem?_mapIdx, opt_sigIn_iff]
    exact ⟨fun h => ⟨fun k _ => (h k).1, fun k hk => (h k).2 (hk.imp id (·.2))⟩,
      fun h k => ⟨h.prevout k (Or.inr hacp), fun hk => h.sequence k (hk.imp id (⟨hacp, ·⟩))⟩⟩
  · have hi : ∀ {k : Nat} {q : Prop}, k = i ∨ (isAnyoneCanPay ht = false ∧ q) → k = i := fun hk =>
      hk.resolve_right fun h => by simp [hacp] at h
    rw [if_pos rfl, if_pos rfl, ← Option.toList_map, ← Option.toList_map]
    refine ⟨fun h => ?_, fun h => congrArg _ (opt_sigIn_iff.2 ⟨h.prevout i (Or.inl rfl), fun _ => h.sequence i (Or.inl rfl)⟩)⟩
    obtain ⟨h1, h2⟩ := opt_sigIn_iff.1 (toList_inj h)
    exact ⟨fun k hk => by rw [hi (q := True) (hk.imp id (⟨·, trivial⟩))]; exact h1,
      fun k hk => by rw [hi hk]; exact h2 (Or.inl rfl)⟩

theorem sigVout_eq_iff {ht i : Nat} {v v' : List TxOut} (hr : isSingle ht = true → i < v.length)
    (hr' : isSingle ht = true → i < v'.length) : sigVout i ht v' = sigVout i ht v ↔ AgreeOut ht i v v' := by
  unfold AgreeOut
  cases hn : isNone ht
  · cases hs : isSingle ht
    · rw [sigVout_all _ hn hs, sigVout_all _ hn hs, List.ext_getElem?_iff]
      simp only [(isAll_iff ht).2 ⟨hn, hs⟩, true_or, true_imp_iff]
    · have ho := List.getElem?_eq_getElem (hr hs)
      have ho' := List.getElem?_eq_getElem (hr' hs)
      have hall : isAll ht = false := by simp [isAll, hs]
      rw [sigVout_single hs ho, sigVout_single hs ho']
      simp only [List.append_cancel_left_eq, List.cons.injEq, and_true, hall, Bool.false_eq_true, true_and,
        false_or, forall_eq, ho, ho', Option.some.injEq]
  · have hs : isSingle ht = false := by
      cases hs : isSingle ht
      · rfl
      · exact absurd ⟨hn, hs⟩ (SighashProofs.not_none_and_single ht)
    rw [sigVout_none _ hn, sigVout_none _ hn]
    simp [isAll, hn, hs]

theorem sigTx_eq_iff {sc : Bytes} {t t' : Tx} {i ht : Nat} (hr : Regular ht i t) (hr' : Regular ht i t') :
    sigTx sc t' i ht = sigTx sc t i ht ↔ Agree ht i t t' := by
  rw [agree_iff, sigTx, sigTx, Tx.mk.injEq, sigVin_eq_iff, sigVout_eq_iff hr.2 hr'.2]
  simp only [true_and]
  exact ⟨fun ⟨a, b, c, d⟩ => ⟨a, d, b, c⟩, fun ⟨a, d, b, c⟩ => ⟨a, b, c, d⟩⟩

/-! ### the hashed message is the wire encoding of the view; the encoding is injective -/

theorem wf_sigIn {sc : Bytes} {i ht k : Nat} {x : TxIn} (hsc : sc.length ≤ maxSize)
    (hx : WFOutPoint x.prevout ∧ x.nSequence < 2 ^ 32) : WFTxIn (sigIn sc i ht k x) := by
  refine ⟨hx.1, ?_, ?_⟩ <;> simp only [sigIn] <;> split
  · have := SighashProofs.noSep_length_le sc
    omega
  · simp
  · omega
  · exact hx.2

theorem wf_sigTx {sc : Bytes} {t : Tx} {i ht : Nat} (hsc : sc.length ≤ maxSize) (wf : WFc t)
    (hr : Regular ht i t) : WFTx (sigTx sc t i ht) := by
  obtain ⟨hv1, hv2, hni, hno, hin, hout, hlock⟩ := wf
  have h1 : 1 ≤ (sigVin sc i ht t.vin).length := by
    unfold sigVin
    split
    · rw [List.getElem?_eq_getElem hr.1]; simp
    · rw [List.length_mapIdx]; have := hr.1; omega
  have h2 : (sigVin sc i ht t.vin).length < 2 ^ 64 := by have := length_sigVin_le sc i ht t.vin; omega
  refine ⟨hv1, hv2, h1, h2, ?_, fun x hx => ?_, fun o ho => ?_,
    Or.inl rfl, fun s hs => by simp [sigTx] at hs, hlock⟩
  · have := length_sigVout_le i ht t.vout
    show (sigVout i ht t.vout).length < 2 ^ 64
    omega
  · obtain ⟨k, a, ha, rfl⟩ := mem_sigVin hx
    exact wf_sigIn hsc (hin a ha)
  · rcases mem_sigVout ho with rfl | hm
    · exact ⟨by decide, by decide, by simp [Model.Sighash.blankTxOut]⟩
    · exact hout o hm

/-- a corollary of C01's round trip (`Codec.dec_deTx`: deserialising the encoding returns the value) -/
theorem txLegacy_inj {a b : Tx} (wa : WFTx a) (wb : WFTx b) (ha : a.wit = []) (hb : b.wit = [])
    (h : txLegacy a = txLegacy b) : a = b := by
  have key : ∀ c : Tx, WFTx c → c.wit = [] → Model.Wire.deTx (txLegacy c) = .ok (c, []) := by
    intro c wc hc
    have hcc : ({ c with wit := [] } : Tx) = c := by cases c; simp_all
    have h1 : txBytes c = txLegacy c := by
      have := Codec.txBytes_strip c
      rwa [hcc] at this
    have h2 : normTx c = c := by
      have hw : c.hasWitness = false := by
        have := Codec.hasWitness_strip c
        rwa [hcc] at this
      rw [Codec.normTx_of_not_hasWitness hw, hcc]
    have := (Codec.dec_deTx c wc).1 []
    rwa [h1, h2, List.append_nil] at this
  have h1 := key a wa ha
  rw [h, key b wb hb] at h1
  injection h1 with h1
  exact (Prod.mk.inj h1).1.symm

theorem agree_of_preimage_eq {sc : Bytes} {t t' : Tx} {i ht : Nat} (hsc : sc.length ≤ maxSize)
    (wf : WFc t) (wf' : WFc t') (hr : Regular ht i t) (hr' : Regular ht i t')
    (h : legacyPreimage sc t' i ht = legacyPreimage sc t i ht) : Agree ht i t t' := by
  unfold legacyPreimage at h
  have := (List.append_inj' h rfl).1
  rw [legacyTxBytes_eq_txLegacy sc t i ht hr.2, legacyTxBytes_eq_txLegacy sc t' i ht hr'.2] at this
  exact (sigTx_eq_iff hr hr').1 (txLegacy_inj (wf_sigTx hsc wf' hr') (wf_sigTx hsc wf hr) rfl rfl this)

theorem preimage_eq_of_agree {ht i : Nat} {t t' : Tx} (H : Agree ht i t t') (sc : Bytes) (hr : Regular ht i t) :
    legacyPreimage sc t' i ht = legacyPreimage sc t i ht := by
  have hr' := (regular_iff_of_agree H).2 hr
  rw [legacyPreimage, legacyPreimage, legacyTxBytes_eq_txLegacy _ _ _ _ hr.2, legacyTxBytes_eq_txLegacy _ _ _ _ hr'.2,
    (sigTx_eq_iff hr hr').2 H]

theorem sighash_eq_of_agree {ht i : Nat} {t t' : Tx} (H : Agree ht i t t') (sc : Bytes) :
    legacySighash sc t' i ht = legacySighash sc t i ht := by
  rw [legacySighash_eq, legacySighash_eq]
  by_cases hr : Regular ht i t
  · rw [if_pos hr, if_pos ((regular_iff_of_agree H).2 hr), preimage_eq_of_agree H sc hr]
  · rw [if_neg hr, if_neg (mt (regular_iff_of_agree H).1 hr)]

/-! ### the table over edits -/

theorem getElem?_modify_map {α β} (l : List α) (k j : Nat) (f : α → α) (g : α → β)
    (h : k = j → ∀ x, g (f x) = g x) : (l.modify k f)[j]?.map g = l[j]?.map g := by
  rw [List.getElem?_modify]
  cases l[j]? with
  | none => rfl
  | some a => simp only [Option.map_some, Functor.map]; split <;> simp_all

theorem swapAt_self {α} (xs : List α) (k : Nat) : swapAt xs k k = xs := by
  unfold swapAt
  cases h : xs[k]? with
  | none => rfl
  | some a =>
    obtain ⟨hk, rfl⟩ := List.getElem?_eq_some_iff.1 h
    simp

theorem getElem?_swapAt_ne {α} (xs : List α) {k l j : Nat} (h1 : ¬ k = j) (h2 : ¬ l = j) :
    (swapAt xs k l)[j]? = xs[j]? := by
  unfold swapAt
  split
  · rw [List.getElem?_set, List.getElem?_set, if_neg h2, if_neg h1]
  · rfl

theorem length_pyInsert {α} (l : List α) (k : Nat) (x : α) : (pyInsert l k x).length = l.length + 1 := by
  unfold pyInsert
  rw [List.length_insertIdx, if_pos (Nat.min_le_right _ _)]

theorem getElem?_pyInsert_lt {α} (l : List α) {k j : Nat} (x : α) (h : j < k) (hs : k ≤ l.length ∨ j < l.length) :
    (pyInsert l k x)[j]? = l[j]? := by
  unfold pyInsert
  rw [List.getElem?_insertIdx, if_pos (by omega)]

section
variable {ht i : Nat}

theorem agreeIn_of_acp {v v' : List TxIn} (hacp : isAnyoneCanPay ht = true)
    (h1 : v'[i]?.map (·.prevout) = v[i]?.map (·.prevout))
    (h2 : v'[i]?.map (·.nSequence) = v[i]?.map (·.nSequence)) : AgreeIn ht i v v' :=
  ⟨fun k hk => by rw [hk.resolve_right (by simp [hacp])]; exact h1,
   fun k hk => by rw [hk.resolve_right (by simp [hacp])]; exact h2⟩

theorem agreeIn_at {v v' : List TxIn} (hacp : isAnyoneCanPay ht = true) (h : v'[i]? = v[i]?) : AgreeIn ht i v v' :=
  agreeIn_of_acp hacp (congrArg _ h) (congrArg _ h)

theorem agreeOut_at {v v' : List TxOut} (hall : isAll ht = false) (h : isSingle ht = true → v'[i]? = v[i]?) :
    AgreeOut ht i v v' := fun k hk => by
  obtain ⟨hs, rfl⟩ := hk.resolve_left (by simp [hall])
  exact h hs

theorem agree_vin {t : Tx} {v' : List TxIn} (h : AgreeIn ht i t.vin v') : Agree ht i t { t with vin := v' } :=
  agree_iff.2 ⟨rfl, rfl, h, fun _ _ => rfl⟩

theorem agree_vout {t : Tx} {v' : List TxOut} (h : AgreeOut ht i t.vout v') : Agree ht i t { t with vout := v' } :=
  agree_iff.2 ⟨rfl, rfl, ⟨fun _ _ => rfl, fun _ _ => rfl⟩, h⟩

end

/-- each row of `Committed`, negated, says that the edit stays away from the positions `AgreeIn` /
    `AgreeOut` read -/
theorem uncommitted_agree (ht i : Nat) (e : Edit) (t : Tx) (h : Committed ht i e = false)
    (hsafe : insertSafe i e t = true) : Agree ht i t (apply e t) := by
  cases e <;> simp [Committed, committed, insertSafe] at h hsafe
  case setPrevHash k x => exact agree_vin (agreeIn_at h.2 (List.getElem?_modify_ne _ _ h.1))
  case setPrevN k x => exact agree_vin (agreeIn_at h.2 (List.getElem?_modify_ne _ _ h.1))
  case setScriptSig k x =>
    exact agree_vin ⟨fun j _ => getElem?_modify_map _ _ _ _ _ fun _ _ => rfl,
      fun j _ => getElem?_modify_map _ _ _ _ _ fun _ _ => rfl⟩
  case setSequence k x =>
    refine agree_vin ⟨fun j _ => getElem?_modify_map _ _ _ _ _ fun _ _ => rfl,
      fun j hj => getElem?_modify_map _ _ _ _ _ fun hkj => absurd (hkj ▸ ?_) h.1⟩
    exact hj.resolve_right fun ⟨ha, hall⟩ => by simp [h.2 ha] at hall
  case insertInput k x => exact agree_vin (agreeIn_at h.1 (getElem?_pyInsert_lt _ _ h.2 hsafe))
  case removeInput k => exact agree_vin (agreeIn_at h.1 (List.getElem?_eraseIdx_of_lt h.2))
  case swapInputs k l =>
    by_cases hkl : k = l
    · rw [hkl, apply, swapAt_self]; exact agree_vin ⟨fun _ _ => rfl, fun _ _ => rfl⟩
    · exact agree_vin (agreeIn_at (h hkl).1.1 (getElem?_swapAt_ne _ (h hkl).1.2 (h hkl).2))
  case setValue k x => exact agree_vout (agreeOut_at h.1 fun hs => List.getElem?_modify_ne _ _ (h.2 hs))
  case setSpk k x => exact agree_vout (agreeOut_at h.1 fun hs => List.getElem?_modify_ne _ _ (h.2 hs))
  case insertOutput k x =>
    exact agree_vout (agreeOut_at h.1 fun hs => getElem?_pyInsert_lt _ _ (h.2 hs) hsafe)
  case removeOutput k => exact agree_vout (agreeOut_at h.1 fun hs => List.getElem?_eraseIdx_of_lt (h.2 hs))
  case swapOutputs k l =>
    by_cases hkl : k = l
    · rw [hkl, apply, swapAt_self]; exact agree_vout fun _ _ => rfl
    · exact agree_vout (agreeOut_at (h hkl).1 fun hs => getElem?_swapAt_ne _ ((h hkl).2 hs).1 ((h hkl).2 hs).2)
  case setWitness w => exact agree_iff.2 ⟨rfl, rfl, ⟨fun _ _ => rfl, fun _ _ => rfl⟩, fun _ _ => rfl⟩

theorem committed_of_changes {ht i : Nat} {e : Edit} {t : Tx} (h : changes ht i e t)
    (hsafe : insertSafe i e t = true) : Committed ht i e = true := by
  cases hC : Committed ht i e
  · obtain ⟨p, hp, hne⟩ := h
    exact absurd (uncommitted_agree ht i e t hC hsafe p hp) hne
  · rfl

/-- `hg`: `g` reads the field that `f` sets -/
theorem modify_field_ne {α β} {l : List α} {k : Nat} {f : α → α} (g : α → β) (hg : ∀ x, g (f x) = g x → f x = x)
    (h : l.modify k f ≠ l) : (l.modify k f)[k]?.map g ≠ l[k]?.map g := by
  intro heq
  apply h
  apply List.ext_getElem?
  intro j
  by_cases hkj : k = j
  · subst hkj
    rw [List.getElem?_modify_eq] at heq ⊢
    cases hx : l[k]? with
    | none => rfl
    | some x =>
      rw [hx] at heq
      simp only [Option.map_eq_map, Option.map_some, Option.some.injEq] at heq ⊢
      exact hg x heq
  · rw [List.getElem?_modify_ne _ _ hkj]

theorem changes_of_field_edit {ht i : Nat} {e : Edit} {t : Tx} (hC : Committed ht i e = true)
    (hf : isFieldSet e = true) (hne : apply e t ≠ t) : changes ht i e t := by
  have vin_ne : ∀ {v : List TxIn}, ({ t with vin := v } : Tx) ≠ t → v ≠ t.vin := fun h hv => h (hv ▸ rfl)
  have vout_ne : ∀ {v : List TxOut}, ({ t with vout := v } : Tx) ≠ t → v ≠ t.vout := fun h hv => h (hv ▸ rfl)
  cases e with
  | setPrevHash k x =>
    exact ⟨.prevHash k, hC, fun h => modify_field_ne (fun y : TxIn => y.prevout.hash)
      (fun y hy => by rcases y with ⟨⟨_, _⟩, _, _⟩; simp_all) (vin_ne hne) (optBytes_inj h)⟩
  | setPrevN k x =>
    exact ⟨.prevN k, hC, fun h => modify_field_ne (fun y : TxIn => y.prevout.n)
      (fun y hy => by rcases y with ⟨⟨_, _⟩, _, _⟩; simp_all) (vin_ne hne) (optNat_inj h)⟩
  | setSequence k x =>
    exact ⟨.sequence k, hC, fun h => modify_field_ne (fun y : TxIn => y.nSequence)
      (fun y hy => by cases y; simp_all) (vin_ne hne) (optNat_inj h)⟩
  | setValue k x =>
    exact ⟨.value k, hC, fun h => modify_field_ne (fun y : TxOut => y.nValue)
      (fun y hy => by cases y; simp_all) (vout_ne hne) (optInt_inj h)⟩
  | setSpk k x =>
    exact ⟨.spk k, hC, fun h => modify_field_ne (fun y : TxOut => y.scriptPubKey)
      (fun y hy => by cases y; simp_all) (vout_ne hne) (optBytes_inj h)⟩
  | setLockTime n => exact ⟨.lockTime, rfl, fun h => hne (by cases t; simp_all [apply, Part.get])⟩
  | setVersion v => exact ⟨.version, rfl, fun h => hne (by cases t; simp_all [apply, Part.get])⟩
  | _ => simp [isFieldSet] at hf

theorem changes_of_count_edit {ht i : Nat} {t : Tx} :
    (∀ k x, isAnyoneCanPay ht = false → changes ht i (.insertInput k x) t) ∧
    (∀ k, isAnyoneCanPay ht = false → k < t.vin.length → changes ht i (.removeInput k) t) ∧
    (∀ k o, isAll ht = true → changes ht i (.insertOutput k o) t) ∧
    (∀ k, isAll ht = true → k < t.vout.length → changes ht i (.removeOutput k) t) := by
  refine ⟨fun k x h => ⟨.inCount, by simp [committed, h], ?_⟩, fun k h hk => ⟨.inCount, by simp [committed, h], ?_⟩,
    fun k o h => ⟨.outCount, h, ?_⟩, fun k h hk => ⟨.outCount, h, ?_⟩⟩
  · simp [apply, Part.get, length_pyInsert]
  · simp [apply, Part.get, List.length_eraseIdx, hk]; omega
  · simp [apply, Part.get, length_pyInsert]
  · simp [apply, Part.get, List.length_eraseIdx, hk]; omega

/-! ### the executable comparison `changedParts` decides `Agree` -/

theorem mem_allParts (n : Nat) (p : Part) :
    p ∈ allParts n ↔
      match p with
      | .prevHash k | .prevN k | .scriptSig k | .sequence k | .value k | .spk k => k < n
      | _ => True := by
  cases p <;> simp [allParts, List.mem_flatMap, List.mem_range]

theorem changedParts_nil_iff (ht i : Nat) (t t' : Tx) : changedParts ht i t t' = [] ↔ Agree ht i t t' := by
  unfold changedParts Agree
  rw [List.filter_eq_nil_iff]
  constructor
  · intro h p hc
    by_cases hp : p ∈ allParts (max (max t.vin.length t'.vin.length) (max t.vout.length t'.vout.length))
    · simpa [hc] using h p hp
    · -- a position beyond both lists is `absent` on both sides
      rw [mem_allParts] at hp
      cases p <;> simp only [not_true_eq_false] at hp <;>
        simp only [Part.get] <;>
        rw [List.getElem?_eq_none (by omega), List.getElem?_eq_none (by omega)]
  · intro h p _
    by_cases hc : committed ht i p = true
    · simp [h p hc]
    · simp [hc]

end BtcVerif.CommitProofs

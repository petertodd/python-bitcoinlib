/-
  C09, operations with reference arguments: `allocPlan` and the local clauses of `InvX`.
-/
import BtcVerif.Proofs.HeapAliasInv

namespace BtcVerif.Model.Heap
open BtcVerif BtcVerif.Spec.ValueSem BtcVerif.Model.HeapX

def rootKindP (h0 : Heap) : Plan → Option Nat
  | .ref a => kindAt h0 a
  | .node _ sc _ => some sc.kind

def rootFrozenP (h0 : Heap) : Plan → Prop
  | .ref a => ∃ o : Obj, h0[a]? = some o ∧ Frozen o
  | .node m _ _ => m = false

mutual
/-- a plan whose allocation keeps closure of immutability, classes and typing -/
def GoodX (h0 : Heap) : Plan → Prop
  | .ref a => a < h0.length
  | .node m sc kids =>
      (sc.alwaysImm = true → m = false) ∧
      (m = false → ∀ k ∈ kids, rootFrozenP h0 k) ∧
      (∃ ks, mapO (rootKindP h0) kids = some ks ∧ refKindsOK sc ks) ∧
      GoodXL h0 kids
def GoodXL (h0 : Heap) : List Plan → Prop
  | [] => True
  | p :: ps => GoodX h0 p ∧ GoodXL h0 ps
end

theorem goodXL_iff {h0 : Heap} : ∀ {ps : List Plan}, GoodXL h0 ps ↔ ∀ p ∈ ps, GoodX h0 p
  | [] => by simp [GoodXL]
  | p :: ps => by simp [GoodXL, goodXL_iff (ps := ps)]

theorem kindAt_append {h : Heap} (e : Heap) {c : Addr} (hc : c < h.length) : kindAt (h ++ e) c = kindAt h c := by
  simp [kindAt, List.getElem?_append_left hc]

theorem kindAt_append_some {h : Heap} (e : Heap) {c : Addr} {k : Nat} (hk : kindAt h c = some k) :
    kindAt (h ++ e) c = some k := by
  obtain ⟨o, ho, _⟩ := kindAt_some hk
  rw [kindAt_append e (List.getElem?_eq_some_iff.mp ho).1]; exact hk

theorem typedObj_append {h : Heap} (e : Heap) {o : Obj} (ht : TypedObj h o) : TypedObj (h ++ e) o := by
  obtain ⟨ks, hks, hok⟩ := ht
  exact ⟨ks, mapO_congr_some (fun c _ k hk => kindAt_append_some e hk) hks, hok⟩

theorem typedRefs_append_one {h : Heap} {o : Obj} (ht : TypedRefs h) (ho : TypedObj (h ++ [o]) o) :
    TypedRefs (h ++ [o]) := by
  intro a oa hoa
  rcases getElem?_append_one hoa with h1 | rfl
  · exact typedObj_append [o] (ht a oa h1)
  · exact ho

theorem immClosedX_append_one {h : Heap} {o : Obj} (hic : ImmClosedX h)
    (ho : o.isMut = false → ∀ c ∈ o.refs, ∃ oc : Obj, h[c]? = some oc ∧ Frozen oc) : ImmClosedX (h ++ [o]) :=
  immClosed_append_one hic ho

theorem kindOKX_append_one {h : Heap} {o : Obj} (hk : KindOKX h)
    (ho : o.sc.alwaysImm = true → o.isMut = false) : KindOKX (h ++ [o]) := by
  intro a oa hoa hai
  rcases getElem?_append_one hoa with h1 | rfl
  · exact hk a oa h1 hai
  · exact ho hai

structure ResX (h0 h : Heap) (p : Plan) (r : Heap × Addr) : Prop where
  ext : ∃ e, r.1 = h ++ e ∧ ∀ o ∈ e, o.cHash = none ∧ o.cPy = none
  imm : ImmClosedX h → ImmClosedX r.1
  kind : KindOKX h → KindOKX r.1
  typed : TypedRefs h → TypedRefs r.1
  rkind : ∀ k, rootKindP h0 p = some k → kindAt r.1 r.2 = some k
  rfrozen : rootFrozenP h0 p → ∃ o : Obj, r.1[r.2]? = some o ∧ Frozen o

structure ResXL (h0 h : Heap) (ps : List Plan) (r : Heap × List Addr) : Prop where
  ext : ∃ e, r.1 = h ++ e ∧ ∀ o ∈ e, o.cHash = none ∧ o.cPy = none
  imm : ImmClosedX h → ImmClosedX r.1
  kind : KindOKX h → KindOKX r.1
  typed : TypedRefs h → TypedRefs r.1
  rkinds : ∀ ks, mapO (rootKindP h0) ps = some ks → mapO (kindAt r.1) r.2 = some ks
  rfrozen : ∀ (i : Nat) (p : Plan) (a : Addr), ps[i]? = some p → r.2[i]? = some a → rootFrozenP h0 p →
    ∃ o : Obj, r.1[a]? = some o ∧ Frozen o
  len : r.2.length = ps.length

mutual
theorem allocPlanX_spec (h0 : Heap) : ∀ (p : Plan) (h : Heap), (∃ e0, h = h0 ++ e0) → GoodX h0 p →
    ResX h0 h p (allocPlan h p)
  | .ref a, h, hpre, hg => by
    obtain ⟨e0, rfl⟩ := hpre
    simp only [GoodX] at hg
    refine ⟨⟨[], by simp [allocPlan], by simp⟩, fun x => by simpa [allocPlan] using x,
      fun x => by simpa [allocPlan] using x, fun x => by simpa [allocPlan] using x, ?_, ?_⟩
    · intro k hk
      simp only [rootKindP] at hk
      simpa [allocPlan] using kindAt_append_some e0 hk
    · rintro ⟨o, ho, hf⟩
      exact ⟨o, by simpa [allocPlan] using getElem?_append_of_some e0 ho, hf⟩
  | .node m sc kids, h, hpre, hg => by
    simp only [GoodX] at hg
    obtain ⟨gk, gi, ⟨ks, hks, hok⟩, gl⟩ := hg
    have IH := allocPlansX_spec h0 kids h hpre gl
    obtain ⟨e, he, hcache⟩ := IH.ext
    simp only [allocPlan]
    generalize hr : allocPlans h kids = r at *
    obtain ⟨h1, as⟩ := r
    simp only at he IH ⊢
    let onew : Obj := { isMut := m, sc := sc, refs := as }
    have hnew : (h1 ++ [onew])[h1.length]? = some onew := by simp
    have hkinds1 : mapO (kindAt h1) as = some ks := IH.rkinds ks hks
    have hkinds : mapO (kindAt (h1 ++ [onew])) as = some ks :=
      mapO_congr_some (fun c _ k hk => kindAt_append_some [onew] hk) hkinds1
    refine ⟨⟨e ++ [onew], by simp [he, onew], ?_⟩, ?_, ?_, ?_, ?_, ?_⟩
    · intro o ho
      simp only [List.mem_append, List.mem_singleton] at ho
      rcases ho with ho | rfl
      · exact hcache o ho
      · exact ⟨rfl, rfl⟩
    · intro hic
      apply immClosedX_append_one (IH.imm hic)
      intro hm c hc
      obtain ⟨i, hi, rfl⟩ := List.getElem_of_mem hc
      simp only [onew] at hi
      have hi' : i < kids.length := by rw [← IH.len]; exact hi
      exact IH.rfrozen i kids[i] as[i] (List.getElem?_eq_getElem hi') (List.getElem?_eq_getElem hi)
        (gi (by simpa [onew] using hm) kids[i] (List.getElem_mem hi'))
    · intro hk
      exact kindOKX_append_one (IH.kind hk) gk
    · intro ht
      exact typedRefs_append_one (IH.typed ht) ⟨ks, hkinds, hok⟩
    · intro k hk
      simp only [rootKindP, Option.some.injEq] at hk
      simp [kindAt, onew, hk]
    · intro hf
      exact ⟨onew, hnew, hf⟩
theorem allocPlansX_spec (h0 : Heap) : ∀ (ps : List Plan) (h : Heap), (∃ e0, h = h0 ++ e0) → GoodXL h0 ps →
    ResXL h0 h ps (allocPlans h ps)
  | [], h, _, _ => by
    refine ⟨⟨[], by simp [allocPlans], by simp⟩, fun x => by simpa [allocPlans] using x,
      fun x => by simpa [allocPlans] using x, fun x => by simpa [allocPlans] using x, ?_, ?_, by simp [allocPlans]⟩
    · intro ks hks; simp [mapO] at hks; subst hks; simp [allocPlans, mapO]
    · intro i p a hp; simp at hp
  | p :: ps, h, hpre, hg => by
    simp only [GoodXL] at hg
    have IH1 := allocPlanX_spec h0 p h hpre hg.1
    obtain ⟨e1, he1, hc1⟩ := IH1.ext
    have hpre1 : ∃ e0, (allocPlan h p).1 = h0 ++ e0 := by
      obtain ⟨e0, rfl⟩ := hpre
      exact ⟨e0 ++ e1, by rw [he1]; simp⟩
    have IH2 := allocPlansX_spec h0 ps (allocPlan h p).1 hpre1 hg.2
    obtain ⟨e2, he2, hc2⟩ := IH2.ext
    simp only [allocPlans]
    refine ⟨⟨e1 ++ e2, by rw [he2, he1]; simp, ?_⟩, fun x => IH2.imm (IH1.imm x), fun x => IH2.kind (IH1.kind x),
      fun x => IH2.typed (IH1.typed x), ?_, ?_, by simp [IH2.len]⟩
    · intro o ho
      rcases List.mem_append.mp ho with h1 | h1
      · exact hc1 o h1
      · exact hc2 o h1
    · intro ks hks
      simp only [mapO] at hks
      cases hk1 : rootKindP h0 p with
      | none => simp [hk1] at hks
      | some k =>
        cases hk2 : mapO (rootKindP h0) ps with
        | none => simp [hk1, hk2] at hks
        | some ks' =>
          simp only [hk1, hk2, Option.some.injEq] at hks
          subst hks
          have a1 := IH1.rkind k hk1
          have a2 := IH2.rkinds ks' hk2
          have a1' : kindAt (allocPlans (allocPlan h p).1 ps).1 (allocPlan h p).2 = some k := by
            rw [he2]; exact kindAt_append_some e2 a1
          simp [mapO, a1', a2]
    · intro i q a hq ha hri
      cases i with
      | zero =>
        simp at hq ha; subst hq; subst ha
        obtain ⟨o, ho, hf⟩ := IH1.rfrozen hri
        exact ⟨o, by rw [he2]; exact getElem?_append_of_some e2 ho, hf⟩
      | succ i =>
        simp at hq ha
        exact IH2.rfrozen i q a hq ha hri
end

theorem invx_alloc {h : Heap} (hinv : InvX h) {p : Plan} (hg : GoodX h p) :
    InvX (allocPlan h p).1 ∧ (∃ e, (allocPlan h p).1 = h ++ e) ∧
      (∀ k, rootKindP h p = some k → kindAt (allocPlan h p).1 (allocPlan h p).2 = some k) := by
  have hres := allocPlanX_spec h p h ⟨[], by simp⟩ hg
  obtain ⟨e, he, hnew⟩ := hres.ext
  refine ⟨?_, ⟨e, he⟩, hres.rkind⟩
  rw [he]
  exact invx_ext hinv hnew (by rw [← he]; exact hres.imm hinv.immClosed) (by rw [← he]; exact hres.kind hinv.kindOK)
    (by rw [← he]; exact hres.typed hinv.typed)

theorem trx_alloc {h : Heap} (hinv : InvX h) {p : Plan} (hg : GoodX h p) :
    TrX h (allocPlan h p).1 ∧ (∃ e, (allocPlan h p).1 = h ++ e) ∧
      (∀ k, rootKindP h p = some k → kindAt (allocPlan h p).1 (allocPlan h p).2 = some k) := by
  obtain ⟨hi, ⟨e, he⟩, hk⟩ := invx_alloc hinv hg
  refine ⟨⟨hi, ?_⟩, ⟨e, he⟩, hk⟩
  intro a o ho _
  exact ⟨o, by rw [he]; exact getElem?_append_of_some e ho, rfl, rfl, rfl⟩

end BtcVerif.Model.Heap

/-
  The wire format of transactions, headers and blocks on the codec library: the serialisers give the
  `Spec.Wire` bytes on `TxRange` / `BlockRange`; `dec_deTx` (with the marker/flag peek and its `seek(pos)`
  fallback), `dec_deHeader`, `dec_deBlock`; `Serializable.deserialize`; the normal form of a round trip;
  `Clean`: on any input the parsers end in a value, truncation or the size guard.
-/
import BtcVerif.Proofs.Codec
import BtcVerif.Spec.Merkle

namespace BtcVerif.Codec
open BtcVerif BtcVerif.Model.Wire BtcVerif.Spec.Wire
open BtcVerif.Spec.Merkle (TxRange BlockRange)

theorem ok_bind {α β : Type} (x : α) (f : α → Res β) : (Except.ok x : Res α) >>= f = f x := rfl
theorem err_bind {α β : Type} (e : Exc) (f : α → Res β) : (Except.error e : Res α) >>= f = .error e := rfl

theorem dec_deRepeat_id {α : Type} {p : Parser α} {enc : α → Bytes} (xs : List α)
    (h : ∀ x ∈ xs, Dec p (enc x) x) : Dec (deRepeat p xs.length) ((xs.map enc).flatten) xs := by
  have := dec_deRepeat (g := id) xs h
  simpa using this

theorem dec_deVector_id {α : Type} {p : Parser α} {enc : α → Bytes} (xs : List α)
    (hlen : xs.length < 2 ^ 64) (h : ∀ x ∈ xs, Dec p (enc x) x) :
    Dec (deVector p) (vec enc xs) xs := by
  have := dec_deVector (g := id) xs hlen h
  simpa using this

/-! ### serialisers produce the Spec bytes (on `TxRange` / `BlockRange`, which `WFTx` / `WFBlock` imply) -/

theorem packU_ok {w n : Nat} (h : n < 256 ^ w) : packU w n = .ok (leBytes w n) := if_pos h

theorem packI_ok {w : Nat} {i : Int} (h1 : -(2 ^ (8 * w - 1) : Int) ≤ i) (h2 : i < 2 ^ (8 * w - 1)) :
    packI w i = .ok (leBytesInt w i) := if_pos ⟨h1, h2⟩

theorem serVarInt_ok {n : Nat} (h : n < 2 ^ 64) : serVarInt n = .ok (compactSize n) := by
  unfold serVarInt compactSize
  split
  · rfl
  · split
    · rw [packU_ok (by omega)]; rfl
    · split
      · rw [packU_ok (by omega)]; rfl
      · rw [packU_ok (by omega)]; rfl

/-- from 2^64 on `struct.pack('<Q')` refuses the value -/
theorem serVarInt_too_long {i : Nat} (h : 2 ^ 64 ≤ i) : serVarInt i = .error structError := by
  unfold serVarInt packU
  rw [if_neg (by omega), if_neg (by omega), if_neg (by omega), if_neg (by omega)]
  rfl

theorem serBytes_ok {b : Bytes} (h : b.length < 2 ^ 64) : serBytes b = .ok (varBytes b) := by
  unfold serBytes varBytes
  rw [serVarInt_ok h]; rfl

theorem serBytes_le {b : Bytes} (h : b.length ≤ maxSize) : serBytes b = .ok (varBytes b) :=
  serBytes_ok (Nat.lt_of_le_of_lt h maxSize_lt)

theorem mapM_ok {α β : Type} {f : α → Res β} {g : α → β} :
    ∀ (xs : List α), (∀ x ∈ xs, f x = .ok (g x)) → xs.mapM f = .ok (xs.map g)
  | [], _ => rfl
  | x :: xs, h => by
      rw [List.mapM_cons, h x List.mem_cons_self,
        mapM_ok xs (fun y hy => h y (List.mem_cons_of_mem _ hy))]
      rfl

theorem serVector_ok {α : Type} {ser : α → Res Bytes} {enc : α → Bytes} (xs : List α)
    (hlen : xs.length < 2 ^ 64) (h : ∀ x ∈ xs, ser x = .ok (enc x)) :
    serVector ser xs = .ok (vec enc xs) := by
  unfold serVector vec
  rw [serVarInt_ok hlen, mapM_ok xs h]; rfl

theorem serOutPoint_ok {o : OutPoint} (h : WFOutPoint o) : serOutPoint o = .ok (outPoint o) := by
  unfold serOutPoint outPoint
  rw [packU_ok (show o.n < 256 ^ 4 by have := h.2; omega), if_neg (fun hne => hne h.1)]
  rfl

theorem serTxIn_ok {i : TxIn} (h : WFTxIn i) : serTxIn i = .ok (txIn i) := by
  unfold serTxIn txIn
  rw [serOutPoint_ok h.1, serBytes_le h.2.1, packU_ok (show i.nSequence < 256 ^ 4 by have := h.2.2; omega)]
  rfl

theorem serTxOut_ok {o : TxOut} (h : WFTxOut o) : serTxOut o = .ok (txOut o) := by
  unfold serTxOut txOut
  rw [packI_ok (w := 8) h.1 h.2.1, serBytes_le h.2.2]
  rfl

theorem serWitStack_ok {s : WitStack} (h : WFWitStack s) : serWitStack s = .ok (witStack s) :=
  serVector_ok s h.1 (fun b hb => serBytes_le (h.2 b hb))

theorem serWitness_ok {w : List WitStack} (h : ∀ s ∈ w, WFWitStack s) :
    serWitness w = .ok ((w.map witStack).flatten) := by
  unfold serWitness
  rw [mapM_ok w (fun s hs => serWitStack_ok (h s hs))]; rfl

theorem serTx_eq {t : Tx} (h : TxRange t) (inc : Bool) :
    serTx t inc = .ok (if inc && t.hasWitness then txExtended t else txLegacy t) := by
  obtain ⟨hv1, hv2, hin, hout, hvin, hvout, hlen, hwit, hlock⟩ := h
  have e2 := serVector_ok (enc := txIn) t.vin hin (fun i hi => serTxIn_ok (hvin i hi))
  have e3 := serVector_ok (enc := txOut) t.vout hout (fun o ho => serTxOut_ok (hvout o ho))
  have e5 := packU_ok (show t.nLockTime < 256 ^ 4 by omega)
  unfold serTx
  rw [packI_ok (w := 4) hv1 hv2, Tx.hasWitness_eq_not_witIsNull]
  cases inc && !witIsNull t.wit
  · simp only [Bool.false_eq_true, if_false, ok_bind, e2, e3, e5, txLegacy]
    simp [pure, Except.pure, List.append_assoc, ok_bind]
  · simp only [if_true, ok_bind, e2, e3, e5, serWitness_ok hwit, if_neg (Nat.not_lt.2 hlen), txExtended]
    simp [pure, Except.pure, List.append_assoc, ok_bind]

theorem serTx_ok {t : Tx} (h : TxRange t) : serTx t = .ok (txBytes t) := serTx_eq h true

theorem serTx_noWitness_ok {t : Tx} (h : TxRange t) : serTx t false = .ok (txLegacy t) := serTx_eq h false

theorem serHeader_ok {h : Header} (wf : WFHeader h) : serHeader h = .ok (header h) := by
  obtain ⟨hv1, hv2, hp, hm, ht, hb, hn⟩ := wf
  unfold serHeader header
  rw [packI_ok (w := 4) hv1 hv2, packU_ok (show h.nTime < 256 ^ 4 by omega),
    packU_ok (show h.nBits < 256 ^ 4 by omega), packU_ok (show h.nNonce < 256 ^ 4 by omega)]
  simp only [hp, hm, ne_eq, not_true_eq_false, if_false]
  rfl

theorem header_length {h : Header} (wf : WFHeader h) : (header h).length = 80 := by
  obtain ⟨_, _, hp, hm, _⟩ := wf
  simp [header, leBytesInt_length, hp, hm]

theorem serBlock_eq {b : Block} (h : BlockRange b) (inc : Bool) :
    serBlock b inc =
      .ok (header b.hdr ++ vec (fun t => if inc && t.hasWitness then txExtended t else txLegacy t) b.vtx) := by
  unfold serBlock
  rw [serHeader_ok h.1, serVector_ok b.vtx h.2.1 (fun t ht => serTx_eq (h.2.2 t ht) inc)]
  rfl

theorem serBlock_ok {b : Block} (h : BlockRange b) : serBlock b = .ok (block b) := serBlock_eq h true

theorem serBlock_noWitness_ok {b : Block} (h : BlockRange b) :
    serBlock b false = .ok (header b.hdr ++ vec txLegacy b.vtx) := serBlock_eq h false

theorem bind_ok_inv {α β : Type} {x : Res α} {f : α → Res β} {b : β} (h : (x >>= f) = .ok b) :
    ∃ a, x = .ok a ∧ f a = .ok b := by
  cases x with
  | error e => cases h
  | ok a => exact ⟨a, rfl, h⟩

theorem mapM_ok_inv {α β : Type} (f : α → Res β) : ∀ (xs : List α) (ys : List β),
    xs.mapM f = .ok ys → ∀ x ∈ xs, ∃ y, f x = .ok y
  | [], _, _, x, hx => nomatch hx
  | a :: r, ys, h, x, hx => by
    rw [List.mapM_cons] at h
    obtain ⟨b, ha, h⟩ := bind_ok_inv h
    obtain ⟨bs, hr, _⟩ := bind_ok_inv h
    rcases List.mem_cons.mp hx with rfl | hx
    · exact ⟨b, ha⟩
    · exact mapM_ok_inv f r bs hr x hx

theorem packU_ok_inv {w n : Nat} {b : Bytes} (h : packU w n = .ok b) : n < 256 ^ w := by
  unfold packU at h
  split at h
  · assumption
  · cases h

theorem serTxIn_ok_inv {i : TxIn} {b : Bytes} (h : serTxIn i = .ok b) :
    i.prevout.hash.length = 32 ∧ i.prevout.n < 256 ^ 4 ∧ i.nSequence < 256 ^ 4 := by
  obtain ⟨o, ho, h⟩ := bind_ok_inv h
  obtain ⟨_, _, h⟩ := bind_ok_inv h
  obtain ⟨q, hq, _⟩ := bind_ok_inv h
  unfold serOutPoint at ho
  by_cases hl : i.prevout.hash.length = 32
  · simp only [hl, ne_eq, not_true_eq_false, if_false] at ho
    obtain ⟨n, hn, _⟩ := bind_ok_inv ho
    exact ⟨hl, packU_ok_inv hn, packU_ok_inv hq⟩
  · simp only [hl, ne_eq, not_false_eq_true, if_true] at ho
    obtain ⟨_, hthrow, _⟩ := bind_ok_inv ho
    cases hthrow

theorem serVector_ok_inv {α : Type} {ser : α → Res Bytes} {xs : List α} {b : Bytes}
    (h : serVector ser xs = .ok b) : ∀ x ∈ xs, ∃ y, ser x = .ok y := by
  obtain ⟨_, _, h⟩ := bind_ok_inv h
  obtain ⟨ys, hm, _⟩ := bind_ok_inv h
  exact mapM_ok_inv ser xs ys hm

theorem txRange_of_wf {t : Tx} (h : WFTx t) : TxRange t := by
  obtain ⟨h1, h2, _, h4, h5, h6, h7, h8, h9, h10⟩ := h
  refine ⟨h1, h2, h4, h5, h6, h7, ?_, h9, h10⟩
  rcases h8 with h | h <;> simp [h]

theorem blockRange_of_wf {b : Block} (h : WFBlock b) : BlockRange b :=
  ⟨h.1, h.2.1, fun t ht => txRange_of_wf (h.2.2 t ht)⟩

theorem witIsNull_iff (w : List WitStack) : witIsNull w = true ↔ ∀ s ∈ w, s = [] := by
  simp only [witIsNull, List.all_eq_true, List.isEmpty_iff]

theorem hasWitness_wit_ne_nil {t : Tx} (h : t.hasWitness = true) : t.wit ≠ [] := by
  intro h0
  simp [Tx.hasWitness, h0] at h

theorem wit_length_of_hasWitness {t : Tx} (wf : WFTx t) (h : t.hasWitness = true) :
    t.wit.length = t.vin.length := by
  rcases wf.2.2.2.2.2.2.2.1 with h0 | h0
  · exact absurd h0 (hasWitness_wit_ne_nil h)
  · exact h0

/-! ### marker / flag position -/

theorem compactSize_head {n : Nat} (h : 1 ≤ n) : ∃ b tl, compactSize n = b :: tl ∧ b ≠ 0 := by
  unfold compactSize
  split
  · refine ⟨UInt8.ofNat n, [], rfl, ?_⟩
    intro h0
    have := congrArg UInt8.toNat h0
    rw [toNat_ofNat_lt (by omega)] at this
    simp at this
    omega
  · split
    · exact ⟨0xfd, _, rfl, by decide⟩
    · split
      · exact ⟨0xfe, _, rfl, by decide⟩
      · exact ⟨0xff, _, rfl, by decide⟩

/-- what follows the version in the legacy form (vin count first) -/
def legacyBody (t : Tx) : Bytes := vec txIn t.vin ++ (vec txOut t.vout ++ leBytes 4 t.nLockTime)

/-- what follows marker and flag in the extended form -/
def extBody (t : Tx) : Bytes :=
  vec txIn t.vin ++ (vec txOut t.vout ++ ((t.wit.map witStack).flatten ++ leBytes 4 t.nLockTime))

theorem txLegacy_eq (t : Tx) : txLegacy t = leBytesInt 4 t.nVersion ++ legacyBody t := by
  simp [txLegacy, legacyBody, List.append_assoc]

theorem txExtended_eq (t : Tx) : txExtended t = leBytesInt 4 t.nVersion ++ ([0x00, 0x01] ++ extBody t) := by
  simp [txExtended, extBody, List.append_assoc]

theorem legacyBody_shape (t : Tx) (h : 1 ≤ t.vin.length) :
    ∃ b c E, legacyBody t = b :: c :: E ∧ b ≠ 0 := by
  obtain ⟨b, tl, hb, hne⟩ := compactSize_head h
  unfold legacyBody vec
  rw [hb]
  generalize hX : tl ++ (List.map txIn t.vin).flatten ++ (compactSize t.vout.length ++
    (List.map txOut t.vout).flatten ++ leBytes 4 t.nLockTime) = X
  have hlen : 4 ≤ X.length := by
    rw [← hX]; simp only [List.length_append, leBytes_length]; omega
  match X, hlen with
  | c :: E, _ => exact ⟨b, c, E, by simp [← hX, List.append_assoc], hne⟩

/-! ### `CTransaction.stream_deserialize` -/

/-- the extended branch, as a parser of what follows the flag byte -/
def txExtChain (ver : Int) : Parser Tx := fun r2 => do
  let (vin, r) ← deVector deTxIn r2
  let (vout, r) ← deVector deTxOut r
  let (wit, r) ← deRepeat deWitStack vin.length r
  let (lock, r) ← readU 4 r
  pure ({ nVersion := ver, vin := vin, vout := vout, wit := wit, nLockTime := lock }, r)

/-- the legacy branch, as a parser of what follows the version (after `f.seek(pos)`) -/
def txLegacyChain (ver : Int) : Parser Tx := fun r0 => do
  let (vin, r) ← deVector deTxIn r0
  let (vout, r) ← deVector deTxOut r
  let (lock, r) ← readU 4 r
  pure ({ nVersion := ver, vin := vin, vout := vout, wit := [], nLockTime := lock }, r)

/-- read marker and flag; continue after them (`K`) or seek back and continue from the marker (`L`) -/
def peek (K L : Parser Tx) : Parser Tx := fun r0 => do
  let (marker, r1) ← readU 1 r0
  let (flag, r2) ← readU 1 r1
  if marker = 0 ∧ flag = 1 then K r2 else L r0

theorem deTx_eq : deTx = fun s => readI 4 s >>= fun (ver, r0) =>
    peek (txExtChain ver) (txLegacyChain ver) r0 := by
  funext s
  rfl

theorem readU1_nil : readU 1 [] = .error .trunc := by
  simp [readU, serRead, MAX_SIZE]
  rfl

theorem readU1_cons (b : UInt8) (s : Bytes) : readU 1 (b :: s) = .ok (b.toNat, s) := by
  simp [readU, serRead, MAX_SIZE]
  rfl

theorem dec_peek_ext {K L : Parser Tx} {E : Bytes} {t : Tx} (hK : Dec K E t) :
    Dec (peek K L) ([0x00, 0x01] ++ E) t := by
  have hmf : ((0x00 : UInt8).toNat = 0 ∧ (0x01 : UInt8).toNat = 1) := by decide
  constructor
  · intro rest
    simp only [peek, List.cons_append, List.nil_append, readU1_cons, ok_bind]
    simp only [hmf, and_self, if_true]
    exact hK.1 rest
  · intro p hp hne
    match p, hp, hne with
    | [], _, _ => simp only [peek, readU1_nil, err_bind]
    | [x], _, _ => simp only [peek, readU1_cons, readU1_nil, ok_bind, err_bind]
    | x :: y :: q, hp, hne =>
      simp only [List.cons_append, List.nil_append, List.cons_prefix_cons] at hp
      obtain ⟨rfl, rfl, hq⟩ := hp
      have hqn : q ≠ E := by
        intro h; apply hne; simp [h]
      simp only [peek, readU1_cons, ok_bind]
      simp only [hmf, and_self, if_true]
      exact hK.2 q hq hqn

theorem dec_peek_legacy {K L : Parser Tx} {b c : UInt8} {E : Bytes} {t : Tx} (hb : b ≠ 0)
    (hL : Dec L (b :: c :: E) t) : Dec (peek K L) (b :: c :: E) t := by
  have hb' : ¬ (b.toNat = 0 ∧ c.toNat = 1) := by
    intro h
    apply hb
    exact UInt8.toNat_inj.1 (by simpa using h.1)
  constructor
  · intro rest
    simp only [peek, List.cons_append, readU1_cons, ok_bind, hb', if_false]
    exact hL.1 rest
  · intro p hp hne
    match p, hp, hne with
    | [], _, _ => simp only [peek, readU1_nil, err_bind]
    | [x], _, _ => simp only [peek, readU1_cons, readU1_nil, ok_bind, err_bind]
    | x :: y :: q, hp, hne =>
      have hp' := hp
      simp only [List.cons_prefix_cons] at hp'
      obtain ⟨rfl, rfl, _⟩ := hp'
      simp only [peek, readU1_cons, ok_bind, hb', if_false]
      exact hL.2 _ hp hne

theorem dec_txExtChain (t : Tx) (wf : WFTx t) (hlen : t.wit.length = t.vin.length) :
    Dec (txExtChain t.nVersion) (extBody t) t := by
  obtain ⟨_, _, _, hin, hout, hvin, hvout, _, hwit, hlock⟩ := wf
  unfold txExtChain extBody
  refine Dec.bind (dec_deVector_id t.vin hin (fun i hi => dec_deTxIn i (hvin i hi))) ?_
  refine Dec.bind (dec_deVector_id t.vout hout (fun o ho => dec_deTxOut o (hvout o ho))) ?_
  have hw := dec_deRepeat_id (p := deWitStack) (enc := witStack) t.wit
    (fun s hs => dec_deWitStack s (hwit s hs))
  rw [hlen] at hw
  refine Dec.bind hw ?_
  exact Dec.bind_last (dec_readU 4 t.nLockTime (by omega) hlock) (fun r => rfl)

theorem dec_txLegacyChain (t : Tx) (wf : WFTx t) :
    Dec (txLegacyChain t.nVersion) (legacyBody t) { t with wit := [] } := by
  obtain ⟨_, _, _, hin, hout, hvin, hvout, _, hwit, hlock⟩ := wf
  unfold txLegacyChain legacyBody
  refine Dec.bind (dec_deVector_id t.vin hin (fun i hi => dec_deTxIn i (hvin i hi))) ?_
  refine Dec.bind (dec_deVector_id t.vout hout (fun o ho => dec_deTxOut o (hvout o ho))) ?_
  exact Dec.bind_last (dec_readU 4 t.nLockTime (by omega) hlock) (fun r => rfl)

theorem dec_deTx (t : Tx) (wf : WFTx t) : Dec deTx (txBytes t) (normTx t) := by
  rw [deTx_eq]
  unfold txBytes normTx
  by_cases hw : t.hasWitness = true
  · simp only [hw, if_true]
    rw [txExtended_eq]
    refine Dec.bind (dec_readI4 t.nVersion wf.1 wf.2.1) ?_
    show Dec (peek (txExtChain t.nVersion) (txLegacyChain t.nVersion)) _ _
    exact dec_peek_ext (dec_txExtChain t wf (wit_length_of_hasWitness wf hw))
  · have hw' : t.hasWitness = false := by simpa using hw
    simp only [hw', Bool.false_eq_true, if_false]
    rw [txLegacy_eq]
    refine Dec.bind (dec_readI4 t.nVersion wf.1 wf.2.1) ?_
    show Dec (peek (txExtChain t.nVersion) (txLegacyChain t.nVersion)) _ _
    obtain ⟨b, c, E, hE, hb⟩ := legacyBody_shape t wf.2.2.1
    have hL := dec_txLegacyChain t wf
    rw [hE] at hL ⊢
    exact dec_peek_legacy hb hL

theorem dec_deHeader (h : Header) (wf : WFHeader h) : Dec deHeader (header h) h := by
  obtain ⟨hv1, hv2, hp, hm, ht, hb, hn⟩ := wf
  unfold deHeader header
  simp only [List.append_assoc]
  refine Dec.bind (dec_readI4 h.nVersion hv1 hv2) ?_
  dsimp only
  refine Dec.bind (dec_serRead h.hashPrevBlock 32 hp (by decide)) ?_
  dsimp only
  refine Dec.bind (dec_serRead h.hashMerkleRoot 32 hm (by decide)) ?_
  dsimp only
  refine Dec.bind (dec_readU 4 h.nTime (by omega) ht) ?_
  dsimp only
  refine Dec.bind (dec_readU 4 h.nBits (by omega) hb) ?_
  dsimp only
  exact Dec.bind_last (dec_readU 4 h.nNonce (by omega) hn) (fun r => rfl)

/-- a block after a round trip: every transaction in normal form -/
def normBlock (b : Block) : Block := { b with vtx := b.vtx.map normTx }

theorem dec_deBlock (b : Block) (wf : WFBlock b) : Dec deBlock (block b) (normBlock b) := by
  unfold deBlock block normBlock
  refine Dec.bind (dec_deHeader b.hdr wf.1) ?_
  exact Dec.bind_last
    (dec_deVector (g := normTx) b.vtx wf.2.1 (fun t ht => dec_deTx t (wf.2.2 t ht))) (fun r => rfl)

/-! ### `Serializable.deserialize` (the extra-data rule) -/

theorem Dec.deserialize_exact {α : Type} {d : Parser α} {e : Bytes} {a : α} (h : Dec d e a) (pad : Bool) :
    deserialize d e pad = .ok a := by
  unfold deserialize
  rw [h.exact]
  simp

theorem Dec.deserialize_prefix {α : Type} {d : Parser α} {e p : Bytes} {a : α} (h : Dec d e a)
    (hp : p <+: e) (hne : p ≠ e) (pad : Bool) : deserialize d p pad = .err .trunc := by
  unfold deserialize
  rw [h.2 p hp hne]

theorem Dec.deserialize_extra {α : Type} {d : Parser α} {e x : Bytes} {a : α} (h : Dec d e a)
    (hx : x ≠ []) : deserialize d (e ++ x) false = .extra a x := by
  unfold deserialize
  rw [h.1 x]
  have : x.length ≠ 0 := by
    intro h0; exact hx (List.length_eq_zero_iff.1 h0)
  simp [this]

theorem Dec.deserialize_padding {α : Type} {d : Parser α} {e x : Bytes} {a : α} (h : Dec d e a) :
    deserialize d (e ++ x) true = .ok a := by
  unfold deserialize
  rw [h.1 x]
  simp

theorem Dec.of_ser {α : Type} {d : Parser α} {e bs : Bytes} {a : α} {ser : Res Bytes} (hd : Dec d e a)
    (hs : ser = .ok e) (h : ser = .ok bs) : Dec d bs a :=
  Except.ok.inj (hs.symm.trans h) ▸ hd

theorem dec_deTx_ser {t : Tx} (wf : WFTx t) {bs : Bytes} (h : serTx t = .ok bs) : Dec deTx bs (normTx t) :=
  (dec_deTx t wf).of_ser (serTx_ok (txRange_of_wf wf)) h

theorem dec_deHeader_ser {h : Header} (wf : WFHeader h) {bs : Bytes} (hs : serHeader h = .ok bs) :
    Dec deHeader bs h :=
  (dec_deHeader h wf).of_ser (serHeader_ok wf) hs

theorem dec_deBlock_ser {b : Block} (wf : WFBlock b) {bs : Bytes} (hs : serBlock b = .ok bs) :
    Dec deBlock bs (normBlock b) :=
  (dec_deBlock b wf).of_ser (serBlock_ok (blockRange_of_wf wf)) hs

theorem sound_of_dec_norm {α : Type} {enc : α → Bytes} {dec : Parser α} {WF : α → Prop} {norm : α → α}
    (h : ∀ a, WF a → Dec dec (enc a) (norm a)) : Sound enc dec (fun a => WF a ∧ norm a = a) :=
  ⟨fun a rest ⟨wf, hn⟩ => by have := (h a wf).1 rest; rwa [hn] at this,
   fun a p ⟨wf, _⟩ hp hne => (h a wf).2 p hp hne⟩

theorem normTx_of_hasWitness {t : Tx} (h : t.hasWitness = true) : normTx t = t := by
  simp [normTx, h]

theorem normTx_of_not_hasWitness {t : Tx} (h : t.hasWitness = false) : normTx t = { t with wit := [] } := by
  simp [normTx, h]

theorem hasWitness_strip (t : Tx) : ({ t with wit := [] } : Tx).hasWitness = false := by
  simp [Tx.hasWitness]

theorem wf_strip {t : Tx} (wf : WFTx t) : WFTx { t with wit := [] } := by
  obtain ⟨hv1, hv2, h1, hin, hout, hvin, hvout, _, _, hlock⟩ := wf
  exact ⟨hv1, hv2, h1, hin, hout, hvin, hvout, Or.inl rfl, by simp, hlock⟩

theorem wf_normTx {t : Tx} (wf : WFTx t) : WFTx (normTx t) := by
  unfold normTx
  split
  · exact wf
  · exact wf_strip wf

theorem txBytes_strip (t : Tx) : txBytes { t with wit := [] } = txLegacy t := by
  simp [txBytes, hasWitness_strip, txLegacy]

theorem txRange_strip {t : Tx} (h : TxRange t) : TxRange t.strip := by
  obtain ⟨h1, h2, h3, h4, h5, h6, _, _, h9⟩ := h
  exact ⟨h1, h2, h3, h4, h5, h6, Nat.zero_le _, by simp [Tx.strip], h9⟩

theorem serTx_strip {t : Tx} (h : TxRange t) : serTx t.strip = .ok (txLegacy t) :=
  (serTx_ok (txRange_strip h)).trans (congrArg _ (txBytes_strip t))

theorem txBytes_normTx (t : Tx) : txBytes (normTx t) = txBytes t := by
  unfold normTx
  split
  · rfl
  · rename_i h
    have h' : t.hasWitness = false := by simpa using h
    rw [txBytes_strip]
    simp [txBytes, h']

theorem normTx_idem (t : Tx) : normTx (normTx t) = normTx t := by
  by_cases h : t.hasWitness = true
  · rw [normTx_of_hasWitness h, normTx_of_hasWitness h]
  · have h' : t.hasWitness = false := by simpa using h
    rw [normTx_of_not_hasWitness h', normTx_of_not_hasWitness (hasWitness_strip t)]

theorem wf_normBlock {b : Block} (wf : WFBlock b) : WFBlock (normBlock b) := by
  refine ⟨wf.1, by simpa [normBlock] using wf.2.1, ?_⟩
  intro t ht
  simp only [normBlock, List.mem_map] at ht
  obtain ⟨t', ht', rfl⟩ := ht
  exact wf_normTx (wf.2.2 t' ht')

theorem block_normBlock (b : Block) : block (normBlock b) = block b := by
  simp [block, normBlock, vec, List.map_map, Function.comp_def, txBytes_normTx]

/-! ### totality on arbitrary input: only `ok`, truncation or the size guard (no stray Python exception) -/

/-- the only errors a result may carry are the two library outcomes of deserialisation -/
def LibErr {α : Type} (r : Res α) : Prop := ∀ e, r = .error e → e = .trunc ∨ e = .sererr

/-- a parser that, on every byte string, succeeds or reports truncation / MAX_SIZE exceeded -/
def Clean {α : Type} (p : Parser α) : Prop := ∀ s, LibErr (p s)

theorem LibErr.ok {α : Type} (a : α) : LibErr (Except.ok a : Res α) := by
  intro e h; cases h

theorem LibErr.bind {α β : Type} {x : Res α} {f : α → Res β} (hx : LibErr x) (hf : ∀ a, LibErr (f a)) :
    LibErr (x >>= f) := by
  cases x with
  | error e =>
    intro e' h
    have : e' = e := by
      have h' : (Except.error e : Res β) = .error e' := h
      injection h' with h'; exact h'.symm
    rw [this]; exact hx e rfl
  | ok a => exact hf a

theorem LibErr.cases {α : Type} {r : Res α} (h : LibErr r) :
    (∃ a, r = .ok a) ∨ r = .error .trunc ∨ r = .error .sererr := by
  cases r with
  | ok a => exact Or.inl ⟨a, rfl⟩
  | error e =>
    rcases h e rfl with rfl | rfl
    · exact Or.inr (Or.inl rfl)
    · exact Or.inr (Or.inr rfl)

/-- one step of a `do` block: the bound parser is clean, continue with the continuation -/
macro "clean_step " h:term : tactic =>
  `(tactic| (refine LibErr.bind $h ?_; rintro ⟨_, _⟩; try dsimp only))

theorem clean_serRead (n : Nat) : Clean (serRead n) := by
  intro s e h
  unfold serRead at h
  split at h
  · injection h with h; exact Or.inr h.symm
  · split at h
    · injection h with h; exact Or.inl h.symm
    · cases h

theorem clean_readU (w : Nat) : Clean (readU w) := by
  intro s; unfold readU
  clean_step (clean_serRead w s)
  exact LibErr.ok _

theorem clean_readI (w : Nat) : Clean (readI w) := by
  intro s; unfold readI
  clean_step (clean_serRead w s)
  exact LibErr.ok _

theorem clean_deVarInt : Clean deVarInt := by
  intro s; unfold deVarInt
  clean_step (clean_serRead 1 s)
  split
  · exact LibErr.ok _
  · split
    · exact clean_readU 2 _
    · split
      · exact clean_readU 4 _
      · exact clean_readU 8 _

theorem clean_deBytes : Clean deBytes := by
  intro s; unfold deBytes
  clean_step (clean_deVarInt s)
  exact clean_serRead _ _

theorem clean_deRepeat {α : Type} {p : Parser α} (hp : Clean p) : ∀ n, Clean (deRepeat p n)
  | 0 => fun s => LibErr.ok _
  | n + 1 => by
      intro s
      rw [deRepeat_succ]
      clean_step (hp s)
      clean_step (clean_deRepeat hp n _)
      exact LibErr.ok _

theorem clean_deVector {α : Type} {p : Parser α} (hp : Clean p) : Clean (deVector p) := by
  intro s; unfold deVector
  clean_step (clean_deVarInt s)
  exact clean_deRepeat hp _ _

theorem clean_deOutPoint : Clean deOutPoint := by
  intro s; unfold deOutPoint
  clean_step (clean_serRead 32 s)
  clean_step (clean_readU 4 _)
  exact LibErr.ok _

theorem clean_deTxIn : Clean deTxIn := by
  intro s; unfold deTxIn
  clean_step (clean_deOutPoint s)
  clean_step (clean_deBytes _)
  clean_step (clean_readU 4 _)
  exact LibErr.ok _

theorem clean_deTxOut : Clean deTxOut := by
  intro s; unfold deTxOut
  clean_step (clean_readI 8 s)
  clean_step (clean_deBytes _)
  exact LibErr.ok _

theorem clean_deWitStack : Clean deWitStack := clean_deVector clean_deBytes

theorem clean_deTx : Clean deTx := by
  intro s; unfold deTx
  clean_step (clean_readI 4 s)
  clean_step (clean_readU 1 _)
  clean_step (clean_readU 1 _)
  split
  · clean_step (clean_deVector clean_deTxIn _)
    clean_step (clean_deVector clean_deTxOut _)
    clean_step (clean_deRepeat clean_deWitStack _ _)
    clean_step (clean_readU 4 _)
    exact LibErr.ok _
  · clean_step (clean_deVector clean_deTxIn _)
    clean_step (clean_deVector clean_deTxOut _)
    clean_step (clean_readU 4 _)
    exact LibErr.ok _

theorem clean_deHeader : Clean deHeader := by
  intro s; unfold deHeader
  clean_step (clean_readI 4 s)
  clean_step (clean_serRead 32 _)
  clean_step (clean_serRead 32 _)
  clean_step (clean_readU 4 _)
  clean_step (clean_readU 4 _)
  clean_step (clean_readU 4 _)
  exact LibErr.ok _

theorem clean_deBlock : Clean deBlock := by
  intro s; unfold deBlock
  clean_step (clean_deHeader s)
  clean_step (clean_deVector clean_deTx _)
  exact LibErr.ok _

theorem Clean.deserialize {α : Type} {p : Parser α} (hp : Clean p) (buf : Bytes) (pad : Bool) :
    (∃ a, deserialize p buf pad = .ok a) ∨ (∃ a x, x ≠ [] ∧ deserialize p buf pad = .extra a x) ∨
    deserialize p buf pad = .err .trunc ∨ deserialize p buf pad = .err .sererr := by
  unfold Model.Wire.deserialize
  rcases (hp buf).cases with ⟨⟨a, r⟩, h⟩ | h | h
  · rw [h]
    by_cases hc : (!pad && decide (r.length ≠ 0)) = true
    · right; left
      refine ⟨a, r, ?_, by simp only [hc, if_true]⟩
      intro h0; simp [h0] at hc
    · left
      exact ⟨a, by simp only [hc]; rfl⟩
  · right; right; left; rw [h]
  · right; right; right; rw [h]

end BtcVerif.Codec

namespace BtcVerif.SerSpec
open BtcVerif BtcVerif.Model.Wire

/-! the serialisation lemmas with explicit arguments, as the coherence theorems (Props/Coherence.lean)
    cite them -/

theorem serVarInt_ok (n : Nat) (h : n < 2 ^ 64) : serVarInt n = .ok (Spec.Wire.compactSize n) :=
  Codec.serVarInt_ok h

theorem serTx_true (t : Tx) (h : Spec.Merkle.TxRange t) : serTx t true = .ok (Spec.Wire.txBytes t) :=
  Codec.serTx_ok h

theorem serTx_false (t : Tx) (h : Spec.Merkle.TxRange t) : serTx t false = .ok (Spec.Wire.txLegacy t) :=
  Codec.serTx_noWitness_ok h

end BtcVerif.SerSpec

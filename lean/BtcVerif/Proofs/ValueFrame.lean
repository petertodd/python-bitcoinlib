/-
  C09: `Op.edits`, the name whose entry an operation may rewrite; on the value store, one step changes at most the entry of the mutable
  root it edits; everything else — in particular every immutable entry — stays as it is.
-/
import BtcVerif.Spec.ValueSem

namespace BtcVerif.Spec.ValueSem
open BtcVerif

/-- the name whose entry an operation may rewrite -/
def Op.edits : Op → Option Nat
  | .assign t _ => some t.root
  | .setVin r _ | .setVout r _ | .appendIn r _ | .replaceIn r _ _ | .removeIn r _
  | .appendOut r _ | .replaceOut r _ _ | .removeOut r _ | .setWit r _ => some r
  | _ => none

theorem getM_flag : ∀ {p : List Nat} {v vx : Val} {m : Bool}, v.getM m p = some (true, vx) → m = true
  | [], v, vx, m, h => by simp [Val.getM] at h; exact h.1
  | i :: p, v, vx, m, h => by
    simp only [Val.getM] at h
    cases hc : v.child i with
    | none => simp [hc] at h
    | some c =>
      simp only [hc] at h
      have := getM_flag h
      cases m <;> simp_all

theorem get_bind {sp : Store} {r : Nat} {e : Entry} (x : Option Entry) (h : (sp[r]?).join = some e) :
    (((bind sp x)[r]?).join) = some e := by
  have hlt : r < sp.length := by
    cases hr : sp[r]? with
    | none => simp [hr] at h
    | some _ => exact (List.getElem?_eq_some_iff.mp hr).1
  simp only [bind, List.getElem?_append_left hlt]
  exact h

theorem get_set_bind {sp : Store} {r k : Nat} {e : Entry} (y x : Option Entry) (hk : k ≠ r)
    (h : (sp[r]?).join = some e) : ((bind (sp.set k y) x)[r]?).join = some e := by
  apply get_bind
  rw [List.getElem?_set_ne hk]; exact h

theorem editList_frame {sp : Store} {r k : Nat} {e : Entry} (rhsOk : Bool) (immErr : Exc)
    (f : Tx → Except Exc Tx) (h : (sp[r]?).join = some e) :
    (((editList sp k rhsOk immErr f).1[r]?).join = some e) ∨ (k = r ∧ e.isMut = true) := by
  simp only [editList]
  cases hl : lookupTx sp k with
  | none => exact Or.inl (get_bind _ h)
  | some et =>
    obtain ⟨e', t⟩ := et
    simp only []
    by_cases hr : rhsOk = true
    · simp only [hr, Bool.not_true, Bool.false_eq_true, if_false]
      by_cases hm : e'.isMut = true
      · simp only [hm, Bool.not_true, Bool.false_eq_true, if_false]
        cases f t with
        | error x => exact Or.inl (get_bind _ h)
        | ok t' =>
          by_cases hkr : k = r
          · right
            refine ⟨hkr, ?_⟩
            subst hkr
            simp only [lookupTx] at hl
            rw [h] at hl
            cases hv : e.val <;> simp [hv] at hl
            rw [← hl.1] at hm; exact hm
          · exact Or.inl (get_set_bind _ _ hkr h)
      · have : e'.isMut = false := by simpa using hm
        simp only [this, Bool.not_false, if_true]
        exact Or.inl (get_bind _ h)
    · have : rhsOk = false := by simpa using hr
      simp only [this, Bool.not_false, if_true]
      exact Or.inl (get_bind _ h)

theorem step_frame (sp : Store) (op : Op) {r : Nat} {e : Entry} (h : (sp[r]?).join = some e) :
    (((step sp op).1[r]?).join = some e) ∨ (op.edits = some r ∧ e.isMut = true) := by
  cases op with
  | assign t f =>
    simp only [step]
    cases hl : lookup sp t with
    | none => exact Or.inl (get_bind _ h)
    | some mv =>
      obtain ⟨m, v⟩ := mv
      simp only []
      by_cases hs : v.isSeq = true
      · simp only [hs, if_true]; exact Or.inl (get_bind _ h)
      · have hs' : v.isSeq = false := by simpa using hs
        simp only [hs', Bool.false_eq_true, if_false]
        cases hm : m with
        | false => simp only [Bool.not_false, if_true]; exact Or.inl (get_bind _ h)
        | true =>
          simp only [Bool.not_true, Bool.false_eq_true, if_false]
          cases f.apply v with
          | none => exact Or.inl (get_bind _ h)
          | some w =>
            simp only [update, Option.bind_eq_bind]
            cases he' : (sp[t.root]?).join with
            | none => exact Or.inl (get_bind _ h)
            | some e' =>
              simp only [Option.bind_some]
              cases e'.val.put t.path w with
              | none => exact Or.inl (get_bind _ h)
              | some v' =>
                simp only [Option.bind_some, pure]
                by_cases hkr : t.root = r
                · right
                  refine ⟨by simp [Op.edits, hkr], ?_⟩
                  rw [hkr] at he'
                  rw [h] at he'; cases he'
                  simp only [lookup, hkr, h, Option.bind_eq_bind, Option.bind_some, hm] at hl
                  exact getM_flag hl
                · exact Or.inl (get_set_bind _ _ hkr h)
  | setVin k _ | setVout k _ | appendIn k _ | replaceIn k _ _ | removeIn k _ | appendOut k _ | replaceOut k _ _
  | removeOut k _ | setWit k _ =>
    exact (editList_frame (k := k) _ _ _ h).imp id fun h1 => ⟨congrArg some h1.1, h1.2⟩
  | _ => left; simp only [step, observe]; (repeat' split) <;> exact get_bind _ h

end BtcVerif.Spec.ValueSem

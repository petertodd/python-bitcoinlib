/-
  Helper lemmas for C08's number codec: byte lengths, little-endian digits, the arithmetic
  reading of numEncode / numDecode / minimal, and `bn2vch` / `vch2bn` (MPI route) against them.
-/
import BtcVerif.Model.ScriptBuild
import BtcVerif.Proofs.DigitCount
import BtcVerif.Proofs.BigEndian
import Mathlib.Data.List.Induction
import Mathlib.Tactic.IntervalCases
import Mathlib.Tactic.ByContra
import Mathlib.Tactic.Ring

namespace BtcVerif
open BtcVerif.Spec.Script

theorem u8_or80 (b : UInt8) (h : b.toNat < 128) : (b ||| 0x80).toNat = b.toNat + 128 := by
  have : 128 + b.toNat = 128 ||| b.toNat := Nat.two_pow_add_eq_or_of_lt (i := 7) h 1
  rw [UInt8.toNat_or, Nat.or_comm]; show 128 ||| b.toNat = _; rw [← this, Nat.add_comm]

theorem nat_and128 (n : Nat) : n &&& 128 = 128 * (n / 128 % 2) := by
  have h1 : (n &&& 128) / 2 ^ 7 = n / 2 ^ 7 % 2 := by rw [Nat.and_div_two_pow]; exact Nat.and_one_is_mod _
  have h2 : (n &&& 128) % 2 ^ 7 = 0 := by
    rw [← Nat.and_two_pow_sub_one_eq_mod, Nat.and_assoc]; exact Nat.and_zero n
  omega

theorem u8_and80 (i : UInt8) : (i &&& 0x80 ≠ 0) ↔ i.toNat ≥ 128 := by
  have e : (i &&& 0x80).toNat = 128 * (i.toNat / 128 % 2) := (UInt8.toNat_and i 0x80).trans (nat_and128 _)
  have := i.toNat_lt
  rw [ne_eq, ← UInt8.toNat_inj, e]
  show ¬ 128 * (i.toNat / 128 % 2) = 0 ↔ _
  omega

theorem u8_and7f (i : UInt8) (h : i.toNat ≥ 128) : (i &&& 0x7f).toNat = i.toNat - 128 := by
  have := i.toNat_lt
  rw [UInt8.toNat_and]; show i.toNat &&& (2 ^ 7 - 1) = _; rw [Nat.and_two_pow_sub_one_eq_mod]; omega

theorem u8_ofNat_toNat (n : Nat) (h : n < 256) : (UInt8.ofNat n).toNat = n := toNat_ofNat_lt h

theorem u8_eq_of_toNat {a b : UInt8} (h : a.toNat = b.toNat) : a = b := UInt8.toNat_inj.mp h

theorem pow256_pos (k : Nat) : 0 < 256 ^ k := Nat.pow_pos (by omega)

theorem pow256_succ (k : Nat) : 256 ^ (k + 1) = 256 * 256 ^ k := by
  rw [Nat.pow_succ]; omega

theorem two_pow_8mul (k : Nat) : 2 ^ (8 * k) = 256 ^ k := by
  rw [Nat.pow_mul]

theorem leNat_append (a b : Bytes) : leNat (a ++ b) = leNat a + 256 ^ a.length * leNat b := by
  induction a with
  | nil => simp [leNat]
  | cons x a ih =>
    simp only [List.cons_append, leNat, ih, List.length_cons, pow256_succ]
    rw [Nat.mul_add, Nat.mul_assoc]; omega

theorem leNat_singleton (t : UInt8) : leNat [t] = t.toNat := by simp [leNat]

theorem leBytes_mod (w n : Nat) : leBytes w (n % 256 ^ w) = leBytes w n := by
  have h := leBytes_leNat (leBytes w n)
  rw [leBytes_length, leNat_leBytes] at h
  exact h

theorem leBytes_add_mul (w n c : Nat) : leBytes w (n + c * 256 ^ w) = leBytes w n := by
  rw [← leBytes_mod w (n + c * 256 ^ w), Nat.add_mul_mod_self_right, leBytes_mod]

theorem leBytes_succ_right (w n : Nat) :
    leBytes (w + 1) n = leBytes w n ++ [UInt8.ofNat (n / 256 ^ w % 256)] := by
  induction w generalizing n with
  | zero => simp [leBytes]
  | succ w ih =>
    rw [leBytes, ih (n / 256)]
    simp only [leBytes, List.cons_append, pow256_succ, Nat.div_div_eq_div_mul]

theorem leBytes_inj_of_lt {w a b : Nat} (ha : a < 256 ^ w) (hb : b < 256 ^ w)
    (h : leBytes w a = leBytes w b) : a = b := by
  have := congrArg leNat h
  rwa [leNat_leBytes, leNat_leBytes, Nat.mod_eq_of_lt ha, Nat.mod_eq_of_lt hb] at this

theorem eq_leBytes_of_leNat {b : Bytes} {w x : Nat} (hl : b.length = w) (hv : leNat b = x) :
    b = leBytes w x := by
  rw [← hl, ← hv, leBytes_leNat]

theorem beNat_beBytes (w n : Nat) (h : n < 256 ^ w) : beNat (beBytes w n) = n :=
  (beNat_beBytes_mod w n).trans (Nat.mod_eq_of_lt h)

theorem byteLen_zero : byteLen 0 = 0 := by unfold byteLen; simp

theorem byteLen_pos {n : Nat} (h : n ≠ 0) : byteLen n = byteLen (n / 256) + 1 := by
  rw [byteLen]; simp [h]

theorem byteLen_le_iff (n k : Nat) : byteLen n ≤ k ↔ n < 256 ^ k :=
  digitCount_le_iff (by omega) byteLen_zero (fun _ => byteLen_pos) n k

theorem byteLen_bounds (n : Nat) (h : n ≠ 0) : 256 ^ (byteLen n - 1) ≤ n ∧ n < 256 ^ byteLen n :=
  digitCount_bounds (by omega) byteLen_zero (fun _ => byteLen_pos) h

theorem byteLen_eq_iff {n k : Nat} : byteLen n = k + 1 ↔ 256 ^ k ≤ n ∧ n < 256 ^ (k + 1) :=
  digitCount_eq_iff (by omega) byteLen_zero (fun _ => byteLen_pos) n k

theorem byteLen_eq_zero_iff {n : Nat} : byteLen n = 0 ↔ n = 0 := by
  have := byteLen_le_iff n 0
  omega

/-! ### numLen, numEncode, numDecode in arithmetic form -/

theorem numLen_zero : numLen 0 = 0 := by simp [numLen, byteLen_zero]

theorem numLen_eq_zero_iff {m : Nat} : numLen m = 0 ↔ m = 0 := by
  unfold numLen; rw [byteLen_eq_zero_iff]; omega

theorem numLen_pos {m : Nat} (h : m ≠ 0) :
    ∃ j, numLen m = j + 1 ∧ 256 ^ j ≤ 2 * m ∧ m < 128 * 256 ^ j := by
  have h2 : 2 * m ≠ 0 := by omega
  obtain ⟨b1, b2⟩ := byteLen_bounds (2 * m) h2
  have hp : byteLen (2 * m) ≥ 1 := by rw [byteLen_pos h2]; omega
  refine ⟨byteLen (2 * m) - 1, by unfold numLen; omega, b1, ?_⟩
  have e : byteLen (2 * m) = (byteLen (2 * m) - 1) + 1 := by omega
  rw [e, pow256_succ] at b2
  omega

theorem numLen_eq_iff {m j : Nat} : numLen m = j + 1 ↔ 256 ^ j ≤ 2 * m ∧ m < 128 * 256 ^ j := by
  unfold numLen
  rw [byteLen_eq_iff, pow256_succ]; omega

theorem numLen_eq {m j : Nat} (h1 : 256 ^ j ≤ 2 * m) (h2 : m < 128 * 256 ^ j) : numLen m = j + 1 :=
  numLen_eq_iff.mpr ⟨h1, h2⟩

theorem numLen_128 : numLen 128 = 2 := numLen_eq (j := 1) (by decide) (by decide)

theorem numLen_le_of_lt {m n : Nat} (h : m < 128 * 256 ^ n) : numLen m ≤ n + 1 := by
  by_cases h0 : m = 0
  · rw [h0, numLen_zero]; omega
  · obtain ⟨j, hj, h1, _⟩ := numLen_pos h0
    have : 256 ^ j < 256 ^ (n + 1) := by rw [pow256_succ]; omega
    have : j < n + 1 := (Nat.pow_lt_pow_iff_right (a := 256) (by omega)).mp this
    omega

theorem numEncode_zero : numEncode 0 = [] := by
  simp [numEncode, numLen_zero, leBytes]

theorem numEncode_length (z : Int) : (numEncode z).length = numLen z.natAbs := by
  simp [numEncode]

/-- the number whose `numLen` little-endian digits are `numEncode z` -/
def numCode (z : Int) : Nat :=
  if z < 0 then z.natAbs + 128 * 256 ^ (numLen z.natAbs - 1) else z.natAbs

theorem numEncode_def (z : Int) : numEncode z = leBytes (numLen z.natAbs) (numCode z) := by
  simp only [numEncode, numCode]

theorem numCode_lt (z : Int) : numCode z < 256 ^ numLen z.natAbs := by
  unfold numCode
  by_cases hz : z.natAbs = 0
  · have : ¬ z < 0 := by omega
    simp [this, hz, numLen_zero]
  · obtain ⟨j, hj, h1, h2⟩ := numLen_pos hz
    rw [hj, pow256_succ]; simp only [Nat.add_sub_cancel]
    split <;> omega

/-- the most significant byte of a non-zero `m` of `j + 1` bytes -/
theorem top_byte {m j : Nat} (hj : byteLen m = j + 1) :
    1 ≤ m / 256 ^ j ∧ m / 256 ^ j < 256 ∧ leBytes (j + 1) m = leBytes j m ++ [UInt8.ofNat (m / 256 ^ j)] := by
  obtain ⟨b1, b2⟩ := byteLen_eq_iff.mp hj
  rw [pow256_succ] at b2
  have hP := pow256_pos j
  have hlt : m / 256 ^ j < 256 := (Nat.div_lt_iff_lt_mul hP).mpr (by omega)
  exact ⟨(Nat.le_div_iff_mul_le hP).mpr (by omega), hlt, by rw [leBytes_succ_right, Nat.mod_eq_of_lt hlt]⟩

/-- where CScriptNum::serialize puts the sign: into an extra byte when the top magnitude byte has its high
    bit set, into that bit otherwise -/
theorem numEncode_top {z : Int} {j : Nat} (hj : byteLen z.natAbs = j + 1) :
    numEncode z =
      if z.natAbs / 256 ^ j ≥ 128 then leBytes (j + 1) z.natAbs ++ [if z < 0 then 0x80 else 0x00]
      else leBytes j z.natAbs ++ [UInt8.ofNat (z.natAbs / 256 ^ j + (if z < 0 then 128 else 0))] := by
  obtain ⟨hpos, hlt, _⟩ := top_byte hj
  obtain ⟨b1, b2⟩ := byteLen_eq_iff.mp hj
  rw [pow256_succ] at b2
  rw [numEncode_def]
  unfold numCode
  generalize z.natAbs = m at *
  have hPpos := pow256_pos j
  by_cases hge : m / 256 ^ j ≥ 128
  · have hmge : 128 * 256 ^ j ≤ m := by have := (Nat.le_div_iff_mul_le hPpos).mp hge; omega
    have hnl : numLen m = (j + 1) + 1 := numLen_eq (by rw [pow256_succ]; omega) (by rw [pow256_succ]; omega)
    rw [if_pos hge, hnl, leBytes_succ_right, Nat.add_sub_cancel]
    by_cases hneg : z < 0
    · have e2 : (m + 128 * 256 ^ (j + 1)) / 256 ^ (j + 1) = 128 := by
        rw [Nat.add_mul_div_right _ _ (pow256_pos _), pow256_succ, Nat.div_eq_of_lt (by omega)]
      rw [if_pos hneg, if_pos hneg, leBytes_add_mul, e2]; rfl
    · rw [if_neg hneg, if_neg hneg, pow256_succ, Nat.div_eq_of_lt (by omega)]; rfl
  · have hmlt : m < 128 * 256 ^ j := by have := (Nat.div_lt_iff_lt_mul hPpos).mp (Nat.lt_of_not_le hge); omega
    rw [if_neg hge, numLen_eq (by omega) hmlt, leBytes_succ_right, Nat.add_sub_cancel]
    by_cases hneg : z < 0
    · rw [if_pos hneg, if_pos hneg, leBytes_add_mul, Nat.add_mul_div_right _ _ hPpos, Nat.mod_eq_of_lt (by omega)]
    · rw [if_neg hneg, if_neg hneg, Nat.mod_eq_of_lt hlt, Nat.add_zero]

theorem numEncode_leNat (z : Int) : leNat (numEncode z) = numCode z := by
  rw [numEncode_def, leNat_leBytes, Nat.mod_eq_of_lt (numCode_lt z)]

theorem reverse_cons_decomp {b : Bytes} {top : UInt8} {r : Bytes} (h : b.reverse = top :: r) :
    b = r.reverse ++ [top] ∧ b.length = r.length + 1 ∧
      leNat b = leNat r.reverse + 256 ^ r.length * top.toNat ∧ leNat r.reverse < 256 ^ r.length := by
  have hb : b = r.reverse ++ [top] := by
    rw [← List.reverse_reverse b, h]; simp
  refine ⟨hb, by rw [hb]; simp, ?_, ?_⟩
  · rw [hb, leNat_append, leNat_singleton]; simp
  · have := leNat_lt r.reverse; simpa using this

theorem top_ge_iff {L P t : Nat} (hL : L < P) : t ≥ 128 ↔ L + P * t ≥ 128 * P := by
  constructor
  · intro h
    have : P * 128 ≤ P * t := Nat.mul_le_mul_left _ h
    omega
  · intro h
    by_contra hc
    have : P * t ≤ P * 127 := Nat.mul_le_mul_left _ (by omega)
    omega

theorem numDecode_nil : numDecode [] = 0 := by simp [numDecode]

theorem numDecode_eq (b : Bytes) (hb : b ≠ []) :
    numDecode b =
      if leNat b ≥ 128 * 256 ^ (b.length - 1)
      then - ((leNat b - 128 * 256 ^ (b.length - 1) : Nat) : Int) else (leNat b : Int) := by
  unfold numDecode
  rcases hr : b.reverse with _ | ⟨top, r⟩
  · exact absurd (by simpa using hr) hb
  · obtain ⟨_, hl, hv, hlt⟩ := reverse_cons_decomp hr
    simp only [hl, Nat.add_sub_cancel, hv]
    have := top_ge_iff (t := top.toNat) hlt
    by_cases ht : top.toNat ≥ 128
    · simp only [ht, if_true]; rw [if_pos (this.mp ht)]
    · simp only [ht, if_false]; rw [if_neg (fun h => ht (this.mpr h))]

theorem numDecode_numEncode (z : Int) : numDecode (numEncode z) = z := by
  by_cases hz : z.natAbs = 0
  · have : z = 0 := by omega
    subst this; simp [numEncode_zero, numDecode_nil]
  · obtain ⟨j, hj, h1, h2⟩ := numLen_pos hz
    have hlen := numEncode_length z
    have hne : numEncode z ≠ [] := by
      intro h; rw [h] at hlen; simp at hlen; omega
    rw [numDecode_eq _ hne, numEncode_leNat, hlen, hj]
    simp only [Nat.add_sub_cancel, numCode, hj]
    by_cases hneg : z < 0
    · simp only [hneg, if_true]
      rw [if_pos (by omega)]; omega
    · simp only [hneg, if_false]
      rw [if_neg (by omega)]; omega

/-- magnitude part of a non-empty string: its value with the sign bit removed -/
def numMag (b : Bytes) : Nat := leNat b % (128 * 256 ^ (b.length - 1))

theorem minimal_iff (b : Bytes) : minimal b ↔ numLen (numMag b) = b.length := by
  unfold minimal numMag
  rcases hr : b.reverse with _ | ⟨t, _ | ⟨p, r⟩⟩
  · have : b = [] := by simpa using hr
    subst this; simp [leNat, numLen_zero]
  · obtain ⟨hb, hl, hv, _⟩ := reverse_cons_decomp hr
    simp only [List.reverse_nil, leNat, List.length_nil, Nat.pow_zero, Nat.one_mul, Nat.zero_add] at hv hl
    simp only [hl, hv, Nat.sub_self, Nat.pow_zero, Nat.mul_one, or_false]
    rw [show (1 : Nat) = 0 + 1 from rfl, numLen_eq_iff]
    have := t.toNat_lt
    simp; omega
  · -- b = r.reverse ++ [p, t]: with the sign bit stripped from t, "t has magnitude bits or p ≥ 128" is
    -- "the magnitude reaches 128·256^|r|", i.e. it needs all |r| + 2 bytes
    obtain ⟨hb, hl, hv, _⟩ := reverse_cons_decomp hr
    have hv2 : leNat (p :: r).reverse = leNat r.reverse + 256 ^ r.length * p.toNat := by
      rw [List.reverse_cons, leNat_append, leNat_singleton]; simp
    have hL := leNat_lt r.reverse
    simp only [List.length_reverse] at hL
    simp only [List.length_cons] at hl hv
    rw [hv, hv2, hl]
    simp only [Nat.add_sub_cancel, pow256_succ]
    generalize leNat r.reverse = L at *
    generalize hP : 256 ^ r.length = P at *
    have hPpos : 0 < P := by rw [← hP]; exact pow256_pos _
    have hp := p.toNat_lt
    have ht := t.toNat_lt
    obtain ⟨s, t', hts, ht', hs⟩ : ∃ s t', t.toNat = 128 * s + t' ∧ t' < 128 ∧ s < 2 :=
      ⟨t.toNat / 128, t.toNat % 128, by omega, by omega, by omega⟩
    have hmod : t.toNat % 128 = t' := by omega
    rw [hmod]
    have e1 : 256 * P * t.toNat = 32768 * P * s + 256 * (P * t') := by
      rw [hts, Nat.mul_add, Nat.mul_assoc 256 P t', Nat.mul_assoc 32768 P s, Nat.mul_assoc 256 P (128 * s),
        Nat.mul_left_comm P 128 s]
      omega
    have bPp : P * p.toNat ≤ P * 255 := Nat.mul_le_mul_left _ (by omega)
    have bPt : P * t' ≤ P * 127 := Nat.mul_le_mul_left _ (by omega)
    have hval : (L + P * p.toNat + 256 * P * t.toNat) % (128 * (256 * P)) = L + P * p.toNat + 256 * (P * t') := by
      rw [e1]
      have hlt : L + P * p.toNat + 256 * (P * t') < 128 * (256 * P) := by omega
      have hs' : s = 0 ∨ s = 1 := by omega
      rcases hs' with rfl | rfl
      · simp only [Nat.mul_zero, Nat.zero_add]; exact Nat.mod_eq_of_lt hlt
      · rw [show L + P * p.toNat + (32768 * P * 1 + 256 * (P * t')) =
            (L + P * p.toNat + 256 * (P * t')) + 128 * (256 * P) by omega,
          Nat.add_mod_right, Nat.mod_eq_of_lt hlt]
    rw [hval, show r.length + 1 + 1 = (r.length + 1) + 1 from rfl, numLen_eq_iff, pow256_succ, hP]
    constructor
    · rintro (h | h)
      · have : P * 1 ≤ P * t' := Nat.mul_le_mul_left _ (by omega)
        omega
      · have : P * 128 ≤ P * p.toNat := Nat.mul_le_mul_left _ h
        omega
    · rintro ⟨h1, _⟩
      by_contra hc
      have hc1 : t' = 0 := by omega
      have hc2 : p.toNat ≤ 127 := by omega
      have : P * p.toNat ≤ P * 127 := Nat.mul_le_mul_left _ hc2
      subst hc1
      simp only [Nat.mul_zero] at h1
      omega

theorem numMag_numEncode (z : Int) : numMag (numEncode z) = z.natAbs := by
  unfold numMag
  rw [numEncode_leNat, numEncode_length]
  by_cases hz : z.natAbs = 0
  · have : ¬ z < 0 := by omega
    simp [numCode, this, hz, numLen_zero]
  · obtain ⟨j, hj, h1, h2⟩ := numLen_pos hz
    simp only [numCode, hj, Nat.add_sub_cancel]
    split
    · rw [Nat.add_mod_right, Nat.mod_eq_of_lt h2]
    · exact Nat.mod_eq_of_lt h2

theorem numEncode_minimal (z : Int) : minimal (numEncode z) := by
  rw [minimal_iff, numMag_numEncode, numEncode_length]

theorem numEncode_numDecode (b : Bytes) (hm : minimal b) : numEncode (numDecode b) = b := by
  by_cases hb : b = []
  · subst hb; simp [numDecode_nil, numEncode_zero]
  · rw [minimal_iff] at hm
    obtain ⟨j, hj⟩ : ∃ j, b.length = j + 1 :=
      ⟨b.length - 1, by have : b.length ≠ 0 := by simpa using hb
                        omega⟩
    have hlt := leNat_lt b
    rw [hj, pow256_succ] at hlt
    rw [hj, numLen_eq_iff] at hm
    unfold numMag at hm
    rw [hj] at hm; simp only [Nat.add_sub_cancel] at hm
    have hdec := numDecode_eq b hb
    rw [hj] at hdec; simp only [Nat.add_sub_cancel] at hdec
    have hPpos := pow256_pos j
    obtain ⟨h1, h2⟩ := hm
    have key : numLen (numDecode b).natAbs = j + 1 ∧ numCode (numDecode b) = leNat b := by
      generalize hP : 256 ^ j = P at *
      generalize leNat b = n at *
      by_cases hge : n ≥ 128 * P
      · have hmod : n % (128 * P) = n - 128 * P := by
          rw [Nat.mod_eq_sub_mod hge, Nat.mod_eq_of_lt (by omega)]
        rw [hmod] at h1 h2
        rw [if_pos hge] at hdec
        have hna : (numDecode b).natAbs = n - 128 * P := by omega
        have hnl : numLen (n - 128 * P) = j + 1 := by
          rw [numLen_eq_iff, hP]; omega
        have hneg : numDecode b < 0 := by omega
        refine ⟨by rw [hna, hnl], ?_⟩
        unfold numCode
        rw [if_pos hneg, hna, hnl]; simp only [Nat.add_sub_cancel]; rw [hP]; omega
      · have hmod : n % (128 * P) = n := Nat.mod_eq_of_lt (by omega)
        rw [hmod] at h1 h2
        rw [if_neg hge] at hdec
        have hna : (numDecode b).natAbs = n := by omega
        have hnl : numLen n = j + 1 := by
          rw [numLen_eq_iff, hP]; omega
        have hneg : ¬ numDecode b < 0 := by omega
        refine ⟨by rw [hna, hnl], ?_⟩
        unfold numCode
        rw [if_neg hneg, hna]
    rw [numEncode_def, key.1, key.2, ← hj, leBytes_leNat]

/-! ### the MPI route of _bignum.py -/

open BtcVerif.Model.Script

theorem bitLength_zero : bitLength 0 = 0 := by unfold bitLength; simp

theorem bitLength_pos {n : Nat} (h : n ≠ 0) : bitLength n = bitLength (n / 2) + 1 := by
  rw [bitLength]; simp [h]

theorem bitLength_bounds (n : Nat) (h : n ≠ 0) : 2 ^ (bitLength n - 1) ≤ n ∧ n < 2 ^ bitLength n :=
  digitCount_bounds (by omega) bitLength_zero (fun _ => bitLength_pos) h

theorem bnBytes_eq (n : Nat) : (bitLength n + 7) / 8 = byteLen n :=
  (digitCount_pow (j := 8) (by omega) (by omega) bitLength_zero (fun _ => bitLength_pos) byteLen_zero
    (fun _ => byteLen_pos) n).symm

theorem two_pow_8k7 (k : Nat) : 2 ^ (8 * k + 7) = 128 * 256 ^ k := by
  rw [Nat.pow_add, two_pow_8mul]; omega

theorem haveExt_iff {n k : Nat} (h : n ≠ 0) (hk : byteLen n = k + 1) :
    bitLength n % 8 = 0 ↔ n ≥ 128 * 256 ^ k := by
  obtain ⟨b1, b2⟩ := bitLength_bounds n h
  have hb := bnBytes_eq n
  rw [hk] at hb
  constructor
  · intro h8
    have e : bitLength n - 1 = 8 * k + 7 := by omega
    rw [e, two_pow_8k7] at b1; exact b1
  · intro hge
    by_contra hne
    have : bitLength n ≤ 8 * k + 7 := by omega
    have := Nat.lt_of_lt_of_le b2 (Nat.pow_le_pow_right (by omega) this)
    rw [two_pow_8k7] at this; omega

theorem bn2binLoop_reverse (v i : Nat) : (bn2binLoop v i).reverse = leBytes i v := by
  induction i with
  | zero => rfl
  | succ i ih =>
    rw [bn2binLoop, List.reverse_cons, ih, leBytes_succ_right, Nat.mul_comm i 8, two_pow_8mul]

theorem bn2bin_reverse (v : Nat) : (bn2bin v).reverse = leBytes (byteLen v) v := by
  unfold bn2bin bnBytes
  simp only [Bool.false_eq_true, if_false, Nat.add_zero]
  rw [bnBytes_eq, bn2binLoop_reverse]

theorem mpi2vch_append (s x : Bytes) (hs : s.length = 4) : mpi2vch (s ++ x) = x.reverse := by
  unfold mpi2vch
  rw [List.drop_left' hs]

theorem bn2vch_eq (z : Int) :
    bn2vch z = if (numEncode z).length < 2 ^ 32 then .ok (numEncode z) else .error structError := by
  -- the magnitude bytes are `leBytes (byteLen |z|) |z|` reversed; the sign goes into an extra top byte 0x80/0x00
  -- when the top magnitude byte has its high bit set (`have_ext`), and into that byte (`||| 0x80`) otherwise
  by_cases hz : z.natAbs = 0
  · have : z = 0 := by omega
    subst this
    simp [bn2vch, bn2mpi, bitLength_zero, packBE32, bnBytes, bn2bin, bn2binLoop, numEncode_zero, mpi2vch,
      beBytes_length]
  · obtain ⟨k, hk⟩ : ∃ k, byteLen z.natAbs = k + 1 :=
      ⟨byteLen z.natAbs - 1, by have := byteLen_pos hz; omega⟩
    have hbl : bitLength z.natAbs > 0 := by rw [bitLength_pos hz]; omega
    obtain ⟨_, htlt, htop⟩ := top_byte hk
    have hext := (haveExt_iff hz hk).trans (Nat.le_div_iff_mul_le (pow256_pos k)).symm
    have hrev := bn2bin_reverse z.natAbs
    rw [hk] at hrev
    have hen := numEncode_top hk
    unfold bn2vch bn2mpi
    simp only [hbl, if_true]
    by_cases he : bitLength z.natAbs % 8 = 0
    · -- have_ext: an extra byte in front of the magnitude carries the sign
      rw [if_pos (hext.mp he)] at hen
      rw [hen]
      simp only [he, decide_true, if_true, bnBytes, bnBytes_eq, hk, packBE32, List.length_append, leBytes_length,
        List.length_singleton]
      by_cases hsz : k + 1 + 1 < 2 ^ 32
      · have hs4 : (beBytes 4 (k + 1 + 1)).length = 4 := beBytes_length _ _
        by_cases hneg : z < 0
        · simp only [hsz, hneg, decide_true, if_true, List.append_assoc]
          rw [mpi2vch_append _ _ hs4]
          simp only [List.cons_append, List.nil_append, List.reverse_cons, hrev]; rfl
        · simp only [hsz, hneg, decide_false, Bool.false_eq_true, if_true, if_false, List.append_assoc]
          rw [mpi2vch_append _ _ hs4]
          simp only [List.cons_append, List.nil_append, List.reverse_cons, hrev]
      · simp only [hsz, if_false]
    · -- no extension byte: the sign is or-ed into the first magnitude byte
      have hq : z.natAbs / 256 ^ k < 128 := Nat.lt_of_not_le fun h => he (hext.mpr h)
      rw [if_neg (Nat.not_le.mpr hq)] at hen
      rw [hen]
      simp only [he, decide_false, Bool.false_eq_true, if_false, bnBytes, bnBytes_eq, hk, packBE32, Nat.add_zero,
        List.length_append, leBytes_length, List.length_singleton]
      by_cases hsz : k + 1 < 2 ^ 32
      · have hs4 : (beBytes 4 (k + 1)).length = 4 := beBytes_length _ _
        by_cases hneg : z < 0
        · simp only [hsz, hneg, decide_true, if_true]
          rw [htop] at hrev
          rcases hb : bn2bin z.natAbs with _ | ⟨b, r⟩
          · rw [hb] at hrev; simp at hrev
          · rw [hb, List.reverse_cons] at hrev
            obtain ⟨hr, hbt⟩ := List.append_inj' hrev (by simp)
            obtain rfl : b = UInt8.ofNat (z.natAbs / 256 ^ k) := by simpa using hbt
            simp only [List.append_nil]
            rw [mpi2vch_append _ _ hs4]
            simp only [List.reverse_cons, hr]
            congr 3
            apply u8_eq_of_toNat
            rw [u8_or80 _ (by rw [u8_ofNat_toNat _ htlt]; exact hq), u8_ofNat_toNat _ htlt,
              u8_ofNat_toNat _ (by omega)]
        · simp only [hsz, hneg, decide_false, Bool.false_eq_true, if_true, if_false, List.append_nil, Nat.add_zero]
          rw [mpi2vch_append _ _ hs4, hrev, htop]
      · simp only [hsz, if_false]

theorem bn2vch_ok_iff (z : Int) (b : Bytes) : bn2vch z = .ok b ↔ b = numEncode z ∧ b.length < 2 ^ 32 := by
  rw [bn2vch_eq]
  split
  · rename_i hl
    constructor
    · intro h; cases h; exact ⟨rfl, hl⟩
    · rintro ⟨rfl, _⟩; rfl
  · rename_i hl
    constructor
    · intro h; cases h
    · rintro ⟨rfl, hb⟩; exact absurd hb hl

theorem bin2bn_eq (s : Bytes) : bin2bn s = leNat s.reverse := by
  rw [← beNat_eq_leNat_reverse]; rfl

theorem vch2bn_eq (b : Bytes) :
    vch2bn b = if b.length < 2 ^ 32 then .ok (some (numDecode b)) else .error structError := by
  unfold vch2bn vch2mpi packBE32
  by_cases hsz : b.length < 2 ^ 32
  · simp only [hsz, if_true]
    have hs4 : (beBytes 4 b.length).length = 4 := beBytes_length _ _
    unfold mpi2bn
    have hlen : (beBytes 4 b.length ++ b.reverse).length = b.length + 4 := by simp [hs4]; omega
    have htake : (beBytes 4 b.length ++ b.reverse).take 4 = beBytes 4 b.length := by
      rw [List.take_left' hs4]
    have hdrop : (beBytes 4 b.length ++ b.reverse).drop 4 = b.reverse := List.drop_left' hs4
    have hbe : beNat (beBytes 4 b.length) = b.length := beNat_beBytes 4 _ (by simpa using hsz)
    rw [hlen, htake, hdrop, hbe]
    simp only [show ¬ (b.length + 4 < 4) by omega, if_false, ne_eq, not_true_eq_false]
    by_cases h0 : b.length = 0
    · have : b = [] := by simpa using h0
      subst this; simp [numDecode_nil]
    · simp only [h0, if_false]
      rcases hr : b.reverse with _ | ⟨i, r⟩
      · have : b = [] := by simpa using hr
        subst this; simp at h0
      · obtain ⟨_, hl, hv, hlt⟩ := reverse_cons_decomp hr
        unfold numDecode
        rw [hr]
        simp only [u8_and80]
        by_cases hi : i.toNat ≥ 128
        · simp only [hi, if_true]
          rw [bin2bn_eq, List.reverse_cons, leNat_append, leNat_singleton, u8_and7f _ hi, hv, hl]
          simp only [List.length_reverse, Nat.add_sub_cancel]
          obtain ⟨i', hi'⟩ : ∃ i', i.toNat = i' + 128 := ⟨i.toNat - 128, by omega⟩
          rw [hi']; simp only [Nat.add_sub_cancel]
          have : leNat r.reverse + 256 ^ r.length * (i' + 128) - 128 * 256 ^ r.length =
              leNat r.reverse + 256 ^ r.length * i' := by
            rw [Nat.mul_add, Nat.mul_comm (256 ^ r.length) 128]; omega
          rw [this]
        · simp only [hi, if_false]
          rw [bin2bn_eq, ← hr, List.reverse_reverse]
  · simp only [hsz, if_false]

end BtcVerif

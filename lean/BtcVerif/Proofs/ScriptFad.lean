/-
  C06 — `FindAndDelete`: the model (script.py, over `raw_iter` operation boundaries) against the
  reference (Core's `do … while (GetOp)` loop), for a pattern that is one push operation
  (`findAndDelete_eq`); a leading OP_CODESEPARATOR stays (`fadLoop_codesep`), a script that
  tokenises still does afterwards (`fadLoop_parses`), and the result is no longer than the script.
-/
import BtcVerif.Proofs.ScriptEquivParse

namespace BtcVerif.Model.ScriptEval
open BtcVerif BtcVerif.Spec BtcVerif.Spec.Script BtcVerif.Model.Script

theorem rawStep_reindex (i j : Nat) (s : Bytes) :
    rawStep j s = match rawStep i s with
      | none => none
      | some (.err e) => some (.err e)
      | some (.op o rest) => some (.op { o with sopIdx := j } rest) := by
  cases s with
  | nil => rfl
  | cons b t =>
    rw [rawStep_cons, rawStep_cons]
    rcases Ref.getOp (b :: t) with _ | ⟨o, d, rest⟩ <;> rfl

theorem rawIterFrom_tail_indep (i : Nat) (s : Bytes) : ∀ j, (rawIterFrom j s).2 = (rawIterFrom i s).2 := by
  induction i, s using rawIterFrom.induct with
  | case1 i s h =>
    intro j
    have hj : rawStep j s = none := by rw [rawStep_reindex i j s, h]
    rw [rawIterFrom_none h, rawIterFrom_none hj]
  | case2 i s e h =>
    intro j
    have hj : rawStep j s = some (.err e) := by rw [rawStep_reindex i j s, h]
    rw [rawIterFrom_err h, rawIterFrom_err hj]
  | case3 i s o rest h ops e heq ih =>
    intro j
    have hj : rawStep j s = some (.op { o with sopIdx := j } rest) := by rw [rawStep_reindex i j s, h]
    rw [rawIterFrom_op h, rawIterFrom_op hj]
    exact ih _

theorem rawIterFrom_getOp_snd {s : Bytes} {opc : Nat} {v rest : Bytes} (h : Ref.getOp s = some (opc, v, rest))
    (j k : Nat) : (rawIterFrom j s).2 = (rawIterFrom k rest).2 := by
  cases s with
  | nil => cases h
  | cons b t =>
    have hj := rawStep_cons j b t
    rw [h] at hj
    rw [rawIterFrom_op hj]
    exact rawIterFrom_tail_indep k rest _

/-- a pattern that is the encoding of one push operation -/
def PushPat (b : Bytes) : Prop := ∃ opc v, opc ≤ 0x4e ∧ WFEnc opc v ∧ b = encBytes opc true v

theorem PushPat.ne_nil {b : Bytes} (hb : PushPat b) : b ≠ [] := by
  obtain ⟨opc, v, hle, wf, rfl⟩ := hb; simp [encBytes]

theorem PushPat.getOp {b : Bytes} (hb : PushPat b) (Y : Bytes) :
    ∃ opc v, opc ≤ 0x4e ∧ Ref.getOp (b ++ Y) = some (opc, v, Y) := by
  obtain ⟨opc, v, hle, wf, rfl⟩ := hb
  have h := getOp_encBytes opc v Y wf
  rw [decide_eq_true hle] at h
  exact ⟨opc, v, hle, h⟩

theorem prefix_is_op {b s : Bytes} (hb : PushPat b) (hp : b <+: s) {opc : Nat} {v rest : Bytes}
    (hg : Ref.getOp s = some (opc, v, rest)) : s = b ++ rest := by
  obtain ⟨Y, rfl⟩ := hp
  obtain ⟨_, _, _, h⟩ := hb.getOp Y
  rw [h] at hg
  cases hg; rfl

theorem not_prefix_of_noop {b s : Bytes} (hb : PushPat b) (hg : Ref.getOp s = none) : ¬ b <+: s := by
  rintro ⟨Y, rfl⟩
  obtain ⟨_, _, _, h⟩ := hb.getOp Y
  rw [h] at hg
  cases hg

theorem getOp_local {pre rest : Bytes} {opc : Nat} {v : Bytes} (h : Ref.getOp (pre ++ rest) = some (opc, v, rest))
    (X : Bytes) : Ref.getOp (pre ++ X) = some (opc, v, X) := by
  obtain ⟨hs, wf⟩ := getOp_enc h
  rw [List.append_cancel_right hs]
  exact getOp_encBytes opc v X wf

theorem skipMatches_prefix {b s : Bytes} (hne : b ≠ []) (hp : b <+: s) :
    Ref.skipMatches b s = Ref.skipMatches b (s.drop b.length) := by
  rw [Ref.skipMatches, dif_pos ⟨hne, List.isPrefixOf_iff_prefix.mpr hp⟩]

theorem skipMatches_noprefix {b s : Bytes} (hp : ¬ b <+: s) : Ref.skipMatches b s = s := by
  rw [Ref.skipMatches, dif_neg fun h => hp (List.isPrefixOf_iff_prefix.mp h.2)]

theorem fadLoop_unfold (b s : Bytes) :
    Ref.fadLoop b s =
      match Ref.getOp (Ref.skipMatches b s) with
      | none => Ref.skipMatches b s
      | some (_, _, rest) =>
        (Ref.skipMatches b s).take ((Ref.skipMatches b s).length - rest.length) ++ Ref.fadLoop b rest := by
  rw [Ref.fadLoop]
  split
  · rename_i h; simp [h]
  · rename_i h; simp [h]

theorem fadLoop_nil {b : Bytes} (hb : PushPat b) : Ref.fadLoop b [] = [] := by
  rw [fadLoop_unfold, skipMatches_noprefix fun h => hb.ne_nil (List.prefix_nil.mp h)]
  rfl

theorem fadLoop_err {b s : Bytes} (hb : PushPat b) (hg : Ref.getOp s = none) : Ref.fadLoop b s = s := by
  rw [fadLoop_unfold, skipMatches_noprefix (not_prefix_of_noop hb hg), hg]

theorem fadLoop_match {b s : Bytes} (hb : PushPat b) (hp : b <+: s) {opc : Nat} {v rest : Bytes}
    (hg : Ref.getOp s = some (opc, v, rest)) : Ref.fadLoop b s = Ref.fadLoop b rest := by
  rw [fadLoop_unfold b s, fadLoop_unfold b rest, skipMatches_prefix hb.ne_nil hp, prefix_is_op hb hp hg,
    List.drop_left]

theorem fadLoop_keep {b pre rest : Bytes} (hp : ¬ b <+: pre ++ rest) {opc : Nat} {v : Bytes}
    (hg : Ref.getOp (pre ++ rest) = some (opc, v, rest)) :
    Ref.fadLoop b (pre ++ rest) = pre ++ Ref.fadLoop b rest := by
  rw [fadLoop_unfold, skipMatches_noprefix hp, hg]
  simp

theorem slice_prefix_iff (script b : Bytes) (idx : Nat) :
    (slice script idx (idx + b.length) == b) = true ↔ b <+: script.drop idx := by
  simp only [slice, Nat.add_sub_cancel_left, beq_iff_eq]
  constructor
  · intro h; rw [← h]; exact List.take_prefix _ _
  · intro h
    obtain ⟨t, ht⟩ := h
    rw [← ht, List.take_left]

/-- what `FindAndDelete` returns from its final loop state -/
def fadFinish (script : Bytes) (acc : FadAcc) : Bytes :=
  if !acc.skip then acc.r ++ script.drop acc.last else acc.r

/-- bytes of the last operation seen, if it is still to be appended -/
def fadPending (script : Bytes) (acc : FadAcc) (idx : Nat) : Bytes :=
  if acc.skip then [] else slice script acc.last idx

theorem fad_fold (script b : Bytes) (hb : PushPat b) (idx : Nat) (s : Bytes) :
    s = script.drop idx → (rawIterFrom idx s).2 = none →
    ∀ acc : FadAcc, acc.last ≤ idx →
      fadFinish script ((rawIterFrom idx s).1.foldl (fadStep script b) acc) =
      acc.r ++ fadPending script acc idx ++ Ref.fadLoop b s := by
  induction idx, s using rawIter_ind with
  | nil idx =>
    intro hs _ ⟨r, last, skip⟩ hlast
    have hlen : (script.drop last).length ≤ idx - last := by
      have := congrArg List.length hs
      simp only [List.length_nil, List.length_drop] at this ⊢; omega
    rw [rawIterFrom_nil, fadLoop_nil hb]
    simp only [List.foldl_nil, List.append_nil, fadFinish, fadPending, slice, List.take_of_length_le hlen]
    cases skip <;> simp
  | err idx s e _ _ h =>
    intro _ he
    rw [h] at he
    cases he
  | op idx o pre rest hne hf hit ih =>
    intro hs he acc hlast
    obtain ⟨hget, hidx, -⟩ := hf
    rw [hit] at he ⊢
    have hrest : rest = script.drop (idx + pre.length) := by
      rw [← List.drop_drop, ← hs, List.drop_left]
    -- the state after this operation
    have hstep : fadStep script b acc o =
        ⟨acc.r ++ fadPending script acc idx, idx, decide (b <+: pre ++ rest)⟩ := by
      simp only [fadStep, hidx, fadPending]
      congr 1
      · cases acc.skip <;> simp
      · rw [Bool.eq_iff_iff, slice_prefix_iff, ← hs]; simp
    rw [List.foldl_cons, hstep, ih hrest he _ (Nat.le_add_right _ _)]
    -- what is pending after this operation: its own bytes, unless it matched
    by_cases hp : b <+: pre ++ rest
    · simp only [fadPending, hp, decide_true, if_true, List.append_nil]
      rw [fadLoop_match hb hp hget]
    · have hsl : slice script idx (idx + pre.length) = pre := by
        simp only [slice, Nat.add_sub_cancel_left, ← hs, List.take_left]
      simp only [fadPending, hp, decide_false, Bool.false_eq_true, if_false, hsl]
      rw [fadLoop_keep hp hget, List.append_assoc]

theorem findAndDelete_eq (cap : Captured) (script b : Bytes) (hb : PushPat b) :
    findAndDelete cap script b =
      if (rawIter script).2.isSome then .error (.invalid cap) else .ok (Ref.findAndDelete script b) := by
  have hdef : findAndDelete cap script b =
      match (rawIter script).2 with
      | some _ => .error (.invalid cap)
      | none => .ok (fadFinish script ((rawIter script).1.foldl (fadStep script b) ⟨[], 0, true⟩)) := rfl
  rw [hdef]
  cases he : (rawIter script).2 with
  | some e => rfl
  | none =>
    rw [rawIter] at he ⊢
    rw [fad_fold script b hb 0 script rfl he ⟨[], 0, true⟩ (Nat.le_refl _)]
    simp [fadPending, Ref.findAndDelete, hb.ne_nil]

theorem pushEnc_pat (d : Bytes) (h : d.length < 2 ^ 32) : PushPat (Ref.pushEnc d) := by
  unfold Ref.pushEnc
  by_cases h1 : d.length < 0x4c
  · refine ⟨d.length, d, by omega, ⟨by omega, fun _ => rfl, by intro h; omega, by intro h; omega⟩, ?_⟩
    simp [h1, encBytes, lenWidth, leBytes]
  · by_cases h2 : d.length ≤ 0xff
    · refine ⟨0x4c, d, by omega, ⟨by omega, by intro h; omega, by intro _ _; simp [lenWidth]; omega,
        by intro h; omega⟩, ?_⟩
      have : d.length % 256 = d.length := Nat.mod_eq_of_lt (by omega)
      simp [h1, h2, encBytes, lenWidth, leBytes, this]
    · by_cases h3 : d.length ≤ 0xffff
      · refine ⟨0x4d, d, by omega, ⟨by omega, by intro h; omega, by intro _ _; simp [lenWidth]; omega,
          by intro h; omega⟩, ?_⟩
        simp [h1, h2, h3, encBytes, lenWidth]
      · refine ⟨0x4e, d, by omega, ⟨by omega, by intro h; omega, by intro _ _; simp [lenWidth]; omega,
          by intro h; omega⟩, ?_⟩
        simp [h1, h2, h3, encBytes, lenWidth]

theorem encodeOpPushdata_eq (d : Bytes) (h : d.length < 2 ^ 32) :
    encodeOpPushdata d = .ok (Ref.pushEnc d) := by
  unfold encodeOpPushdata Ref.pushEnc
  by_cases h1 : d.length < 0x4c
  · simp [h1]
  · by_cases h2 : d.length ≤ 0xff
    · simp [h1, h2]
    · by_cases h3 : d.length ≤ 0xffff
      · simp [h1, h2, h3]
      · have h4 : d.length ≤ 0xffffffff := by omega
        simp [h1, h2, h3, h4]

theorem rawStep_codesep (idx : Nat) (code : Bytes) :
    rawStep idx ((0xab : UInt8) :: code) = some (.op ⟨0xab, none, idx⟩ code) := by
  simp [rawStep]

theorem rawIter_codesep_tail (code : Bytes) : (rawIter ((0xab : UInt8) :: code)).2 = (rawIter code).2 := by
  rw [rawIter, rawIterFrom_op (rawStep_codesep 0 code)]
  exact rawIterFrom_tail_indep 0 code _

theorem fadLoop_codesep {b : Bytes} (hb : PushPat b) (code : Bytes) :
    Ref.fadLoop b ((0xab : UInt8) :: code) = 0xab :: Ref.fadLoop b code := by
  have hg : Ref.getOp ([0xab] ++ code) = some (0xab, [], code) := by simp [Ref.getOp]
  refine fadLoop_keep (pre := [0xab]) ?_ hg
  rintro ⟨Y, hY⟩
  obtain ⟨opc, _, hle, h⟩ := hb.getOp Y
  rw [hY, hg] at h
  cases h
  omega

theorem fadLoop_parses (b : Bytes) (hb : PushPat b) (idx : Nat) (s : Bytes) :
    (rawIterFrom idx s).2 = none → ∀ j, (rawIterFrom j (Ref.fadLoop b s)).2 = none := by
  induction idx, s using rawIter_ind with
  | nil idx =>
    intro _ j
    rw [fadLoop_nil hb, rawIterFrom_nil]
  | err idx s e _ _ h =>
    intro he
    rw [h] at he
    cases he
  | op idx o pre rest hne hf hit ih =>
    intro he j
    rw [hit] at he
    by_cases hp : b <+: pre ++ rest
    · rw [fadLoop_match hb hp hf.1]
      exact ih he j
    · rw [fadLoop_keep hp hf.1, rawIterFrom_getOp_snd (getOp_local hf.1 _) j 0]
      exact ih he 0

theorem fadLoop_length_le (b s : Bytes) : (Ref.fadLoop b s).length ≤ s.length := by
  induction s using Ref.fadLoop.induct b with
  | case1 s h =>
    rw [fadLoop_unfold, h]
    exact Ref.skipMatches_le b s
  | case2 s _ _ rest h ih =>
    have := Ref.skipMatches_le b s
    have := Ref.getOp_lt h
    rw [fadLoop_unfold, h]
    simp only [List.length_append, List.length_take]
    omega

theorem ref_findAndDelete_length_le (s b : Bytes) : (Ref.findAndDelete s b).length ≤ s.length := by
  unfold Ref.findAndDelete
  split
  · exact Nat.le_refl _
  · exact fadLoop_length_le b s

theorem findAndDelete_length_le {cap : Captured} {script b r : Bytes} (hb : PushPat b)
    (h : findAndDelete cap script b = .ok r) : r.length ≤ script.length := by
  rw [findAndDelete_eq cap script b hb] at h
  split at h
  · cases h
  · simp only [Except.ok.injEq] at h
    rw [← h]; exact ref_findAndDelete_length_le script b

end BtcVerif.Model.ScriptEval

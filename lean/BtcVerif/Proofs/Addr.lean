/-
  Addresses (C12): a `SelectParams` call and a history of calls (`selectParams_eq`, `foldl_select_from`); the
  readers `CBech32BitcoinAddress(s)` and `CBase58BitcoinAddress(s)` by cases of what the text validly denotes
  (`bech32New_eq`, `bech32New_cases`, `base58New_cases`).
-/
import BtcVerif.Model.Addr
import BtcVerif.Props.C10
import BtcVerif.Proofs.Bech32Addr

namespace BtcVerif.AddrProofs
open BtcVerif BtcVerif.Spec
open BtcVerif.Spec.Addr (AddrClass Addr ValidFor selected)
open BtcVerif.Model.Addr

/-! ### chain selection -/

theorem chainByName_other {n : String} (h1 : n ≠ "mainnet") (h2 : n ≠ "testnet") (h3 : n ≠ "regtest")
    (h4 : n ≠ "signet") : chainByName? n = none := by
  have e1 : ("mainnet" == n) = false := by simpa using fun h => h1 h.symm
  have e2 : ("testnet" == n) = false := by simpa using fun h => h2 h.symm
  have e3 : ("regtest" == n) = false := by simpa using fun h => h3 h.symm
  have e4 : ("signet" == n) = false := by simpa using fun h => h4 h.symm
  simp [chainByName?, chainTable, List.find?, mainnet, testnet, signet, regtest, e1, e2, e3, e4]

theorem selectParams_eq (st : ChainState) (n : String) :
    selectParams st n = match chainByName? n with
                        | some q => (⟨q, .full q⟩, none)
                        | none => (st, some .valueerr) := by
  by_cases h1 : n = "mainnet"
  · subst h1; rfl
  by_cases h2 : n = "testnet"
  · subst h2; rfl
  by_cases h3 : n = "regtest"
  · subst h3; rfl
  by_cases h4 : n = "signet"
  · subst h4; rfl
  rw [chainByName_other h1 h2 h3 h4]
  simp [selectParams, selectCore, h1, h2, h3, h4]

/-- last chain name of a history, `p` if there is none -/
def selFrom (p : ChainParams) (history : List String) : ChainParams :=
  match (history.filterMap chainByName?).getLast? with
  | some q => q
  | none => p

theorem selFrom_cons (p : ChainParams) (n : String) (h : List String) :
    selFrom p (n :: h) = selFrom (match chainByName? n with | some q => q | none => p) h := by
  unfold selFrom
  cases hc : chainByName? n with
  | none => simp [List.filterMap_cons, hc]
  | some q =>
    simp only [List.filterMap_cons, hc, List.getLast?_cons]
    cases (List.filterMap chainByName? h).getLast? <;> simp

theorem foldl_select (p : ChainParams) (history : List String) :
    history.foldl (fun st n => (selectParams st n).1) ⟨p, .full p⟩ =
      ⟨selFrom p history, .full (selFrom p history)⟩ := by
  induction history generalizing p with
  | nil => rfl
  | cons n h ih =>
    rw [List.foldl_cons, selFrom_cons, selectParams_eq]
    cases chainByName? n with
    | none => exact ih p
    | some q => exact ih q

theorem foldl_select_from (st : ChainState) (history : List String) :
    history.foldl (fun st n => (selectParams st n).1) st =
      if history.filterMap chainByName? = [] then st
      else ⟨selFrom st.params history, .full (selFrom st.params history)⟩ := by
  induction history generalizing st with
  | nil => rfl
  | cons n h ih =>
    rw [List.foldl_cons, selectParams_eq, selFrom_cons]
    cases hc : chainByName? n with
    | none =>
      simp only [List.filterMap_cons, hc]
      exact ih st
    | some q =>
      simp only [List.filterMap_cons, hc, List.cons_ne_nil, if_false]
      exact foldl_select q h

theorem chainByName_mem {n : String} {q : ChainParams} (h : chainByName? n = some q) : q ∈ chainTable := by
  unfold chainByName? at h
  exact List.mem_of_find?_eq_some h

/-! ### the parser -/

theorem bytesOfInts_ok (l : List Nat) (h : ∀ x ∈ l, x < 256) : bytesOfInts l = .ok (l.map UInt8.ofNat) := by
  unfold bytesOfInts
  have : l.all (· < 256) = true := by simpa using h
  simp [this]

theorem bech32New_eq (chain : ChainParams) (s : List Char) :
    bech32New chain s = match Model.Bech32.decode chain.bech32Hrp.toList s with
                        | none => .error .bech32err
                        | some (v, p) => bech32FromBytes v p := by
  unfold bech32New
  rw [BtcVerif.Bech32.decodeR_eq]
  cases Model.Bech32.decode chain.bech32Hrp.toList s <;> rfl

theorem bech32New_of_not_valid (chain : ChainParams) (s : List Char)
    (h : ¬ Bech32.ValidSegwit chain.bech32Hrp.toList s) : bech32New chain s = .error .bech32err := by
  rw [bech32New_eq, not_not.1 (mt (BtcVerif.Bech32.decode_ne_none_iff _ s).1 h)]

theorem bech32New_cases (chain : ChainParams) (s : List Char) :
    (∃ a, bech32New chain s = .ok a ∧ (a.cls = .p2wpkh ∨ a.cls = .p2wsh) ∧
        ∀ H, ValidFor H chain a s) ∨
    (bech32New chain s = .error .bech32err ∧ ¬ Bech32.ValidSegwit chain.bech32Hrp.toList s) ∨
    (bech32New chain s = .error .addrerr ∧
        ∃ v p, v ≠ 0 ∧ Bech32.Decodes chain.bech32Hrp.toList s v p) := by
  rw [bech32New_eq]
  cases hdec : Model.Bech32.decode chain.bech32Hrp.toList s with
  | none =>
    exact Or.inr (Or.inl ⟨rfl, fun hv => (BtcVerif.Bech32.decode_ne_none_iff _ s).2 hv hdec⟩)
  | some vp =>
    obtain ⟨v, p⟩ := vp
    have hd := (BtcVerif.Bech32.decode_eq_some_iff _ s v p).1 hdec
    by_cases hv : v = 0
    · subst hv
      left
      have hp256 := BtcVerif.Bech32.decodes_prog_lt hd
      have hlen := BtcVerif.Bech32.decodes_v0_length hd
      simp only [bech32FromBytes, ne_eq, not_true_eq_false, if_false, bytesOfInts_ok p hp256,
        Nat.zero_le, List.length_map]
      rcases hlen with hlen | hlen
      · refine ⟨⟨.p2wpkh, 0, p.map UInt8.ofNat⟩, by simp [hlen], Or.inl rfl, ?_⟩
        intro H
        simp only [ValidFor, List.length_map, hlen, true_and, BtcVerif.Bech32.map_ofNat_toNat p hp256]
        exact hd
      · refine ⟨⟨.p2wsh, 0, p.map UInt8.ofNat⟩, by simp [hlen], Or.inr rfl, ?_⟩
        intro H
        simp only [ValidFor, List.length_map, hlen, true_and, BtcVerif.Bech32.map_ofNat_toNat p hp256]
        exact hd
    · right; right
      exact ⟨by simp [bech32FromBytes, hv], v, p, hv, hd⟩

theorem base58New_cases (H : Bytes → Bytes) (chain : ChainParams) (s : List Char) :
    (∃ a, base58New H chain s = .ok a ∧ (a.cls = .p2pkh ∨ a.cls = .p2sh) ∧ ValidFor H chain a s) ∨
    base58New H chain s = .error .b58err ∨ base58New H chain s = .error .b58checksum ∨
    base58New H chain s = .error .addrerr := by
  unfold base58New
  rcases C10.check_outcomes H s with ⟨d, hd⟩ | hd | hd
  · rw [hd]
    obtain ⟨v, p⟩ := d
    have hk := (C10.check_accepts_iff H s v p).1 hd
    have hv : v.toNat < 256 := v.toNat_lt
    simp only [classify]
    by_cases h1 : v.toNat = chain.scriptAddr
    · left
      refine ⟨⟨.p2sh, v.toNat, p⟩, by simp [h1], Or.inr rfl, ?_⟩
      simp only [ValidFor, h1, true_and]
      rw [← h1, UInt8.ofNat_toNat]
      exact ⟨hv, hk⟩
    · by_cases h2 : v.toNat = chain.pubkeyAddr
      · left
        refine ⟨⟨.p2pkh, v.toNat, p⟩, by rw [if_neg h1, if_pos h2], Or.inl rfl, ?_⟩
        simp only [ValidFor, h2, true_and]
        rw [← h2, UInt8.ofNat_toNat]
        exact ⟨hv, hk⟩
      · right; right; right
        simp [h1, h2]
  · right; right; left; rw [hd]
  · right; left; rw [hd]

end BtcVerif.AddrProofs

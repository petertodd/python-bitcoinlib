/-
  Positional notation in any base `b`: the value of a big-endian digit string (`Spec.Bech32.beValue`; `beFrom`,
  named in the namespace of its first user `convertbits`, when the digits are appended to a number already read)
  and fixed-width digit strings (`Spec.Bech32.beDigits`).
  Main lemmas: `beFrom_add`/`beFrom_eq` (shift by the length), `beValue_lt`, `beValue_inj`, `beValue_beDigits`,
  `eq_beDigits`.  Used by `convertbits` (bases 32 and 256) and by the bech32 checksum digits (base 32).
-/
import BtcVerif.Spec.Bech32

namespace BtcVerif.Bech32
open BtcVerif.Spec.Bech32 (beValue)

/-- value of the digits `ds` in base `b` appended to the number `a` -/
def beFrom (b a : Nat) (ds : List Nat) : Nat := ds.foldl (fun a d => a * b + d) a

@[simp] theorem beFrom_nil (b a : Nat) : beFrom b a [] = a := rfl

@[simp] theorem beFrom_cons (b a d : Nat) (ds : List Nat) :
    beFrom b a (d :: ds) = beFrom b (a * b + d) ds := rfl

theorem beFrom_append (b a : Nat) (xs ys : List Nat) :
    beFrom b a (xs ++ ys) = beFrom b (beFrom b a xs) ys :=
  List.foldl_append

theorem beFrom_add (b x y : Nat) (ds : List Nat) :
    beFrom b (x + y) ds = x * b ^ ds.length + beFrom b y ds := by
  induction ds generalizing x y with
  | nil => simp [beFrom]
  | cons d ds ih =>
    rw [beFrom_cons, beFrom_cons, Nat.add_mul, Nat.add_assoc, ih, List.length_cons, Nat.pow_succ,
      Nat.mul_assoc, Nat.mul_comm b]

theorem beFrom_eq (b a : Nat) (ds : List Nat) : beFrom b a ds = a * b ^ ds.length + beValue b ds := by
  rw [show beValue b ds = beFrom b 0 ds from rfl, ← beFrom_add, Nat.add_zero]

end BtcVerif.Bech32

namespace BtcVerif.Positional
open BtcVerif.Bech32 (beFrom beFrom_cons beFrom_append beFrom_eq)
open BtcVerif.Spec.Bech32 (beValue beDigits)

theorem beValue_eq (b : Nat) (ds : List Nat) : beValue b ds = beFrom b 0 ds := rfl

theorem beValue_nil (b : Nat) : beValue b [] = 0 := rfl

theorem beValue_cons (b d : Nat) (ds : List Nat) :
    beValue b (d :: ds) = d * b ^ ds.length + beValue b ds := by
  rw [beValue_eq, beFrom_cons, Nat.zero_mul, Nat.zero_add, beFrom_eq]

theorem beValue_append (b : Nat) (xs ys : List Nat) :
    beValue b (xs ++ ys) = beValue b xs * b ^ ys.length + beValue b ys := by
  rw [beValue_eq, beFrom_append, ← beValue_eq, beFrom_eq]

theorem beValue_lt {b : Nat} {ds : List Nat} (h : ∀ d ∈ ds, d < b) : beValue b ds < b ^ ds.length := by
  induction ds with
  | nil => simp [beValue]
  | cons d ds ih =>
    rw [beValue_cons, List.length_cons, Nat.pow_succ, Nat.mul_comm _ b]
    have h1 := ih (fun x hx => h x (by simp [hx]))
    have h2 : (d + 1) * b ^ ds.length ≤ b * b ^ ds.length := Nat.mul_le_mul_right _ (h d (by simp))
    rw [Nat.add_mul, Nat.one_mul] at h2
    omega

theorem divmod_unique {M X Y q q' : Nat} (hX : X < M) (hY : Y < M) (h : q * M + X = q' * M + Y) :
    q = q' ∧ X = Y := by
  have hM : 0 < M := by omega
  have e1 : (q * M + X) / M = q := by
    rw [Nat.mul_comm, Nat.mul_add_div hM, Nat.div_eq_of_lt hX, Nat.add_zero]
  have e2 : (q' * M + Y) / M = q' := by
    rw [Nat.mul_comm, Nat.mul_add_div hM, Nat.div_eq_of_lt hY, Nat.add_zero]
  have : q = q' := by rw [← e1, ← e2, h]
  subst this
  exact ⟨rfl, by omega⟩

theorem beValue_inj {b : Nat} {xs ys : List Nat} (hx : ∀ d ∈ xs, d < b) (hy : ∀ d ∈ ys, d < b)
    (hl : xs.length = ys.length) (h : beValue b xs = beValue b ys) : xs = ys := by
  induction xs generalizing ys with
  | nil =>
    cases ys with
    | nil => rfl
    | cons _ _ => simp at hl
  | cons x xs ih =>
    cases ys with
    | nil => simp at hl
    | cons y ys =>
      have hl' : xs.length = ys.length := by simpa using hl
      rw [beValue_cons, beValue_cons, hl'] at h
      have h1 := beValue_lt (ds := xs) (fun d hd => hx d (by simp [hd]))
      rw [hl'] at h1
      obtain ⟨rfl, h3⟩ := divmod_unique h1 (beValue_lt (ds := ys) (fun d hd => hy d (by simp [hd]))) h
      rw [ih (fun d hd => hx d (by simp [hd])) (fun d hd => hy d (by simp [hd])) hl' h3]

theorem beDigits_length (b n v : Nat) : (beDigits b n v).length = n := by
  induction n generalizing v with
  | zero => rfl
  | succ n ih => simp [beDigits, ih]

theorem beDigits_lt (b n v : Nat) (hb : 0 < b) : ∀ d ∈ beDigits b n v, d < b := by
  induction n generalizing v with
  | zero => simp [beDigits]
  | succ n ih =>
    intro d hd
    simp only [beDigits, List.mem_append, List.mem_singleton] at hd
    rcases hd with hd | rfl
    · exact ih _ d hd
    · exact Nat.mod_lt _ hb

theorem beValue_beDigits {b n v : Nat} (hv : v < b ^ n) : beValue b (beDigits b n v) = v := by
  induction n generalizing v with
  | zero => simp at hv; simp [beDigits, beValue, hv]
  | succ n ih =>
    have hb : 0 < b := by
      rcases Nat.eq_zero_or_pos b with h | h
      · subst h; simp at hv
      · exact h
    rw [beDigits, beValue_append, ih (by rw [Nat.div_lt_iff_lt_mul hb, ← Nat.pow_succ]; exact hv)]
    simp only [List.length_singleton, Nat.pow_one, beValue_cons, List.length_nil, Nat.pow_zero, Nat.mul_one,
      beValue_nil, Nat.add_zero]
    rw [Nat.mul_comm]; exact Nat.div_add_mod v b

theorem eq_beDigits (b : Nat) (ds : List Nat) (h : ∀ d ∈ ds, d < b) (hb : 0 < b) :
    ds = beDigits b ds.length (beValue b ds) := by
  apply beValue_inj h (beDigits_lt b _ _ hb) (beDigits_length _ _ _).symm
  rw [beValue_beDigits (beValue_lt h)]

end BtcVerif.Positional

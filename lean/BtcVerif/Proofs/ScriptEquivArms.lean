/-
  C06 — per-opcode simulation lemmas `arm_*`: one arm of the model's `if / elif` chain against the
  corresponding `case` of the reference `switch`.  On a stack whose relevant prefix is known both
  sides compute, so each stack shape is closed by `rfl`; the last shape is the successful one.
-/
import BtcVerif.Proofs.ScriptEquivBasic
import BtcVerif.Proofs.ScriptEvalInv
import Mathlib.Tactic.IntervalCases

namespace BtcVerif.Model.ScriptEval
open BtcVerif BtcVerif.Spec BtcVerif.Spec.Script BtcVerif.Model.Script

section
variable (env : Env) (fl : Flags) (pc code : Bytes) (fExec : Bool) (st : St)

theorem arm_2drop : Sim code st (op2Drop 0x6d st) (Ref.execOp env fl 0x6d pc fExec (toRef st code)) := by
  obtain ⟨s, al, vf, pb, n⟩ := st
  rcases s with _ | ⟨a, _ | ⟨b, rest⟩⟩
  · rfl
  · rfl
  · exact ⟨rfl, rfl, rfl⟩

theorem arm_2dup : Sim code st (op2Dup 0x6e st) (Ref.execOp env fl 0x6e pc fExec (toRef st code)) := by
  obtain ⟨s, al, vf, pb, n⟩ := st
  rcases s with _ | ⟨a, _ | ⟨b, rest⟩⟩
  · rfl
  · rfl
  · exact ⟨rfl, rfl, rfl⟩

theorem arm_3dup : Sim code st (op3Dup 0x6f st) (Ref.execOp env fl 0x6f pc fExec (toRef st code)) := by
  obtain ⟨s, al, vf, pb, n⟩ := st
  rcases s with _ | ⟨a, _ | ⟨b, _ | ⟨d, rest⟩⟩⟩
  · rfl
  · rfl
  · rfl
  · exact ⟨rfl, rfl, rfl⟩

theorem arm_2over : Sim code st (op2Over 0x70 st) (Ref.execOp env fl 0x70 pc fExec (toRef st code)) := by
  obtain ⟨s, al, vf, pb, n⟩ := st
  rcases s with _ | ⟨a, _ | ⟨b, _ | ⟨d, _ | ⟨e, rest⟩⟩⟩⟩
  · rfl
  · rfl
  · rfl
  · rfl
  · exact ⟨rfl, rfl, rfl⟩

theorem arm_2rot : Sim code st (op2Rot 0x71 st) (Ref.execOp env fl 0x71 pc fExec (toRef st code)) := by
  obtain ⟨s, al, vf, pb, n⟩ := st
  rcases s with _ | ⟨a, _ | ⟨b, _ | ⟨d, _ | ⟨e, _ | ⟨f, _ | ⟨g, rest⟩⟩⟩⟩⟩⟩
  · rfl
  · rfl
  · rfl
  · rfl
  · rfl
  · rfl
  · exact ⟨rfl, rfl, rfl⟩

theorem arm_2swap : Sim code st (op2Swap 0x72 st) (Ref.execOp env fl 0x72 pc fExec (toRef st code)) := by
  obtain ⟨s, al, vf, pb, n⟩ := st
  rcases s with _ | ⟨a, _ | ⟨b, _ | ⟨d, _ | ⟨e, rest⟩⟩⟩⟩
  · rfl
  · rfl
  · rfl
  · rfl
  · exact ⟨rfl, rfl, rfl⟩

theorem arm_drop : Sim code st (opDrop 0x75 st) (Ref.execOp env fl 0x75 pc fExec (toRef st code)) := by
  obtain ⟨s, al, vf, pb, n⟩ := st
  rcases s with _ | ⟨a, rest⟩
  · rfl
  · exact ⟨rfl, rfl, rfl⟩

theorem arm_dup : Sim code st (opDup 0x76 st) (Ref.execOp env fl 0x76 pc fExec (toRef st code)) := by
  obtain ⟨s, al, vf, pb, n⟩ := st
  rcases s with _ | ⟨a, rest⟩
  · rfl
  · exact ⟨rfl, rfl, rfl⟩

theorem arm_nip : Sim code st (opNip 0x77 st) (Ref.execOp env fl 0x77 pc fExec (toRef st code)) := by
  obtain ⟨s, al, vf, pb, n⟩ := st
  rcases s with _ | ⟨a, _ | ⟨b, rest⟩⟩
  · rfl
  · rfl
  · exact ⟨rfl, rfl, rfl⟩

theorem arm_over : Sim code st (opOver 0x78 st) (Ref.execOp env fl 0x78 pc fExec (toRef st code)) := by
  obtain ⟨s, al, vf, pb, n⟩ := st
  rcases s with _ | ⟨a, _ | ⟨b, rest⟩⟩
  · rfl
  · rfl
  · exact ⟨rfl, rfl, rfl⟩

theorem arm_rot : Sim code st (opRot 0x7b st) (Ref.execOp env fl 0x7b pc fExec (toRef st code)) := by
  obtain ⟨s, al, vf, pb, n⟩ := st
  rcases s with _ | ⟨a, _ | ⟨b, _ | ⟨d, rest⟩⟩⟩
  · rfl
  · rfl
  · rfl
  · exact ⟨rfl, rfl, rfl⟩

theorem arm_swap : Sim code st (opSwap 0x7c st) (Ref.execOp env fl 0x7c pc fExec (toRef st code)) := by
  obtain ⟨s, al, vf, pb, n⟩ := st
  rcases s with _ | ⟨a, _ | ⟨b, rest⟩⟩
  · rfl
  · rfl
  · exact ⟨rfl, rfl, rfl⟩

theorem arm_tuck : Sim code st (opTuck 0x7d st) (Ref.execOp env fl 0x7d pc fExec (toRef st code)) := by
  obtain ⟨s, al, vf, pb, n⟩ := st
  rcases s with _ | ⟨a, _ | ⟨b, rest⟩⟩
  · rfl
  · rfl
  · exact ⟨rfl, rfl, rfl⟩

theorem arm_toalt : Sim code st (opToAltStack 0x6b st) (Ref.execOp env fl 0x6b pc fExec (toRef st code)) := by
  obtain ⟨s, al, vf, pb, n⟩ := st
  rcases s with _ | ⟨a, rest⟩
  · rfl
  · exact ⟨rfl, rfl, rfl⟩

theorem arm_fromalt :
    Sim code st (opFromAltStack 0x6c st) (Ref.execOp env fl 0x6c pc fExec (toRef st code)) := by
  obtain ⟨s, al, vf, pb, n⟩ := st
  rcases al with _ | ⟨a, rest⟩
  · rfl
  · exact ⟨rfl, rfl, rfl⟩

theorem arm_ifdup : Sim code st (opIfDup 0x73 st) (Ref.execOp env fl 0x73 pc fExec (toRef st code)) := by
  obtain ⟨s, al, vf, pb, n⟩ := st
  rcases s with _ | ⟨a, rest⟩
  · rfl
  · show Sim code _
      (if castToBool a then .ok ⟨a :: a :: rest, al, vf, pb, n⟩ else .ok ⟨a :: rest, al, vf, pb, n⟩)
      (if Ref.castToBool a then some ⟨a :: a :: rest, al, vf, code, n⟩ else some ⟨a :: rest, al, vf, code, n⟩)
    rw [castToBool_eq]
    cases Ref.castToBool a <;> exact ⟨rfl, rfl, rfl⟩

theorem arm_verify : Sim code st (opVerify 0x69 st) (Ref.execOp env fl 0x69 pc fExec (toRef st code)) := by
  obtain ⟨s, al, vf, pb, n⟩ := st
  rcases s with _ | ⟨a, rest⟩
  · rfl
  · show Sim code _
      (if castToBool a then .ok ⟨rest, al, vf, pb, n⟩ else raiseNamed 0x69 ⟨a :: rest, al, vf, pb, n⟩)
      (if Ref.castToBool a then some ⟨rest, al, vf, code, n⟩ else none)
    rw [castToBool_eq]
    cases Ref.castToBool a
    · rfl
    · exact ⟨rfl, rfl, rfl⟩

/-- the model compares `v1 == v2` (top first), the reference `vch1 == vch2` (top last) -/
theorem arm_equal : Sim code st (opEqual 0x87 st) (Ref.execOp env fl 0x87 pc fExec (toRef st code)) := by
  obtain ⟨s, al, vf, pb, n⟩ := st
  rcases s with _ | ⟨a, _ | ⟨b, rest⟩⟩
  · rfl
  · rfl
  · refine ⟨?_, rfl, rfl⟩
    show (some _ : Option Ref.State) = some _
    simp only [toRef, Ref.boolVch, Ref.vchTrue, Ref.vchFalse, beq_iff_eq, eq_comm (a := b)]

theorem arm_equalverify :
    Sim code st (opEqualVerify 0x88 st) (Ref.execOp env fl 0x88 pc fExec (toRef st code)) := by
  obtain ⟨s, al, vf, pb, n⟩ := st
  rcases s with _ | ⟨a, _ | ⟨b, rest⟩⟩
  · rfl
  · rfl
  · show Sim code _ (if a = b then .ok ⟨rest, al, vf, pb, n⟩ else raiseNamed 0x88 ⟨a :: b :: rest, al, vf, pb, n⟩)
      (if (b == a) = true then some ⟨rest, al, vf, code, n⟩ else none)
    by_cases hab : a = b
    · rw [if_pos hab, if_pos (beq_iff_eq.mpr hab.symm)]; exact ⟨rfl, rfl, rfl⟩
    · rw [if_neg hab, if_neg fun h => hab (beq_iff_eq.mp h).symm]; rfl

theorem arm_if (sop : Nat) (hs : sop = 0x63 ∨ sop = 0x64) :
    Sim code st (opIf sop fExec st) (Ref.execOp env fl sop pc fExec (toRef st code)) := by
  obtain ⟨s, al, vf, pb, n⟩ := st
  cases fExec
  · rcases hs with rfl | rfl <;> exact ⟨rfl, rfl, rfl⟩
  · rcases s with _ | ⟨a, rest⟩
    · rcases hs with rfl | rfl <;> rfl
    · have h : ∀ b, castToBool a = b →
          Sim code ⟨a :: rest, al, vf, pb, n⟩ (.ok ⟨rest, al, (if sop = 0x64 then !b else b) :: vf, pb, n⟩)
            (Ref.execOp env fl sop pc true (toRef ⟨a :: rest, al, vf, pb, n⟩ code)) := by
        intro b hb
        rw [castToBool_eq] at hb
        subst hb
        rcases hs with rfl | rfl <;> exact ⟨rfl, rfl, rfl⟩
      exact h _ rfl

theorem arm_else : Sim code st (opElse st) (Ref.execOp env fl 0x67 pc fExec (toRef st code)) := by
  obtain ⟨s, al, vf, pb, n⟩ := st
  rcases vf with _ | ⟨a, rest⟩
  · rfl
  · exact ⟨rfl, rfl, rfl⟩

theorem arm_endif : Sim code st (opEndIf st) (Ref.execOp env fl 0x68 pc fExec (toRef st code)) := by
  obtain ⟨s, al, vf, pb, n⟩ := st
  rcases vf with _ | ⟨a, rest⟩
  · rfl
  · exact ⟨rfl, rfl, rfl⟩

theorem ref_execOp_nop (sop : Nat) (h1 : 0xb0 ≤ sop) (h2 : sop ≤ 0xb9) (rs : Ref.State) :
    Ref.execOp env fl sop pc fExec rs = if fl.discourageNops then none else some rs := by
  have : sop = 0xb0 ∨ sop = 0xb1 ∨ sop = 0xb2 ∨ sop = 0xb3 ∨ sop = 0xb4 ∨ sop = 0xb5 ∨ sop = 0xb6 ∨
      sop = 0xb7 ∨ sop = 0xb8 ∨ sop = 0xb9 := by omega
  rcases this with rfl | rfl | rfl | rfl | rfl | rfl | rfl | rfl | rfl | rfl <;> rfl

theorem arm_nop (sop : Nat) (h1 : 0xb0 ≤ sop) (h2 : sop ≤ 0xb9) :
    Sim code st (opNop fl sop st) (Ref.execOp env fl sop pc fExec (toRef st code)) := by
  rw [ref_execOp_nop env fl pc fExec sop h1 h2, opNop, raiseNamed_eq]
  cases fl.discourageNops
  · exact ⟨rfl, rfl, rfl⟩
  · rfl

theorem ref_execOp_hash (sop : Nat) (hs : sop = 0xa6 ∨ sop = 0xa7 ∨ sop = 0xa8 ∨ sop = 0xa9 ∨ sop = 0xaa)
    (rs : Ref.State) :
    Ref.execOp env fl sop pc fExec rs = match rs.stack with
      | vch :: rest => (Ref.hashOp env.hashes sop vch).map fun h => { rs with stack := h :: rest }
      | _ => none := by
  obtain ⟨s, al, vf, cd, n⟩ := rs
  rcases hs with rfl | rfl | rfl | rfl | rfl <;> rcases s with _ | ⟨a, rest⟩ <;> rfl

theorem arm_hash (sop : Nat) (f : Bytes → Bytes) (hf : Ref.hashOp env.hashes sop = fun x => some (f x))
    (hs : sop = 0xa6 ∨ sop = 0xa7 ∨ sop = 0xa8 ∨ sop = 0xa9 ∨ sop = 0xaa) :
    Sim code st (hashTop sop f st) (Ref.execOp env fl sop pc fExec (toRef st code)) := by
  rw [ref_execOp_hash env fl pc fExec sop hs, hf, hashTop, checkArgs, raiseNamed_eq]
  obtain ⟨s, al, vf, pb, n⟩ := st
  rcases s with _ | ⟨a, rest⟩
  · rfl
  · exact ⟨rfl, rfl, rfl⟩

end

end BtcVerif.Model.ScriptEval

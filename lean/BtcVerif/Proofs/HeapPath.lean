/-
  C09: closure of immutability, writes along a path (`unfoldA_set_path`),
  and the counting lemma used for separation.
-/
import BtcVerif.Proofs.HeapBasic

namespace BtcVerif.Model.Heap
open BtcVerif BtcVerif.Spec.ValueSem

/-- one-step form of closure: an immutable object refers to immutable objects only -/
def ImmClosed (h : Heap) : Prop :=
  ∀ (a : Addr) (o : Obj), h[a]? = some o → o.isMut = false →
    ∀ c ∈ o.refs, ∃ oc : Obj, h[c]? = some oc ∧ oc.isMut = false

theorem imm_reach {h : Heap} (hic : ImmClosed h) {f : Nat} {a : Addr} {t : ATree}
    (hu : unfoldA f h a = some t) (hm : t.isMut = false) :
    ∀ x ∈ addrs t, ∃ ox, h[x]? = some ox ∧ ox.isMut = false := by
  revert hm
  refine unfoldA_induct (P := fun _ _ t => t.isMut = false →
    ∀ x ∈ addrs t, ∃ ox, h[x]? = some ox ∧ ox.isMut = false) ?_ hu
  intro f a o kids ho _ ihk _ hm x hx
  simp only [addrs, List.mem_cons] at hx
  rcases hx with rfl | hx
  · exact ⟨o, ho, hm⟩
  · obtain ⟨k, hk', hxk⟩ := mem_addrsL.mp hx
    obtain ⟨c, hc, huc, ih⟩ := ihk k hk'
    obtain ⟨oc, hoc, hmc⟩ := hic a o ho hm c hc
    exact ih ((unfoldA_root huc hoc).1.trans hmc) x hxk

theorem sub_addr_mem : ∀ {p : List Nat} {t tx : ATree}, sub t p = some tx → tx.addr ∈ addrs t
  | [], t, tx, h => by
    simp [sub] at h; subst h
    cases t with | node a m sc kids => simp [addrs, ATree.addr]
  | i :: p, .node a m sc kids, tx, h => by
    simp only [sub] at h
    cases hk : kids[i]? with
    | none => simp [hk] at h
    | some k =>
      simp only [hk] at h
      have := sub_addr_mem h
      simp only [addrs, List.mem_cons]
      right
      exact mem_addrsL.mpr ⟨k, List.mem_of_getElem? hk, this⟩

theorem not_mem_of_cnt_zero {h : Heap} (hic : ImmClosed h) {x : Addr} {ox : Obj}
    (hox : h[x]? = some ox) (hmx : ox.isMut = true) {f : Nat} {a : Addr} {t : ATree}
    (hu : unfoldA f h a = some t) (hc : cnt x t = 0) : x ∉ addrs t := by
  revert hc
  refine unfoldA_induct (P := fun _ _ t => cnt x t = 0 → x ∉ addrs t) ?_ hu
  intro f a o kids ho hk ihk _ hc
  cases hm : o.isMut with
  | false =>
    intro hx
    obtain ⟨ox', hox', hmx'⟩ := imm_reach hic (unfoldA_mk ho hk) hm x hx
    rw [hox] at hox'; cases hox'
    rw [hmx] at hmx'; cases hmx'
  | true =>
    simp only [cnt, hm, if_true] at hc
    have hax : a ≠ x := by intro e; simp [e] at hc
    have hcl : cntL x kids = 0 := by omega
    simp only [addrs, List.mem_cons, not_or]
    refine ⟨fun e => hax e.symm, fun hx => ?_⟩
    obtain ⟨k, hk', hxk⟩ := mem_addrsL.mp hx
    obtain ⟨_, _, _, ih⟩ := ihk k hk'
    exact ih (cntL_eq_zero.mp hcl k hk') hxk

/-- all objects strictly above the end of the path are mutable -/
def mutPath : ATree → List Nat → Bool
  | _, [] => true
  | .node _ m _ kids, i :: p =>
    m && (match kids[i]? with
      | some k => mutPath k p
      | none => false)

theorem mutPath_of_sub {h : Heap} (hic : ImmClosed h) {x : Addr} {ox : Obj}
    (hox : h[x]? = some ox) (hmx : ox.isMut = true) : ∀ {p : List Nat} {f : Nat} {a : Addr} {t tx : ATree},
    unfoldA f h a = some t → sub t p = some tx → tx.addr = x → mutPath t p = true
  | [], _, _, _, _, _, _, _ => by simp [mutPath]
  | i :: p, 0, _, _, _, hu, _, _ => by simp [unfoldA] at hu
  | i :: p, f + 1, a, t, tx, hu, hs, hx => by
    obtain ⟨o, kids, ho, hk, rfl⟩ := unfoldA_succ hu
    have hmem := sub_addr_mem hs
    rw [hx] at hmem
    simp only [sub] at hs
    cases hki : kids[i]? with
    | none => simp [hki] at hs
    | some k =>
      simp only [hki] at hs
      obtain ⟨c, _, huc⟩ := mapO_getElem' hk i k hki
      cases hm : o.isMut with
      | false =>
        obtain ⟨ox', hox', hmx'⟩ := imm_reach hic hu (by simp [ATree.isMut, hm]) x hmem
        rw [hox] at hox'; cases hox'
        rw [hmx] at hmx'; cases hmx'
      | true =>
        simp [mutPath, hki, mutPath_of_sub hic hox hmx huc hs hx]

theorem cnt_pos_of_mutPath {x : Addr} : ∀ {p : List Nat} {t tx : ATree},
    sub t p = some tx → tx.addr = x → tx.isMut = true → mutPath t p = true → 1 ≤ cnt x t
  | [], t, tx, hs, hx, hm, _ => by
    simp [sub] at hs; subst hs
    cases t with | node a m sc kids =>
      simp only [ATree.addr, ATree.isMut] at hx hm
      simp [cnt, hx, hm]
  | i :: p, .node a m sc kids, tx, hs, hx, hm, hp => by
    simp only [sub] at hs
    simp only [mutPath, Bool.and_eq_true] at hp
    cases hki : kids[i]? with
    | none => simp [hki] at hs
    | some k =>
      simp only [hki] at hs hp
      have := cnt_pos_of_mutPath hs hx hm hp.2
      have h2 := cntL_le_of_getElem (x := x) hki
      simp only [cnt, hp.1, if_true]
      omega

theorem cntL_two {x : Addr} : ∀ {ts : List ATree} {i j : Nat} {k1 k2 : ATree}, i ≠ j →
    ts[i]? = some k1 → ts[j]? = some k2 → cnt x k1 + cnt x k2 ≤ cntL x ts
  | [], i, _, _, _, _, h, _ => by simp at h
  | t :: ts, 0, 0, _, _, hij, _, _ => by simp at hij
  | t :: ts, 0, j + 1, k1, k2, _, h1, h2 => by
    simp at h1 h2; subst h1
    have := cntL_le_of_getElem (x := x) h2
    simp [cntL]; omega
  | t :: ts, i + 1, 0, k1, k2, _, h1, h2 => by
    simp at h1 h2; subst h2
    have := cntL_le_of_getElem (x := x) h1
    simp [cntL]; omega
  | t :: ts, i + 1, j + 1, k1, k2, hij, h1, h2 => by
    simp at h1 h2
    have := cntL_two (x := x) (by omega : i ≠ j) h1 h2
    simp [cntL]; omega

theorem sub_unfold {h : Heap} : ∀ {p : List Nat} {f : Nat} {c : Addr} {t tx : ATree},
    unfoldA f h c = some t → sub t p = some tx → ∃ f', unfoldA f' h tx.addr = some tx
  | [], f, c, t, tx, hu, hs => by
    simp [sub] at hs; subst hs
    exact ⟨f, by rw [unfoldA_addr hu]; exact hu⟩
  | j :: p, 0, c, t, tx, hu, hs => by simp [unfoldA] at hu
  | j :: p, f + 1, c, t, tx, hu, hs => by
    obtain ⟨o, kids, _, hk, rfl⟩ := unfoldA_succ hu
    simp only [sub] at hs
    cases hkj : kids[j]? with
    | none => simp [hkj] at hs
    | some k =>
      simp only [hkj] at hs
      obtain ⟨c', _, huc⟩ := mapO_getElem' hk j k hkj
      exact sub_unfold huc hs

theorem sub_isMut {h : Heap} {p : List Nat} {f : Nat} {c : Addr} {t tx : ATree} {ox : Obj}
    (hu : unfoldA f h c = some t) (hs : sub t p = some tx) (hox : h[tx.addr]? = some ox) :
    tx.isMut = ox.isMut ∧ tx.sc = ox.sc := by
  obtain ⟨f', hu'⟩ := sub_unfold hu hs
  exact unfoldA_root hu' hox

/-- **writes along a path**: storing `o'` at the mutable object `x`, which occurs exactly once
    below `a` (at path `p`), replaces the subtree at `p` and nothing else -/
theorem unfoldA_set_path {h : Heap} (hic : ImmClosed h) {x : Addr} {ox o' : Obj}
    (hox : h[x]? = some ox) (hmx : ox.isMut = true) :
    ∀ (p : List Nat) (g : Nat) (a : Addr) (t tx t' : ATree),
      unfoldA (p.length + g) h a = some t → sub t p = some tx → tx.addr = x → cnt x t ≤ 1 →
      unfoldA g (h.set x o') x = some t' →
      unfoldA (p.length + g) (h.set x o') a = some (replaceAt t p t')
  | [], g, a, t, tx, t', hu, hs, hx, _, hu' => by
    simp [sub] at hs; subst hs
    have : a = x := by rw [← hx]; exact (unfoldA_addr hu).symm
    subst this
    simpa [replaceAt] using hu'
  | i :: p, g, a, t, tx, t', hu, hs, hx, hc, hu' => by
    have hfuel : (i :: p).length + g = (p.length + g) + 1 := by simp; omega
    rw [hfuel] at hu ⊢
    have hmp := mutPath_of_sub hic hox hmx hu hs hx
    obtain ⟨o, kids, ho, hk, rfl⟩ := unfoldA_succ hu
    have hs0 := hs
    simp only [sub] at hs
    simp only [mutPath, Bool.and_eq_true] at hmp
    cases hki : kids[i]? with
    | none => simp [hki] at hs
    | some k =>
      simp only [hki] at hs hmp
      have htxm : tx.isMut = true := by
        rw [(sub_isMut hu hs0 (by rw [hx]; exact hox)).1]; exact hmx
      have hk1 : 1 ≤ cnt x k := cnt_pos_of_mutPath hs hx htxm hmp.2
      simp only [cnt, hmp.1, if_true] at hc
      have hkl := cntL_le_of_getElem (x := x) hki
      have hax : a ≠ x := by intro e; simp [e] at hc; omega
      have ho' : (h.set x o')[a]? = some o := by
        rw [List.getElem?_set_ne (fun e => hax e.symm)]; exact ho
      obtain ⟨c, hci, huc⟩ := mapO_getElem' hk i k hki
      have hrec := unfoldA_set_path hic hox hmx p g c k tx t' huc hs hx (by omega) hu'
      have hset : mapO (unfoldA (p.length + g) (h.set x o')) o.refs = some (kids.set i (replaceAt k p t')) := by
        apply mapO_set (f := unfoldA (p.length + g) h) i c _ hk hci hrec
        intro j c' hji hcj
        obtain ⟨k2, hk2, hu2⟩ := mapO_getElem hk j c' hcj
        have h2 := cntL_two (x := x) (Ne.symm hji) hki hk2
        have hz : cnt x k2 = 0 := by omega
        rw [hu2]
        exact unfoldA_set_frame hu2 (not_mem_of_cnt_zero hic hox hmx hu2 hz)
      have := unfoldA_mk ho' hset
      simpa [replaceAt, hki] using this

theorem cnt_replaceAt (y : Addr) : ∀ {p : List Nat} {t tx : ATree} (t' : ATree),
    sub t p = some tx → mutPath t p = true → cnt y (replaceAt t p t') + cnt y tx = cnt y t + cnt y t'
  | [], t, tx, t', hs, _ => by simp [sub] at hs; subst hs; simp [replaceAt]; omega
  | i :: p, .node a m sc kids, tx, t', hs, hp => by
    simp only [sub] at hs
    simp only [mutPath, Bool.and_eq_true] at hp
    cases hki : kids[i]? with
    | none => simp [hki] at hs
    | some k =>
      simp only [hki] at hs hp
      have ih := cnt_replaceAt y t' hs hp.2
      have hset := cntL_set (x := y) (k' := replaceAt k p t') hki
      simp only [replaceAt, hki, cnt, hp.1, if_true]
      omega

theorem sub_replaceAt : ∀ {p : List Nat} {t tx : ATree} (t' : ATree),
    sub t p = some tx → sub (replaceAt t p t') p = some t'
  | [], t, tx, t', _ => by simp [sub, replaceAt]
  | i :: p, .node a m sc kids, tx, t', hs => by
    simp only [sub] at hs
    cases hki : kids[i]? with
    | none => simp [hki] at hs
    | some k =>
      simp only [hki] at hs
      have hi : i < kids.length := (List.getElem?_eq_some_iff.mp hki).1
      simp [replaceAt, hki, sub, List.getElem?_set_self hi, sub_replaceAt t' hs]

end BtcVerif.Model.Heap

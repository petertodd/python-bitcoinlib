/-
  C09, `CBlock.__init__`: depth of well-typed trees and lowering of the fuel; the cache fills of
  `build_witness_merkle_tree_from_txs`; simulation of `CBlock(…, vtx=[…])`.
-/
import BtcVerif.Proofs.HeapOpsCopy
import BtcVerif.Proofs.HeapOpsNew

namespace BtcVerif.Model.Heap
open BtcVerif BtcVerif.Spec.ValueSem

mutual
def depth : ATree → Nat
  | .node _ _ _ kids => 1 + depthL kids
def depthL : List ATree → Nat
  | [] => 0
  | t :: ts => max (depth t) (depthL ts)
end

theorem depth_le_depthL : ∀ {ts : List ATree} {t : ATree}, t ∈ ts → depth t ≤ depthL ts
  | t0 :: ts, t, h => by
    simp only [List.mem_cons] at h
    simp only [depthL]
    rcases h with rfl | h
    · exact Nat.le_max_left _ _
    · exact Nat.le_trans (depth_le_depthL h) (Nat.le_max_right _ _)

theorem unfoldA_lower {h : Heap} (g : Nat) {f : Nat} {a : Addr} {t : ATree}
    (hu : unfoldA f h a = some t) (hd : depth t ≤ g) : unfoldA g h a = some t := by
  revert g
  refine unfoldA_induct (P := fun _ a t => ∀ g, depth t ≤ g → unfoldA g h a = some t) ?_ hu
  intro f a o kids ho hk _ ihc g hd
  cases g with
  | zero => simp [depth] at hd
  | succ g =>
    simp only [depth] at hd
    refine unfoldA_mk ho (mapO_congr_some (fun c hc b hb => ?_) hk)
    obtain ⟨b', hb', hcb⟩ := mapO_mem' hk hc
    rw [hb] at hcb; cases hcb
    exact ihc c hc b hb g (by have := depth_le_depthL hb'; omega)

/-- depth, in objects, of the object graph of a value -/
def vdepth : Val → Nat
  | .outpoint _ => 1 | .txin _ => 2 | .txout _ => 1 | .inwit _ => 1 | .stacks _ => 2 | .wit _ => 3
  | .ins _ => 3 | .outs _ => 2 | .tx _ => 4 | .txs _ => 5 | .block _ => 6 | .header _ => 1

theorem parts_vdepth (v : Val) : ∀ w ∈ (partsOf v).2, vdepth w < vdepth v := by
  intro w hw
  cases v with
  | ins l | outs l | stacks l | txs l => obtain ⟨x, _, rfl⟩ := List.mem_map.mp hw; simp [vdepth]
  | txin x | wit x | block x => obtain rfl := List.mem_singleton.mp hw; simp [vdepth]
  | tx t =>
    simp only [partsOf, List.mem_cons, List.mem_nil_iff, or_false] at hw
    rcases hw with rfl | rfl | rfl <;> simp [vdepth]
  | _ => cases hw

theorem assemble_vdepth {sc : Scalars} {vs : List Val} {v : Val} (h : assemble sc vs = some v) :
    ∀ w ∈ vs, vdepth w < vdepth v := by
  have := parts_vdepth v
  rwa [assemble_inv h] at this

mutual
theorem decode_depth : ∀ (t : ATree) (v : Val), decode t = some v → depth t ≤ vdepth v
  | .node a m sc kids, v, h => by
    obtain ⟨vs, hvs, hasm⟩ := decode_inv h
    have hlt := assemble_vdepth hasm
    have := decodeL_depth kids vs hvs (vdepth v - 1) (fun w hw => by have := hlt w hw; omega)
    simp only [depth]
    have hpos : 1 ≤ vdepth v := by cases v <;> simp [vdepth]
    omega
theorem decodeL_depth : ∀ (ts : List ATree) (vs : List Val), mapO decode ts = some vs →
    ∀ b, (∀ w ∈ vs, vdepth w ≤ b) → depthL ts ≤ b
  | [], _, _, b, _ => by simp [depthL]
  | t :: ts, vs, h, b, hb => by
    simp only [mapO] at h
    cases hd : decode t with
    | none => simp [hd] at h
    | some v =>
      simp only [hd] at h
      cases hm : mapO decode ts with
      | none => simp [hm] at h
      | some vs' =>
        simp only [hm, Option.some.injEq] at h
        subst h
        have h1 := decode_depth t v hd
        have h2 := decodeL_depth ts vs' hm b (fun w hw => hb w (by simp [hw]))
        have h3 := hb v (by simp)
        simp only [depthL]
        omega
end

theorem inv_unbind {s : St} {h : Heap} (hi : Inv (s.bind h none)) : Inv { s with heap := h } := by
  refine ⟨hi.immClosed, hi.kindOK, hi.cacheOK, ?_, ?_, hi.defaults⟩
  · intro y
    have := hi.sep y
    simp only [Sep, St.bind] at this
    rw [total_snoc] at this
    simpa [nameCnt] using this
  · intro r a hr
    apply hi.roots r a
    rw [root_bind]
    have hlt : r < s.names.length := root_lt (s := { s with heap := h }) hr
    rw [if_pos hlt]; exact hr

theorem getHashAt_cases {h h' : Heap} {x : Addr} {r : BtcVerif.Res Bytes} (hg : getHashAt h x = some (h', r)) :
    h' = h ∨ ∃ (o : Obj) (c : Bytes) (v : Val), h[x]? = some o ∧ o.isMut = false ∧ absVal h x = some v ∧
      identOf v = .ok c ∧ h' = h.set x { o with cHash := some c } :=
  memoAt_cases (get := (·.cHash)) (set := fun o c => { o with cHash := some c }) (f := identOf) hg

/-- what `fillHashes` keeps -/
structure SameUpToCache (s : St) (h' : Heap) : Prop where
  inv : Inv { s with heap := h' }
  unf : ∀ (b : Addr) (t : ATree), unfoldA D s.heap b = some t → unfoldA D h' b = some t
  obj : ∀ (b : Addr) (o : Obj), s.heap[b]? = some o → ∃ o' : Obj, h'[b]? = some o' ∧ o'.isMut = o.isMut

theorem fillHashes_ok {s : St} (hinv : Inv s) : ∀ (addrs : List Addr), SameUpToCache s (fillHashes s.heap addrs) := by
  have key : ∀ (addrs : List Addr) (h : Heap), SameUpToCache s h → SameUpToCache s (fillHashes h addrs) := by
    intro addrs
    induction addrs with
    | nil => intro h hs; exact hs
    | cons a as ih =>
      intro h hs
      simp only [fillHashes]
      cases hg : getHashAt h a with
      | none => exact ih h hs
      | some pr =>
        obtain ⟨h', r⟩ := pr
        apply ih
        rcases getHashAt_cases hg with rfl | ⟨o, c, v, ho, hm, hv, hid, rfl⟩
        · exact hs
        · have hcache := hs.inv.cacheOK a o ho hm
          have hi := inv_set_same (s := { s with heap := h }) hs.inv (o' := { o with cHash := some c }) ho rfl rfl rfl
            (fun _ => ⟨fun c' hc' => by
              simp only [Option.some.injEq] at hc'; subst hc'; exact ⟨v, hv, hid⟩, fun c' hc' => hcache.2 c' hc'⟩)
          refine ⟨inv_unbind hi, ?_, ?_⟩
          · intro b t hu
            exact unfoldA_set_same (o' := { o with cHash := some c }) ho rfl rfl rfl (hs.unf b t hu)
          · intro b ob hob
            obtain ⟨o', ho', hm'⟩ := hs.obj b ob hob
            by_cases hba : b = a
            · subst hba
              rw [ho] at ho'; cases ho'
              exact ⟨{ o with cHash := some c },
                by simp [List.getElem?_set_self (List.getElem?_eq_some_iff.mp ho).1], hm'⟩
            · exact ⟨o', by rw [List.getElem?_set_ne (fun e => hba e.symm)]; exact ho', hm'⟩
  intro addrs
  exact key addrs s.heap ⟨hinv, fun _ _ h => h, fun b o h => ⟨o, h, rfl⟩⟩

/-! ### simulation of `CBlock(…, vtx=[…])` -/

/-- the name denotes a transaction, on both sides -/
def TxAt (h : Heap) (a : Addr) (e : Entry) (t : Tx) : Prop :=
  ∃ ta, unfoldA D h a = some ta ∧ decode ta = some (.tx t) ∧ ta.isMut = e.isMut ∧ e.val = .tx t

theorem mapO_cons_some {α β : Type} {f : α → Option β} {a : α} {as : List α} {b : β} {bs : List β}
    (h1 : f a = some b) (h2 : mapO f as = some bs) : mapO f (a :: as) = some (b :: bs) := by
  simp [mapO, h1, h2]

theorem mapO_cons_none_left {α β : Type} {f : α → Option β} {a : α} {as : List α} (h1 : f a = none) :
    mapO f (a :: as) = none := by simp [mapO, h1]

theorem mapO_cons_none_right {α β : Type} {f : α → Option β} {a : α} {as : List α}
    (h2 : mapO f as = none) : mapO f (a :: as) = none := by
  simp only [mapO]; cases f a <;> simp [h2]

theorem txs_sim {s : St} {sp : Store} (hinv : Inv s) (hrel : Rel s sp) : ∀ (txs : List Nat),
    (mapO (lookupTx sp) txs = none ∧
      (mapO s.root txs = none ∨ ∃ addrs, mapO s.root txs = some addrs ∧ mapO (entryAt s.heap) addrs = none)) ∨
    (∃ addrs es, mapO s.root txs = some addrs ∧ mapO (entryAt s.heap) addrs = some es ∧
      mapO (lookupTx sp) txs = some es ∧ addrs.length = es.length ∧
      ∀ (i : Nat) (a : Addr) (et : Entry × Tx), addrs[i]? = some a → es[i]? = some et → TxAt s.heap a et.1 et.2)
  | [] => Or.inr ⟨[], [], rfl, rfl, rfl, rfl, fun i a et h => by simp at h⟩
  | r :: rs => by
    have ih := txs_sim hinv hrel rs
    rcases root_tx_sim hinv hrel r with ⟨h1, h2⟩ | ⟨a, e, ta, h1, h2, hu, hd, hm, _, habs⟩
    · left
      exact ⟨mapO_cons_none_left (by simp [lookupTx, h2]), Or.inl (mapO_cons_none_left h1)⟩
    · have hu' := hu
      rw [D_eq] at hu'
      obtain ⟨o, kids, ho, _, hta⟩ := unfoldA_succ hu'
      have hom : o.isMut = e.isMut := by rw [← hm, hta]; rfl
      cases hval : e.val with
      | tx tv =>
        have hent : entryAt s.heap a = some (e, tv) := by
          simp only [entryAt, ho, habs, hval]
          cases e with | mk em ev => simp only at hval hom; subst hval; rw [hom]
        have hlk : lookupTx sp r = some (e, tv) := by simp [lookupTx, h2, hval]
        rcases ih with ⟨i1, i2⟩ | ⟨addrs, es, i1, i2, i3, i4, i5⟩
        · left
          refine ⟨mapO_cons_none_right i1, ?_⟩
          rcases i2 with i2 | ⟨addrs, i2, i3⟩
          · exact Or.inl (mapO_cons_none_right i2)
          · exact Or.inr ⟨a :: addrs, mapO_cons_some h1 i2, mapO_cons_none_right i3⟩
        · right
          refine ⟨a :: addrs, (e, tv) :: es, mapO_cons_some h1 i1, mapO_cons_some hent i2,
            mapO_cons_some hlk i3, by simp [i4], ?_⟩
          intro i a' et ha' het
          cases i with
          | zero =>
            simp at ha' het; subst ha'; subst het
            exact ⟨ta, hu, by rw [← hval]; exact hd, hm, hval⟩
          | succ i => simp at ha' het; exact i5 i a' et ha' het
      | _ =>
        left
        have hent : entryAt s.heap a = none := by simp [entryAt, ho, habs, hval]
        have hlk : lookupTx sp r = none := by simp [lookupTx, h2, hval]
        refine ⟨mapO_cons_none_left hlk, ?_⟩
        cases hr : mapO s.root rs with
        | none => exact Or.inl (mapO_cons_none_right hr)
        | some addrs => exact Or.inr ⟨a :: addrs, mapO_cons_some h1 hr, mapO_cons_none_left hent⟩

theorem newBlockVal_ok {hdr : Header} {es : List (Entry × Tx)} {b : Block} (h : newBlockVal hdr es = .ok b) :
    b.vtx = es.map (·.2) := by
  simp only [newBlockVal] at h
  cases hh : newBlockHdr hdr es with
  | error x => simp [hh] at h
  | ok hd => simp [hh] at h; rw [← h]

theorem chain_clones {h1 : Heap} (hic : ImmClosed h1) (hk : KindOK h1) :
    ∀ {addrs : List Addr} {plans : List Plan} {es : List (Entry × Tx)} {lo hi : Nat} {kids : List ATree},
      mapO (planClone false txFuel h1) addrs = some plans →
      addrs.length = es.length →
      (∀ (i : Nat) (a : Addr) (et : Entry × Tx), addrs[i]? = some a → es[i]? = some et →
        ∃ ta, unfoldA txFuel h1 a = some ta ∧ decode ta = some (.tx et.2)) →
      Chain (PT h1 txFuel) plans lo hi kids →
      mapO decode kids = some ((es.map (·.2)).map .tx) ∧ ∀ k ∈ kids, flagsOK false k := by
  intro addrs plans es lo hi kids hp hlen hta hch
  have hl1 := mapO_length hp
  have hl2 := Chain.length_eq hch
  have hpoint : ∀ (i : Nat) (k : ATree), kids[i]? = some k →
      ∃ et, es[i]? = some et ∧ decode k = some (.tx et.2) ∧ flagsOK false k := by
    intro i k hki
    have hi : i < kids.length := (List.getElem?_eq_some_iff.mp hki).1
    have hia : i < addrs.length := by omega
    have hie : i < es.length := by omega
    obtain ⟨ta, hu, hd⟩ := hta i addrs[i] es[i] (List.getElem?_eq_getElem hia) (List.getElem?_eq_getElem hie)
    obtain ⟨pl, hpl, hpc⟩ := mapO_getElem hp i addrs[i] (List.getElem?_eq_getElem hia)
    obtain ⟨lo', hi', hpt⟩ := Chain.get hch i pl k hpl hki
    obtain ⟨hdk, _, hfl⟩ := clone_tree hic hk false hu hpc hpt
    exact ⟨es[i], List.getElem?_eq_getElem hie, by rw [hdk]; exact hd, by simpa using hfl⟩
  constructor
  · rw [show some ((es.map (·.2)).map Val.tx) = mapO (fun et : Entry × Tx => some (Val.tx et.2)) es from by
      clear hta hpoint hlen
      induction es with
      | nil => rfl
      | cons e es ih => simp [mapO, ← ih]]
    apply mapO_congr_idx (by omega)
    intro i k et hk' het
    obtain ⟨et', het', hd, _⟩ := hpoint i k hk'
    rw [het] at het'; cases het'
    exact hd
  · intro k hk'
    obtain ⟨i, hi, rfl⟩ := List.getElem_of_mem hk'
    obtain ⟨_, _, _, hfl⟩ := hpoint i kids[i] (List.getElem?_eq_getElem hi)
    exact hfl

theorem sim_newBlock {s : St} {sp : Store} (hinv : Inv s) (hrel : Rel s sp) (hdr : Header) (txs : List Nat) :
    Sim s sp (.newBlock hdr txs) := by
  simp only [Sim, step, Spec.ValueSem.step]
  rcases txs_sim hinv hrel txs with ⟨i1, i2⟩ | ⟨addrs, es, i1, i2, i3, i4, i5⟩
  · rw [i1]
    rcases i2 with i2 | ⟨addrs, i2, i3⟩
    · rw [i2]; exact ⟨inv_skip hinv, rel_skip hrel, rfl⟩
    · rw [i2]; simp only [i3]; exact ⟨inv_skip hinv, rel_skip hrel, trivial⟩
  · rw [i1, i3]
    simp only [i2]
    cases hb : newBlockVal hdr es with
    | error x => exact ⟨inv_skip hinv, rel_skip hrel, rfl⟩
    | ok b =>
      have hvtx := newBlockVal_ok hb
      have hsame := fillHashes_ok hinv addrs
      generalize fillHashes s.heap addrs = h1 at hsame
      have hinv1 : Inv { s with heap := h1 } := hsame.inv
      -- the transactions in the heap after the fills, with the fuel of their depth
      have hta : ∀ (i : Nat) (a : Addr) (et : Entry × Tx), addrs[i]? = some a → es[i]? = some et →
          ∃ ta, unfoldA txFuel h1 a = some ta ∧ decode ta = some (.tx et.2) := by
        intro i a et ha het
        obtain ⟨ta, hu, hd, _, _⟩ := i5 i a et ha het
        have hdep := decode_depth ta _ hd
        exact ⟨ta, unfoldA_lower txFuel (hsame.unf a ta hu) (by simp [vdepth] at hdep; simp [txFuel]; omega), hd⟩
      obtain ⟨plans, hplans⟩ := mapO_some_of_forall (f := planClone false txFuel h1) (l := addrs) (by
        intro a ha
        obtain ⟨i, hi, rfl⟩ := List.getElem_of_mem ha
        have hie : i < es.length := by omega
        obtain ⟨ta, hu, _⟩ := hta i addrs[i] es[i] (List.getElem?_eq_getElem hi) (List.getElem?_eq_getElem hie)
        exact planClone_some false hu)
      simp only [hplans]
      have hpl : ∀ pl ∈ plans, PlanGood h1 txFuel pl ∧ rootImm h1 pl := by
        intro pl hpl
        obtain ⟨i, hi, rfl⟩ := List.getElem_of_mem hpl
        obtain ⟨a, hai, hpa⟩ := mapO_getElem' hplans i plans[i] (List.getElem?_eq_getElem hi)
        have hia : i < addrs.length := (List.getElem?_eq_some_iff.mp hai).1
        have hie : i < es.length := by omega
        obtain ⟨ta, hu, _⟩ := hta i a es[i] hai (List.getElem?_eq_getElem hie)
        obtain ⟨g1, g2, g3, g4, g5⟩ := planClone_ok hinv1.kindOK false hu hpa
        exact ⟨⟨g1, g4, g3, g2⟩, g5 rfl⟩
      have hgood : PlanGood h1 D (.node false (.block b.hdr) [.node false (.seq .txs) plans]) :=
        PlanGood.node (fun _ => rfl)
          (fun k hk => by
            obtain rfl := List.mem_singleton.mp hk
            exact PlanGood.node (fun _ => rfl) (fun pl hpl' => (hpl pl hpl').1) (fun _ pl hpl' => (hpl pl hpl').2))
          (fun _ k hk => by obtain rfl := List.mem_singleton.mp hk; rfl)
      obtain ⟨ee, t', he, hnew, hic, ht', hpt, hcnt⟩ := alloc_good (s := { s with heap := h1 }) hinv1 hgood
      have hD : D = txFuel + 2 := rfl
      rw [hD] at hpt
      cases t' with | node a' m' sc' kids' =>
      simp only [PT] at hpt
      obtain ⟨_, _, rfl, rfl, hch⟩ := hpt
      match kids', hch with
      | [ks], hch =>
        simp only [Chain] at hch
        obtain ⟨mid, hks, _⟩ := hch
        cases ks with | node as ms scs kk =>
        simp only [PT] at hks
        obtain ⟨_, _, rfl, rfl, hchk⟩ := hks
        obtain ⟨hdk, hflk⟩ := chain_clones hinv1.immClosed hinv1.kindOK hplans i4 hta hchk
        have hdec : decode (.node a' false (.block b.hdr) [.node as false (.seq .txs) kk]) = some (.block b) := by
          have h1d : decode (.node as false (.seq .txs) kk) = some (.txs (es.map (·.2))) := by
            rw [decode_node, hdk]; simp only [Option.bind_some, assemble, mapO_asTx_map, Option.map_some]
          rw [decode_node]
          simp only [mapO, h1d, Option.bind_some, assemble, ← hvtx]
        have hfl : flagsOK false (.node a' false (.block b.hdr) [.node as false (.seq .txs) kk]) := by
          refine ⟨rfl, ?_, trivial⟩
          refine ⟨rfl, flagsOKL_iff.mpr ?_⟩
          intro k hk
          simpa using hflk k hk
        have hinv2 := inv_ext (s := { s with heap := h1 }) hinv1 he hnew hic (some _) (by
          intro a ha; cases ha
          exact ⟨_, _, ht', hdec, hfl, hcnt⟩)
        refine ⟨hinv2, ?_, trivial⟩
        have hrel1 : Rel { s with heap := h1 } sp := by
          refine ⟨hrel.1, ?_⟩
          intro r
          have := hrel.2 r
          show RelAt h1 (s.root r) _
          cases hr : s.root r <;> cases her : (sp[r]?).join <;> simp only [hr, her, RelAt] at this ⊢
          obtain ⟨t, hu, hd, hm⟩ := this
          exact ⟨t, hsame.unf _ t hu, hd, hm⟩
        exact rel_ext (s := { s with heap := h1 }) hrel1 he ⟨_, ht', hdec, rfl⟩

end BtcVerif.Model.Heap

/-
  C09: the footprint of `RawSignatureHash`: every primitive of the surgery is an allocation or a write to a
  *fresh* mutable object; such steps extend the heap and keep the heap-wide clauses of both invariants.  The
  surgery never gets stuck on a cloned transaction.  Simulation of `sighash` and `verify`.
-/
import BtcVerif.Model.HeapX
import BtcVerif.Proofs.HeapOpsCopy

namespace BtcVerif.Model.Heap
open BtcVerif BtcVerif.Spec.ValueSem BtcVerif.Spec.AliasSem BtcVerif.Model.HeapX

/-! ### the steps of the surgery (`Step`, `Steps`), what they leave behind (`Good`) and what they keep (`Keeps`) -/

/-- what a store may do to the references of `ox`: nothing, put an object of the right class into one
    slot of a transaction (class 5; `vin`, `vout`, `wit` are of classes 8, 9, 4 — the numbers of
    `Scalars.kind`, Spec/ValueSem), or give a list new items -/
inductive RefsOK (hh : Heap) (ox : Obj) : List Addr → Prop
  | same : RefsOK hh ox ox.refs
  | slot {i : Nat} {y : Addr} {k : Nat} (h5 : ox.sc.kind = 5) (hi : i < ox.refs.length)
      (hy : kindAt hh y = some k) (hk : [8, 9, 4][i]? = some k) : RefsOK hh ox (ox.refs.set i y)
  | items {l : List Addr} {ek : Nat} (he : elemKind ox.sc.kind = some ek)
      (hl : ∀ y ∈ l, y ∈ ox.refs ∨ kindAt hh y = some ek) : RefsOK hh ox l

/-- what the surgery allocates: a blank output (class 2), an empty `vin`/`vout` list (8, 9), or the empty
    witness (4) over the empty tuple (10) -/
def NewOK (hh : Heap) (o : Obj) : Prop :=
  (o.refs = [] ∧ (o.sc.kind = 2 ∨ o.sc.kind = 8 ∨ o.sc.kind = 9)) ∨
    (o.sc.kind = 4 ∧ ∃ y, o.refs = [y] ∧ kindAt hh y = some 10)

/-- one primitive of the surgery, relative to the heap `h` the caller sees -/
inductive Step (h : Heap) : Heap → Heap → Prop
  | alloc (hh : Heap) (o : Obj) (c1 : o.cHash = none) (c2 : o.cPy = none)
      (ck : o.sc.alwaysImm = true → o.isMut = false)
      (ci : o.isMut = false → ∀ c ∈ o.refs, ∃ oc : Obj, hh[c]? = some oc ∧ oc.isMut = false)
      (ct : NewOK hh o) : Step h hh (hh ++ [o])
  | write (hh : Heap) (x : Addr) (ox o' : Obj) (hx : h.length ≤ x) (hox : hh[x]? = some ox)
      (hm : ox.isMut = true) (hm' : o'.isMut = true) (c1 : o'.cHash = ox.cHash) (c2 : o'.cPy = ox.cPy)
      (hk : o'.sc.kind = ox.sc.kind) (hr : RefsOK hh ox o'.refs) : Step h hh (hh.set x o')

inductive Steps (h : Heap) : Heap → Heap → Prop
  | refl (hh : Heap) : Steps h hh hh
  | tail {a b c : Heap} : Steps h a b → Step h b c → Steps h a c

theorem Steps.trans {h a b c : Heap} (h1 : Steps h a b) (h2 : Steps h b c) : Steps h a c := by
  induction h2 with
  | refl => exact h1
  | tail _ st ih => exact .tail ih st

theorem Steps.one {h a b : Heap} (st : Step h a b) : Steps h a b := .tail (.refl a) st

/-- what the caller's heap looks like from a later heap of the surgery -/
structure Good (h hh : Heap) : Prop where
  ext : ∃ e, hh = h ++ e ∧ ∀ o ∈ e, o.cHash = none ∧ o.cPy = none ∧ (o.sc.alwaysImm = true → o.isMut = false)
  imm : ImmClosed hh

theorem step_good {h hh hh' : Heap} (g : Good h hh) (st : Step h hh hh') : Good h hh' := by
  obtain ⟨⟨e, rfl, he⟩, hic⟩ := g
  cases st with
  | alloc o c1 c2 ck ci =>
    refine ⟨⟨e ++ [o], by simp, ?_⟩, immClosed_append_one hic ci⟩
    intro o' ho'
    simp only [List.mem_append, List.mem_singleton] at ho'
    rcases ho' with h1 | rfl
    · exact he o' h1
    · exact ⟨c1, c2, ck⟩
  | write x ox o' hx hox hm hm' c1 c2 hk hr =>
    have hxe : (h ++ e)[x]? = e[x - h.length]? := List.getElem?_append_right hx
    have hoe : e[x - h.length]? = some ox := by rw [← hxe]; exact hox
    refine ⟨⟨e.set (x - h.length) o', ?_, ?_⟩, immClosed_set_mut hic hox hm hm'⟩
    · rw [List.set_append_right _ _ hx]
    · intro o2 ho2
      rcases List.mem_or_eq_of_mem_set ho2 with h1 | rfl
      · exact he o2 h1
      · obtain ⟨a1, a2, a3⟩ := he ox (List.mem_of_getElem? hoe)
        refine ⟨by rw [c1]; exact a1, by rw [c2]; exact a2, ?_⟩
        intro hai
        rw [(kind_alwaysImm hk).1] at hai
        have := a3 hai
        rw [hm] at this; cases this

theorem steps_good {h hh hh' : Heap} (g : Good h hh) (st : Steps h hh hh') : Good h hh' := by
  induction st with
  | refl => exact g
  | tail _ s ih => exact step_good ih s

theorem elemKind_isSeq {sc : Scalars} {ek : Nat} (he : elemKind sc.kind = some ek) : sc.isSeq = true := by
  cases sc with
  | seq _ => rfl
  | _ => cases he

/-- every object of `hh` is still there in `hh'`, of the same class and mutability, and with as many
    reference slots unless it is a list -/
def Keeps (hh hh' : Heap) : Prop :=
  ∀ (x : Addr) (o : Obj), hh[x]? = some o → ∃ o' : Obj, hh'[x]? = some o' ∧ o'.isMut = o.isMut ∧
    o'.sc.kind = o.sc.kind ∧ (o.sc.isSeq = false → o'.refs.length = o.refs.length)

theorem Keeps.trans {a b c : Heap} (h1 : Keeps a b) (h2 : Keeps b c) : Keeps a c := by
  intro x o ho
  obtain ⟨o1, ho1, m1, k1, r1⟩ := h1 x o ho
  obtain ⟨o2, ho2, m2, k2, r2⟩ := h2 x o1 ho1
  exact ⟨o2, ho2, m2.trans m1, k2.trans k1, fun hs => (r2 ((kind_alwaysImm k1).2.trans hs)).trans (r1 hs)⟩

theorem step_keeps {h hh hh' : Heap} (st : Step h hh hh') : Keeps hh hh' := by
  intro x o hox
  cases st with
  | alloc o2 => exact ⟨o, getElem?_append_of_some [o2] hox, rfl, rfl, fun _ => rfl⟩
  | write y oy o' hy hoy hmy hm' c1 c2 hk hr =>
    by_cases hxy : x = y
    · subst hxy
      rw [hox] at hoy; cases hoy
      refine ⟨o', by simp [List.getElem?_set_self (List.getElem?_eq_some_iff.mp hox).1], hm'.trans hmy.symm, hk, ?_⟩
      intro hs
      generalize o'.refs = r at hr
      cases hr with
      | same => rfl
      | slot => exact List.length_set
      | items he => rw [elemKind_isSeq he] at hs; cases hs
    · exact ⟨o, by rw [List.getElem?_set_ne (fun e => hxy e.symm)]; exact hox, rfl, rfl, fun _ => rfl⟩

theorem steps_keeps {h hh hh' : Heap} (st : Steps h hh hh') : Keeps hh hh' := by
  induction st with
  | refl => exact fun x o ho => ⟨o, ho, rfl, rfl, fun _ => rfl⟩
  | tail _ s ih => exact ih.trans (step_keeps s)

theorem Keeps.kindAt {hh hh' : Heap} (kp : Keeps hh hh') {x : Addr} {k : Nat} (hk : kindAt hh x = some k) :
    kindAt hh' x = some k := by
  simp only [HeapX.kindAt, Option.map_eq_some_iff] at hk ⊢
  obtain ⟨o, ho, rfl⟩ := hk
  obtain ⟨o', ho', _, k', _⟩ := kp x o ho
  exact ⟨o', ho', k'⟩

/-- a mutable object of class `k` with (unless it is a list) `n` reference slots -/
def ObjIs (hh : Heap) (x : Addr) (k : Nat) (n : Nat) : Prop :=
  ∃ o : Obj, hh[x]? = some o ∧ o.isMut = true ∧ o.sc.kind = k ∧ (o.sc.isSeq = false → o.refs.length = n)

theorem Keeps.objIs {hh hh' : Heap} (kp : Keeps hh hh') {x : Addr} {k n : Nat} (ho : ObjIs hh x k n) :
    ObjIs hh' x k n := by
  obtain ⟨o, hox, hm, hk, hr⟩ := ho
  obtain ⟨o', ho', m', k', r'⟩ := kp x o hox
  have hs := (kind_alwaysImm k').2
  exact ⟨o', ho', m'.trans hm, k'.trans hk, fun hn => (r' (hs ▸ hn)).trans (hr (hs ▸ hn))⟩

theorem ObjIs.kindAt {hh : Heap} {x : Addr} {k n : Nat} (ho : ObjIs hh x k n) : kindAt hh x = some k := by
  obtain ⟨o, hox, _, hk, _⟩ := ho
  simp [HeapX.kindAt, hox, hk]

/-- an immutable object of class `k` -/
def ImmAt (hh : Heap) (c : Addr) (k : Nat) : Prop := ∃ oc : Obj, hh[c]? = some oc ∧ oc.isMut = false ∧ oc.sc.kind = k

theorem Keeps.immAt {hh hh' : Heap} (kp : Keeps hh hh') {c : Addr} {k : Nat} (hi : ImmAt hh c k) : ImmAt hh' c k := by
  obtain ⟨oc, hoc, hm, hk⟩ := hi
  obtain ⟨o', ho', m', k', _⟩ := kp c oc hoc
  exact ⟨o', ho', m'.trans hm, k'.trans hk⟩

/-- a list whose items are of its element class `ek` -/
def ItemsAt (hh : Heap) (l : Addr) (ek : Nat) : Prop :=
  ∃ o : Obj, hh[l]? = some o ∧ elemKind o.sc.kind = some ek ∧ ∀ y ∈ o.refs, kindAt hh y = some ek

theorem step_itemsAt {h hh hh' : Heap} (st : Step h hh hh') {l : Addr} {ek : Nat} (hl : ItemsAt hh l ek) :
    ItemsAt hh' l ek := by
  obtain ⟨o, hol, he, hit⟩ := hl
  have kp := step_keeps st
  cases st with
  | alloc o2 => exact ⟨o, getElem?_append_of_some [o2] hol, he, fun y hy => kp.kindAt (hit y hy)⟩
  | write x ox o' hx hox hm hm' c1 c2 hk hr =>
    by_cases hlx : l = x
    · subst hlx
      rw [hol] at hox; cases hox
      refine ⟨o', by simp [List.getElem?_set_self (List.getElem?_eq_some_iff.mp hol).1], by rw [hk]; exact he, ?_⟩
      intro y hy
      apply kp.kindAt
      generalize o'.refs = r at hr hy
      cases hr with
      | same => exact hit y hy
      | slot h5 => rw [h5] at he; cases he
      | items he' hl' =>
        rw [he] at he'; cases he'
        exact (hl' y hy).elim (hit y) id
    · exact ⟨o, by rw [List.getElem?_set_ne (fun e => hlx e.symm)]; exact hol, he, fun y hy => kp.kindAt (hit y hy)⟩

theorem steps_itemsAt {h hh hh' : Heap} (st : Steps h hh hh') {l : Addr} {ek : Nat} (hl : ItemsAt hh l ek) :
    ItemsAt hh' l ek := by
  induction st with
  | refl => exact hl
  | tail _ s ih => exact step_itemsAt s ih

/-! ### the primitives succeed and are steps -/

theorem kind_txin {sc : Scalars} : sc.kind = 1 → ∃ s q, sc = .txin s q := by
  cases sc with
  | txin s q => intro _; exact ⟨s, q, rfl⟩
  | seq k => cases k <;> (intro h; cases h)
  | _ => intro h; cases h

/-- the inputs of the private copy: fresh mutable `CMutableTxIn` objects -/
def Inputs (h hh : Heap) (xs : List Addr) : Prop := ∀ x ∈ xs, h.length ≤ x ∧ ∃ n, ObjIs hh x 1 n

theorem Inputs.keeps {h hh hh' : Heap} {xs : List Addr} (hi : Inputs h hh xs) (kp : Keeps hh hh') : Inputs h hh' xs :=
  fun x hx => ⟨(hi x hx).1, (hi x hx).2.imp fun _ => kp.objIs⟩

theorem assign_txin_ok {h hh : Heap} {x : Addr} {n : Nat} (hx : h.length ≤ x) (ho : ObjIs hh x 1 n)
    (f : Field) (hf : (∃ b, f = .scriptSig b) ∨ (∃ k, f = .nSequence k)) :
    ∃ hh', assignAt hh x f = some (.ok hh') ∧ Step h hh hh' := by
  obtain ⟨o, hox, hm, hk, hr⟩ := ho
  obtain ⟨sg, q, hsc⟩ := kind_txin hk
  obtain ⟨sc', happ⟩ : ∃ sc', applySc f o.sc = some sc' := by
    rw [hsc]; rcases hf with ⟨b, rfl⟩ | ⟨k, rfl⟩ <;> exact ⟨_, rfl⟩
  exact ⟨hh.set x { o with sc := sc' }, by simp [assignAt, hox, hm, happ],
    .write hh x o _ hx hox hm hm rfl rfl (applySc_kind happ) .same⟩

theorem foldAssign_ok {h : Heap} (b : Bytes) : ∀ (xs : List Addr) (hh : Heap), Inputs h hh xs →
    ∃ hh', foldAssign (.scriptSig b) hh xs = some hh' ∧ Steps h hh hh'
  | [], hh, _ => ⟨hh, rfl, .refl hh⟩
  | x :: xs, hh, hall => by
    obtain ⟨hx, n, ho⟩ := hall x (by simp)
    obtain ⟨hh1, h1, st1⟩ := assign_txin_ok hx ho (.scriptSig b) (Or.inl ⟨b, rfl⟩)
    obtain ⟨hh2, h2, st2⟩ := foldAssign_ok b xs hh1
      (Inputs.keeps (fun y hy => hall y (List.mem_cons_of_mem _ hy)) (step_keeps st1))
    exact ⟨hh2, by simp [foldAssign, h1, h2], (Steps.one st1).trans st2⟩

theorem zeroSeqs_ok {h : Heap} (inIdx : Nat) : ∀ (xs : List Addr) (hh : Heap) (k : Nat), Inputs h hh xs →
    ∃ hh', zeroSeqs inIdx hh xs k = some hh' ∧ Steps h hh hh'
  | [], hh, _, _ => ⟨hh, rfl, .refl hh⟩
  | x :: xs, hh, k, hall => by
    have hrest : Inputs h hh xs := fun y hy => hall y (List.mem_cons_of_mem _ hy)
    by_cases hk : k = inIdx
    · simp only [zeroSeqs, if_pos hk]
      exact zeroSeqs_ok inIdx xs hh (k + 1) hrest
    · obtain ⟨hx, n, ho⟩ := hall x (by simp)
      obtain ⟨hh1, h1, st1⟩ := assign_txin_ok hx ho (.nSequence 0) (Or.inr ⟨0, rfl⟩)
      obtain ⟨hh2, h2, st2⟩ := zeroSeqs_ok inIdx xs hh1 (k + 1) (hrest.keeps (step_keeps st1))
      simp only [zeroSeqs, if_neg hk, h1]
      exact ⟨hh2, h2, (Steps.one st1).trans st2⟩

theorem setRef_ok {h hh : Heap} {x : Addr} (hx : h.length ≤ x) (ho : ObjIs hh x 5 3) {i k : Nat}
    (hk : [8, 9, 4][i]? = some k) {y : Addr} (hy : kindAt hh y = some k) :
    ∃ hh', setRef hh x i y = some hh' ∧ Step h hh hh' := by
  obtain ⟨o, hox, hm, h5, hr⟩ := ho
  have hlen : o.refs.length = 3 := hr (by rw [(alwaysImm_of_kind o.sc).2, h5]; rfl)
  have hi : i < o.refs.length := by
    rw [hlen]; exact (List.getElem?_eq_some_iff.mp hk).1
  exact ⟨hh.set x { o with refs := o.refs.set i y }, by simp [setRef, hox, hi],
    .write hh x o _ hx hox hm hm rfl rfl rfl (.slot h5 hi hy hk)⟩

theorem setList_step {h hh : Heap} {x : Addr} {k n ek : Nat} (hx : h.length ≤ x) (ho : ObjIs hh x k n)
    (he : elemKind k = some ek) {o : Obj} (hox : hh[x]? = some o) {items : List Addr}
    (hit : ∀ y ∈ items, y ∈ o.refs ∨ kindAt hh y = some ek) :
    Step h hh (hh.set x { o with refs := items }) := by
  obtain ⟨o2, ho2, hm, hk, _⟩ := ho
  rw [hox] at ho2; cases ho2
  exact .write hh x o _ hx hox hm hm rfl rfl rfl (.items (hk ▸ he) hit)

theorem appendItem_step {h hh : Heap} {x : Addr} {k n ek : Nat} (hx : h.length ≤ x) (ho : ObjIs hh x k n)
    (he : elemKind k = some ek) {o : Obj} (hox : hh[x]? = some o) {y : Addr} (hy : kindAt hh y = some ek) :
    Step h hh (hh.set x { o with refs := o.refs ++ [y] }) :=
  setList_step hx ho he hox fun z hz => (List.mem_append.mp hz).imp id fun h1 => by rw [List.mem_singleton.mp h1]; exact hy

/-- `CTxOut()`: value −1, empty script -/
def blankObj : Obj := { isMut := false, sc := .txout (-1) [], refs := [] }

theorem appendBlanks_succ (hh : Heap) (l : Addr) (n : Nat) :
    appendBlanks hh l (n + 1) =
      match (hh ++ [blankObj])[l]? with
      | some o => appendBlanks ((hh ++ [blankObj]).set l { o with refs := o.refs ++ [hh.length] }) l n
      | none => none := rfl

theorem appendBlanks_ok {h : Heap} {l : Addr} (hl : h.length ≤ l) : ∀ (n : Nat) (hh : Heap),
    ObjIs hh l 9 0 → ∃ hh', appendBlanks hh l n = some hh' ∧ Steps h hh hh'
  | 0, hh, _ => ⟨hh, rfl, .refl hh⟩
  | n + 1, hh, ho => by
    have st1 : Step h hh (hh ++ [blankObj]) :=
      .alloc hh blankObj rfl rfl (fun _ => rfl) (fun _ c hc => by simp [blankObj] at hc) (.inl ⟨rfl, .inl rfl⟩)
    have ho1 := (step_keeps st1).objIs ho
    obtain ⟨o, hox, -⟩ := id ho1
    have st2 := appendItem_step (h := h) (ek := 2) hl ho1 rfl hox (y := hh.length)
      (by simp [HeapX.kindAt, blankObj, Scalars.kind])
    obtain ⟨hh3, h3, st3⟩ := appendBlanks_ok hl n _ ((step_keeps st2).objIs ho1)
    refine ⟨hh3, ?_, ((Steps.one st1).trans (Steps.one st2)).trans st3⟩
    rw [appendBlanks_succ, hox]
    exact h3

/-! ### the surgery on a freshly cloned transaction -/

/-- the private copy right after `from_tx`: everything the surgery is going to touch is fresh -/
structure Cloned (h h1 : Heap) (c vinL voutL w : Addr) (ins : List Addr) : Prop where
  hc : h.length ≤ c
  oc : ObjIs h1 c 5 3
  parts : ∃ o, txParts h1 c = some (o, vinL, voutL, w)
  vin : ∃ lo : Obj, h1[vinL]? = some lo ∧ lo.refs = ins
  items : Inputs h h1 ins
  outs : ItemsAt h1 voutL 2
  empty : ImmAt h1 emptyTuple 10

theorem length_le_of_fresh {h hh : Heap} {c : Addr} {k n : Nat} (hc : h.length ≤ c) (hoc : ObjIs hh c k n) :
    h.length ≤ hh.length := by
  obtain ⟨o, ho, -⟩ := hoc
  exact Nat.le_trans hc (Nat.le_of_lt (List.getElem?_eq_some_iff.mp ho).1)

theorem sigScripts_ok {h hh : Heap} {ins : List Addr} (sub : Bytes) {inIdx : Nat}
    (hitems : Inputs h hh ins) (hi : inIdx < ins.length) :
    ∃ h3 xi, sigScripts hh ins sub inIdx = some (h3, xi) ∧ Steps h hh h3 ∧ xi ∈ ins := by
  obtain ⟨h2, e2, st2⟩ := foldAssign_ok (h := h) [] ins hh hitems
  have hxi : ins[inIdx]? = some ins[inIdx] := List.getElem?_eq_getElem hi
  obtain ⟨hx, n, ho⟩ := hitems ins[inIdx] (List.getElem_mem hi)
  obtain ⟨h3, e3, st3⟩ := assign_txin_ok hx ((steps_keeps st2).objIs ho) (.scriptSig sub) (Or.inl ⟨sub, rfl⟩)
  exact ⟨h3, ins[inIdx], by simp [sigScripts, e2, hxi, e3], st2.trans (Steps.one st3), List.getElem_mem hi⟩

theorem newList_ok {h hh : Heap} {c : Addr} (hc : h.length ≤ c) (hoc : ObjIs hh c 5 3) (k : SeqKind)
    (hk : k = .ins ∨ k = .outs) {j : Nat} (hj : [8, 9, 4][j]? = some (Scalars.seq k).kind) :
    ∃ h5, setRef (hh ++ [{ isMut := true, sc := .seq k, refs := [] }]) c j hh.length = some h5 ∧
      Steps h hh h5 ∧ ObjIs h5 hh.length (Scalars.seq k).kind 0 := by
  have st1 : Step h hh (hh ++ [{ isMut := true, sc := .seq k, refs := [] }]) :=
    .alloc hh _ rfl rfl (by rcases hk with rfl | rfl <;> intro hai <;> cases hai) (fun hm => by cases hm)
      (.inl ⟨rfl, by rcases hk with rfl | rfl <;> simp [Scalars.kind]⟩)
  have hl : ObjIs (hh ++ [{ isMut := true, sc := .seq k, refs := [] }]) hh.length (Scalars.seq k).kind 0 :=
    ⟨{ isMut := true, sc := .seq k, refs := [] }, by simp, rfl, rfl, fun _ => rfl⟩
  obtain ⟨h5, e5, st5⟩ := setRef_ok hc ((step_keeps st1).objIs hoc) hj hl.kindAt
  exact ⟨h5, e5, (Steps.one st1).trans (Steps.one st5), (step_keeps st5).objIs hl⟩

theorem sigNone_ok {h hh : Heap} {c : Addr} {ins : List Addr} (inIdx : Nat) (hc : h.length ≤ c)
    (hoc : ObjIs hh c 5 3) (hitems : Inputs h hh ins) :
    ∃ h8, sigNone hh c ins inIdx = some h8 ∧ Steps h hh h8 := by
  obtain ⟨h5, e5, st5, -⟩ := newList_ok hc hoc .outs (.inr rfl) (j := 1) rfl
  obtain ⟨h8, e8, st8⟩ := zeroSeqs_ok inIdx ins h5 0 (hitems.keeps (steps_keeps st5))
  refine ⟨h8, ?_, st5.trans st8⟩
  simp only [sigNone, alloc]
  rw [e5]
  exact e8

theorem sigSingle_ok {h hh : Heap} {c : Addr} {ins : List Addr} (inIdx : Nat) {tmp : Addr} (hc : h.length ≤ c)
    (hoc : ObjIs hh c 5 3) (hitems : Inputs h hh ins) (htmp : kindAt hh tmp = some 2) :
    ∃ h8, sigSingle hh c ins inIdx tmp = some h8 ∧ Steps h hh h8 := by
  have hl := length_le_of_fresh hc hoc
  obtain ⟨h5, e5, st5, hl5⟩ := newList_ok hc hoc .outs (.inr rfl) (j := 1) rfl
  obtain ⟨h6, e6, st6⟩ := appendBlanks_ok (h := h) hl inIdx h5 hl5
  have hl6 := (steps_keeps st6).objIs hl5
  obtain ⟨o6, ho6, -⟩ := id hl6
  have st7 := appendItem_step (h := h) (ek := 2) hl hl6 rfl ho6 ((steps_keeps (st5.trans st6)).kindAt htmp)
  have st57 := (st5.trans st6).trans (Steps.one st7)
  obtain ⟨h8, e8, st8⟩ := zeroSeqs_ok inIdx ins _ 0 (hitems.keeps (steps_keeps st57))
  refine ⟨h8, ?_, st57.trans st8⟩
  simp only [sigSingle, alloc]
  rw [e5]
  simp only [e6, ho6]
  exact e8

theorem sigAnyone_ok {h hh : Heap} {c xi : Addr} (hc : h.length ≤ c) (hoc : ObjIs hh c 5 3)
    (hxi : kindAt hh xi = some 1) : ∃ h10, sigAnyone hh c xi = some h10 ∧ Steps h hh h10 := by
  obtain ⟨h9, e9, st9, hl9⟩ := newList_ok hc hoc .ins (.inl rfl) (j := 0) rfl
  obtain ⟨o9, ho9, -⟩ := id hl9
  have st10 := setList_step (h := h) (ek := 1) (length_le_of_fresh hc hoc) hl9 rfl ho9 (items := [xi])
    (fun y hy => by rw [List.mem_singleton.mp hy]; exact .inr ((steps_keeps st9).kindAt hxi))
  refine ⟨_, ?_, st9.trans (Steps.one st10)⟩
  simp only [sigAnyone, alloc]
  rw [e9]
  simp [setItems, ho9]

theorem sigWit_ok {h hh : Heap} {c : Addr} (hc : h.length ≤ c) (hoc : ObjIs hh c 5 3)
    (hempty : ImmAt hh emptyTuple 10) : ∃ h12, sigWit hh c = some h12 ∧ Steps h hh h12 := by
  let wo : Obj := { isMut := false, sc := .wit, refs := [emptyTuple] }
  obtain ⟨o0, h0, m0, k0⟩ := hempty
  have st1 : Step h hh (hh ++ [wo]) := .alloc hh wo rfl rfl (fun _ => rfl)
    (fun _ x hx => by rw [List.mem_singleton.mp hx]; exact ⟨o0, h0, m0⟩)
    (.inr ⟨rfl, emptyTuple, rfl, by simp [HeapX.kindAt, h0, k0]⟩)
  obtain ⟨h12, e12, st12⟩ := setRef_ok hc ((step_keeps st1).objIs hoc) (i := 2) rfl (y := hh.length)
    (by simp [HeapX.kindAt, wo, Scalars.kind])
  exact ⟨h12, by simp only [sigWit, alloc]; exact e12, (Steps.one st1).trans (Steps.one st12)⟩

/-- what all hash types share after the `SIGHASH_NONE`/`SIGHASH_SINGLE` part: `ANYONECANPAY`, then the
    witness is replaced by an empty one -/
theorem sigTail_ok {h h8 : Heap} {c xi : Addr} (ht : Nat) (hc : h.length ≤ c) (hoc : ObjIs h8 c 5 3)
    (hxi : kindAt h8 xi = some 1) (hempty : ImmAt h8 emptyTuple 10) :
    ∃ h12, (match (if ht / 128 % 2 = 1 then sigAnyone h8 c xi else some h8) with
      | none => none
      | some h10 =>
        match sigWit h10 c with
        | none => none
        | some h12 => some (h12, some (sigDigest h12 c ht))) = some (h12, some (sigDigest h12 c ht)) ∧
      Steps h h8 h12 := by
  obtain ⟨h10, e10, st10⟩ : ∃ h10, (if ht / 128 % 2 = 1 then sigAnyone h8 c xi else some h8) = some h10 ∧
      Steps h h8 h10 := by
    by_cases hacp : ht / 128 % 2 = 1
    · rw [if_pos hacp]; exact sigAnyone_ok hc hoc hxi
    · rw [if_neg hacp]; exact ⟨h8, rfl, .refl h8⟩
  have kp := steps_keeps st10
  obtain ⟨h12, e12, st12⟩ := sigWit_ok (h := h) hc (kp.objIs hoc) (kp.immAt hempty)
  exact ⟨h12, by simp only [e10, e12], st10.trans st12⟩

theorem surgery_ok {h h1 : Heap} {c vinL voutL w : Addr} {ins : List Addr}
    (C : Cloned h h1 c vinL voutL w ins) (sub : Bytes) {inIdx : Nat} (ht : Nat) (hi : inIdx < ins.length) :
    ∃ h' d, surgery h1 c sub inIdx ht = some (h', d) ∧ Steps h h1 h' := by
  obtain ⟨op, hparts⟩ := C.parts
  obtain ⟨lo, hlo, hrefs⟩ := C.vin
  obtain ⟨h3, xi, e3, st3, hxi⟩ := sigScripts_ok (h := h) sub C.items hi
  have kp3 := steps_keeps st3
  have hoc3 := kp3.objIs C.oc
  have hit3 := C.items.keeps kp3
  obtain ⟨vo, hvo, -, hkvo⟩ := steps_itemsAt st3 C.outs
  obtain ⟨n, hxo⟩ := (hit3 xi hxi).2
  have tail := fun h8 (st8 : Steps h h3 h8) => sigTail_ok (h := h) (xi := xi) ht C.hc
    ((steps_keeps st8).objIs hoc3) ((steps_keeps st8).kindAt hxo.kindAt) ((steps_keeps st8).immAt (kp3.immAt C.empty))
  simp only [surgery, hparts, hlo, hrefs, e3, hvo]
  by_cases h2 : ht % 32 = 2
  · obtain ⟨h8, e8, st8⟩ := sigNone_ok (h := h) inIdx C.hc hoc3 hit3
    obtain ⟨h12, e12, st12⟩ := tail h8 st8
    simp only [h2, if_true, e8, Option.map_some]
    exact ⟨h12, _, e12, (st3.trans st8).trans st12⟩
  · by_cases h3' : ht % 32 = 3
    · cases hout : vo.refs[inIdx]? with
      | none => exact ⟨h3, none, by simp [h3'], st3⟩
      | some tmp =>
        obtain ⟨h8, e8, st8⟩ := sigSingle_ok (h := h) inIdx C.hc hoc3 hit3 (hkvo tmp (List.mem_of_getElem? hout))
        obtain ⟨h12, e12, st12⟩ := tail h8 st8
        simp only [h3', if_true, e8, Option.map_some]
        exact ⟨h12, _, e12, (st3.trans st8).trans st12⟩
    · obtain ⟨h12, e12, st12⟩ := tail h3 (.refl h3)
      simp only [h2, h3', if_false]
      exact ⟨h12, _, e12, st3.trans st12⟩

end BtcVerif.Model.Heap

namespace BtcVerif.Model.Heap
open BtcVerif BtcVerif.Spec.ValueSem

/-! ### `RawSignatureHash` on a transaction object; simulation of `sighash` and `verify` -/

theorem cnt_root_pos {t : ATree} (hm : t.isMut = true) : 1 ≤ cnt t.addr t := by
  cases t with | node a m sc kids =>
    simp only [ATree.isMut] at hm
    simp [cnt, hm, ATree.addr]

theorem cnt_pos_kid {x a : Addr} {m : Bool} {sc : Scalars} {kids : List ATree} {k : ATree} (hm : m = true)
    (hk : k ∈ kids) (h : 1 ≤ cnt x k) : 1 ≤ cnt x (.node a m sc kids) := by
  obtain ⟨j, hj, rfl⟩ := List.getElem_of_mem hk
  have := cntL_le_of_getElem (x := x) (List.getElem?_eq_getElem hj)
  simp only [cnt, hm, if_true]
  omega

theorem flagsOK_kid {a : Addr} {m : Bool} {sc : Scalars} {kids : List ATree} {k : ATree}
    (h : flagsOK true (.node a m sc kids)) (hk : k ∈ kids) (hai : k.sc.alwaysImm = false) : flagsOK true k := by
  simpa [hai] using flagsOKL_iff.mp h.2 k hk

theorem decode_parts {a : Addr} {m : Bool} {sc : Scalars} {kids : List ATree} {v : Val}
    (h : decode (.node a m sc kids) = some v) : sc = (partsOf v).1 ∧ mapO decode kids = some (partsOf v).2 := by
  obtain ⟨vs, hvs, hasm⟩ := decode_inv h
  rw [assemble_eq_some.mp hasm]
  exact ⟨rfl, hvs⟩

theorem parts_elemKind (v : Val) {ek : Nat} (he : Spec.AliasSem.elemKind (partsOf v).1.kind = some ek) :
    ∀ w ∈ (partsOf v).2, valKind w = ek := by
  intro w hw
  cases v with
  | ins l => obtain ⟨i, _, rfl⟩ := List.mem_map.mp hw; exact Option.some.inj he
  | outs l => obtain ⟨o, _, rfl⟩ := List.mem_map.mp hw; exact Option.some.inj he
  | _ => cases he

theorem itemsAt_of_decode {h : Heap} {f : Nat} {l : Addr} {t : ATree} {v : Val} {ek : Nat}
    (hu : unfoldA (f + 2) h l = some t) (hd : decode t = some v)
    (he : Spec.AliasSem.elemKind t.sc.kind = some ek) : ItemsAt h l ek := by
  obtain ⟨o, kids, ho, hk, rfl⟩ := unfoldA_succ hu
  obtain ⟨hsc, hvs⟩ := decode_parts hd
  refine ⟨o, ho, he, fun y hy => ?_⟩
  obtain ⟨it, hit, huy⟩ := mapO_mem' hk hy
  obtain ⟨oy, hoy, _, hscy⟩ := unfoldA_obj huy
  obtain ⟨w, hw, hdw⟩ := mapO_mem' hvs hit
  have hkw := parts_elemKind v (by rw [← hsc]; exact he) w hw
  simp [HeapX.kindAt, hoy, ← hscy, ← decode_kind hdw, hkw]

theorem cloned_of_clone {h : Heap} (hic0 : ImmClosed h) (hk0 : KindOK h) (hd0 : DefaultsOK h) {a : Addr} {ta : ATree} {tv : Tx}
    (hu : unfoldA D h a = some ta) (hd : decode ta = some (.tx tv)) :
    ∃ p, planClone true D h a = some p ∧ ∃ vinL voutL w ins,
      Cloned h (allocPlan h p).1 (allocPlan h p).2 vinL voutL w ins ∧
      ins.length = tv.vin.length ∧ Good h (allocPlan h p).1 := by
  obtain ⟨p, hp, e, t', he, hnew, hic, ht', hdec, hsc, hfl, hcnt⟩ := clone_step hic0 hk0 true hu
  refine ⟨p, hp, ?_⟩
  generalize (allocPlan h p).1 = h1 at *
  generalize (allocPlan h p).2 = c at *
  rw [hd] at hdec
  rw [D_eq] at ht'
  -- the copy is a transaction object over its three parts …
  obtain ⟨oc, kids, hoc, hk, rfl⟩ := unfoldA_succ ht'
  obtain ⟨hscc, hvs⟩ := decode_parts hdec
  obtain ⟨k0, _, rfl, d0, hvs⟩ := mapO_eq_cons hvs
  obtain ⟨k1, _, rfl, d1, hvs⟩ := mapO_eq_cons hvs
  obtain ⟨k2, _, rfl, d2, hvs⟩ := mapO_eq_cons hvs
  obtain rfl := mapO_eq_nil hvs
  obtain ⟨vinL, _, hr, u0, hk⟩ := mapO_eq_cons hk
  obtain ⟨voutL, _, rfl, u1, hk⟩ := mapO_eq_cons hk
  obtain ⟨w, _, rfl, _, hk⟩ := mapO_eq_cons hk
  obtain rfl := mapO_eq_nil hk
  have hfl' : flagsOK true (.node c oc.isMut oc.sc [k0, k1, k2]) := by
    simpa [ATree.sc, hscc, partsOf, Scalars.alwaysImm] using hfl
  have hocm : oc.isMut = true := hfl'.1
  -- … every mutable object of which is fresh, by the counting bound
  have hroot : ∀ y, 1 ≤ cnt y (.node c oc.isMut oc.sc [k0, k1, k2]) → h.length ≤ y := by
    intro y hy
    have := hcnt y
    by_cases hyl : h.length ≤ y
    · exact hyl
    · rw [if_neg hyl] at this; omega
  -- the list `vin` and its items
  obtain ⟨lo, items, hlo, hkit, rfl⟩ := unfoldA_succ u0
  obtain ⟨hlsc, hivs⟩ := decode_parts d0
  have hivs : mapO decode items = some (tv.vin.map .txin) := hivs
  have hf0 := flagsOK_kid hfl' List.mem_cons_self (by rw [ATree.sc, hlsc]; rfl)
  have hitems : Inputs h h1 lo.refs := by
    intro x hx
    obtain ⟨it, hit, hux⟩ := mapO_mem' hkit hx
    obtain ⟨ox, kx, hox, _, rfl⟩ := unfoldA_succ hux
    obtain ⟨vi, hvi, hdi⟩ := mapO_mem' hivs hit
    obtain ⟨i, _, rfl⟩ := List.mem_map.mp hvi
    have hkx : ox.sc.kind = 1 := (decode_kind hdi).symm
    have hfx := flagsOK_kid hf0 hit (by rw [ATree.sc, (alwaysImm_of_kind ox.sc).1, hkx]; rfl)
    exact ⟨hroot x (cnt_pos_kid hocm List.mem_cons_self (cnt_pos_kid hf0.1 hit
      (cnt_root_pos (t := .node x _ _ _) hfx.1))),
      ox.refs.length, ox, hox, hfx.1, hkx, fun _ => rfl⟩
  have hempty : ImmAt h1 emptyTuple 10 := by
    obtain ⟨o0, o1, h0e, a1, a2, _⟩ := hd0
    exact ⟨o0, by rw [he]; exact getElem?_append_of_some e h0e, a1, by rw [a2]; rfl⟩
  refine ⟨vinL, voutL, w, lo.refs, ⟨hroot c (cnt_root_pos (t := .node c _ _ _) hocm),
    ⟨oc, hoc, hocm, by rw [hscc]; rfl, fun _ => by rw [hr]; rfl⟩, ⟨oc, by simp [txParts, hoc, hscc, hr, partsOf]⟩,
    ⟨lo, hlo, rfl⟩, hitems, itemsAt_of_decode u1 d1 (by rw [← decode_kind d1]; rfl), hempty⟩, ?_,
    ⟨⟨e, he, hnew⟩, hic⟩⟩
  rw [← mapO_length hkit, ← mapO_length hivs, List.length_map]

theorem rawSigHash_steps {h : Heap} (hic : ImmClosed h) (hk : KindOK h) (hd : DefaultsOK h) {a : Addr} {tv : Tx}
    (habs : absVal h a = some (.tx tv)) (sub : Bytes) (inIdx ht : Nat) :
    ∃ h' d, rawSigHash h a sub inIdx ht = some (h', d) ∧
      (h' = h ∨ ∃ ta p, unfoldA D h a = some ta ∧ planClone true D h a = some p ∧
        Good h (allocPlan h p).1 ∧ Steps h (allocPlan h p).1 h') := by
  simp only [rawSigHash, habs]
  by_cases h1 : inIdx ≥ tv.vin.length
  · exact ⟨h, .ok hashOne, by simp [h1], .inl rfl⟩
  · simp only [h1, if_false]
    cases hv : validTx tv with
    | false => exact ⟨h, .error .valueerr, by simp, .inl rfl⟩
    | true =>
      simp only [Bool.not_true, Bool.false_eq_true, if_false]
      simp only [absVal] at habs
      cases hu : unfoldA D h a with
      | none => simp [hu] at habs
      | some ta =>
        simp only [hu, Option.bind_some] at habs
        obtain ⟨p, hp, vinL, voutL, w, ins, C, hlen, g1⟩ := cloned_of_clone hic hk hd hu habs
        obtain ⟨h', d, es, st⟩ := surgery_ok C sub ht (by omega : inIdx < ins.length)
        exact ⟨h', d.getD (.ok hashOne), by simp [hp, es], .inr ⟨ta, p, rfl, hp, g1, st⟩⟩

theorem good_refl {h : Heap} (hic : ImmClosed h) : Good h h := ⟨⟨[], by simp, by simp⟩, hic⟩

theorem rawSigHash_ok {h : Heap} (hic : ImmClosed h) (hk : KindOK h) (hd : DefaultsOK h) {a : Addr} {tv : Tx}
    (habs : absVal h a = some (.tx tv)) (sub : Bytes) (inIdx ht : Nat) :
    ∃ h' d, rawSigHash h a sub inIdx ht = some (h', d) ∧ Good h h' := by
  obtain ⟨h', d, es, hs⟩ := rawSigHash_steps hic hk hd habs sub inIdx ht
  refine ⟨h', d, es, ?_⟩
  rcases hs with rfl | ⟨_, _, _, _, g1, st⟩
  · exact good_refl hic
  · exact steps_good g1 st

theorem rawSigHash_some_tx {h h' : Heap} {a : Addr} {sub : Bytes} {inIdx ht : Nat} {d : BtcVerif.Res Bytes}
    (hr : rawSigHash h a sub inIdx ht = some (h', d)) : ∃ tv, absVal h a = some (.tx tv) := by
  simp only [rawSigHash] at hr
  split at hr
  next t heq => exact ⟨t, heq⟩
  next => cases hr

theorem rawSigHash_grows {h h' : Heap} (hic : ImmClosed h) (hk : KindOK h) (hd : DefaultsOK h) {a : Addr}
    {sub : Bytes} {inIdx ht : Nat} {d : BtcVerif.Res Bytes} (hr : rawSigHash h a sub inIdx ht = some (h', d)) :
    Good h h' := by
  obtain ⟨tv, habs⟩ := rawSigHash_some_tx hr
  obtain ⟨h2, d2, e2, g⟩ := rawSigHash_ok hic hk hd habs sub inIdx ht
  cases hr.symm.trans e2
  exact g

theorem good_trans {h hh hh' : Heap} (g1 : Good h hh) (g2 : Good hh hh') : Good h hh' := by
  obtain ⟨⟨e1, rfl, n1⟩, _⟩ := g1
  obtain ⟨⟨e2, rfl, n2⟩, i2⟩ := g2
  refine ⟨⟨e1 ++ e2, by simp, ?_⟩, i2⟩
  intro o ho
  rcases List.mem_append.mp ho with h1 | h1
  · exact n1 o h1
  · exact n2 o h1

theorem inv_good {s : St} (hinv : Inv s) {h' : Heap} (g : Good s.heap h') : Inv (s.bind h' none) := by
  obtain ⟨⟨e, he, hnew⟩, hic⟩ := g
  exact inv_ext hinv he hnew hic none (fun a ha => by cases ha)

theorem absVal_good {h h' : Heap} (g : Good h h') {a : Addr} {v : Val}
    (hv : absVal h a = some v) : absVal h' a = some v := by
  obtain ⟨⟨e, rfl, _⟩, _⟩ := g
  exact absVal_ext e hv

theorem good_clauses {h hh : Heap} (hk : KindOK h) (hd : DefaultsOK h) (g : Good h hh) :
    ImmClosed hh ∧ KindOK hh ∧ DefaultsOK hh := by
  obtain ⟨⟨e, rfl, hnew⟩, hic⟩ := g
  exact ⟨hic, kindOK_ext hk fun o ho => (hnew o ho).2.2, defaults_ext e hd⟩

theorem rawSigHashes_ok {h : Heap} (hk : KindOK h) (hd : DefaultsOK h) {a : Addr} {tv : Tx} (inIdx : Nat) :
    ∀ (calls : List (Bytes × Nat)) (hh : Heap), Good h hh → absVal h a = some (.tx tv) →
      ∃ h', rawSigHashes hh a inIdx calls = some h' ∧ Good h h'
  | [], hh, g, _ => ⟨hh, rfl, g⟩
  | (sub, ht) :: cs, hh, g, habs => by
    obtain ⟨c1, c2, c3⟩ := good_clauses hk hd g
    obtain ⟨h1, d, e1, g1⟩ := rawSigHash_ok c1 c2 c3 (absVal_good g habs) sub inIdx ht
    obtain ⟨h2, e2, g2⟩ := rawSigHashes_ok hk hd inIdx cs h1 (good_trans g g1) habs
    exact ⟨h2, by simp only [rawSigHashes]; rw [show rawSigHash hh a sub inIdx ht = some (h1, d) from e1]; exact e2, g2⟩

theorem rawSigHashes_grows {h : Heap} (hk : KindOK h) (hd : DefaultsOK h) {a : Addr} {inIdx : Nat} :
    ∀ (calls : List (Bytes × Nat)) {hh h' : Heap}, Good h hh → rawSigHashes hh a inIdx calls = some h' → Good h h'
  | [], hh, h', g, hr => by cases hr; exact g
  | (sub, ht) :: cs, hh, h', g, hr => by
    simp only [rawSigHashes] at hr
    split at hr
    next h1 d e1 =>
      obtain ⟨c1, c2, c3⟩ := good_clauses hk hd g
      exact rawSigHashes_grows hk hd cs (good_trans g (rawSigHash_grows c1 c2 c3 e1)) hr
    next => cases hr

/-! ### `sighash` and `verify` touch the heap only through `rawSigHash` / `rawSigHashes`, and bind no name -/

theorem step_sighash_heap (s : St) (r : Nat) (sub : Bytes) (i ht : Nat) :
    (step s (.sighash r sub i ht)).1.heap = s.heap ∨
      ∃ a d, rawSigHash s.heap a sub i ht = some ((step s (.sighash r sub i ht)).1.heap, d) := by
  simp only [step]
  split
  · exact .inl rfl
  · split
    · split
      · rename_i hr; exact .inr ⟨_, _, hr⟩
      · exact .inl rfl
    · exact .inl rfl
    · exact .inl rfl

theorem step_verify_heap (s : St) (r i : Nat) (calls : List (Bytes × Nat)) :
    (step s (.verify r i calls)).1.heap = s.heap ∨
      ∃ a, rawSigHashes s.heap a i calls = some (step s (.verify r i calls)).1.heap := by
  simp only [step]
  split
  · exact .inl rfl
  · split
    · split
      · rename_i hr; exact .inr ⟨_, hr⟩
      · exact .inl rfl
    · exact .inl rfl
    · exact .inl rfl

theorem step_sighash_names (s : St) (r : Nat) (sub : Bytes) (i ht : Nat) :
    (step s (.sighash r sub i ht)).1.names = s.names ++ [none] := by
  simp only [step]
  (repeat' split) <;> rfl

theorem step_verify_names (s : St) (r i : Nat) (calls : List (Bytes × Nat)) :
    (step s (.verify r i calls)).1.names = s.names ++ [none] := by
  simp only [step]
  (repeat' split) <;> rfl

theorem step_sighash_grows {s : St} (hic : ImmClosed s.heap) (hk : KindOK s.heap) (hd : DefaultsOK s.heap) (r : Nat)
    (sub : Bytes) (i ht : Nat) : ∃ e, (step s (.sighash r sub i ht)).1.heap = s.heap ++ e := by
  rcases step_sighash_heap s r sub i ht with h | ⟨a, d, hr⟩
  · exact ⟨[], by rw [h, List.append_nil]⟩
  · obtain ⟨e, he, _⟩ := (rawSigHash_grows hic hk hd hr).ext
    exact ⟨e, he⟩

theorem step_verify_grows {s : St} (hic : ImmClosed s.heap) (hk : KindOK s.heap) (hd : DefaultsOK s.heap) (r i : Nat)
    (calls : List (Bytes × Nat)) : ∃ e, (step s (.verify r i calls)).1.heap = s.heap ++ e := by
  rcases step_verify_heap s r i calls with h | ⟨a, hr⟩
  · exact ⟨[], by rw [h, List.append_nil]⟩
  · obtain ⟨e, he, _⟩ := (rawSigHashes_grows hk hd calls (good_refl hic) hr).ext
    exact ⟨e, he⟩

theorem sim_good {s : St} {sp : Store} (hinv : Inv s) (hrel : Rel s sp) {h' : Heap} (g : Good s.heap h') :
    Inv (s.bind h' none) ∧ Rel (s.bind h' none) (Spec.ValueSem.bind sp none) := by
  obtain ⟨e, he, _⟩ := g.ext
  exact ⟨inv_good hinv g, rel_ext hrel he trivial⟩

theorem sim_sighash {s : St} {sp : Store} (hinv : Inv s) (hrel : Rel s sp) (r : Nat) (sub : Bytes) (i ht : Nat) :
    Sim s sp (.sighash r sub i ht) :=
  sim_onTx hinv hrel r
    (fun a => match rawSigHash s.heap a sub i ht with
      | some (h, _) => (s.bind h none, .done)
      | none => (s.skip, .badRef))
    fun a tv habs => by
      obtain ⟨h', d, es, g⟩ := rawSigHash_ok hinv.immClosed hinv.kindOK hinv.defaults habs sub i ht
      have sg := sim_good hinv hrel g
      rw [es]
      exact ⟨sg.1, sg.2, rfl⟩

theorem sim_verify {s : St} {sp : Store} (hinv : Inv s) (hrel : Rel s sp) (r i : Nat) (calls : List (Bytes × Nat)) :
    Sim s sp (.verify r i calls) :=
  sim_onTx hinv hrel r
    (fun a => match rawSigHashes s.heap a i calls with
      | some h => (s.bind h none, .done)
      | none => (s.skip, .badRef))
    fun a tv habs => by
      obtain ⟨h', es, g⟩ := rawSigHashes_ok hinv.kindOK hinv.defaults i calls s.heap (good_refl hinv.immClosed) habs
      have sg := sim_good hinv hrel g
      rw [es]
      exact ⟨sg.1, sg.2, rfl⟩

end BtcVerif.Model.Heap

/-
  C06 — the model's number codec (`_bignum.bn2vch / vch2bn` through the MPI route) equals the
  reference `CScriptNum` (`serialize` / `set_vch`).
-/
import BtcVerif.Proofs.ScriptEquivBasic

namespace BtcVerif.Model.ScriptEval
open BtcVerif BtcVerif.Spec BtcVerif.Spec.Script BtcVerif.Model.Script

theorem beNat_append_singleton (x : Bytes) (y : UInt8) : beNat (x ++ [y]) = beNat x * 256 + y.toNat := by
  simp [beNat, List.foldl_append]

theorem beNat_reverse (l : Bytes) : beNat l.reverse = leNat l := by
  induction l with
  | nil => rfl
  | cons b bs ih =>
    rw [List.reverse_cons, beNat_append_singleton, ih]
    simp only [leNat]; omega

theorem leNat_append_singleton (x : Bytes) (y : UInt8) :
    leNat (x ++ [y]) = leNat x + 256 ^ x.length * y.toNat := by
  induction x with
  | nil => simp [leNat]
  | cons b bs ih =>
    simp only [List.cons_append, leNat, ih, List.length_cons, Nat.pow_succ]
    rw [Nat.mul_add, Nat.mul_comm (256 ^ bs.length) 256, Nat.mul_assoc, Nat.add_assoc]

theorem beNat_cons (x : UInt8) (r : Bytes) : beNat (x :: r) = leNat r.reverse + 256 ^ r.length * x.toNat := by
  rw [← List.reverse_reverse (x :: r), beNat_reverse, List.reverse_cons, leNat_append_singleton,
    List.length_reverse]

theorem vch2bn_eq (s : Bytes) (h : s.length < 2 ^ 32) : vch2bn s = .ok (Ref.scriptNumDecode s) := by
  unfold vch2bn Ref.scriptNumDecode
  rw [if_neg (by omega)]
  cases hr : s.reverse with
  | nil =>
    have : s = [] := by simpa using hr
    subst this; rfl
  | cons t r =>
    have hs : s = r.reverse ++ [t] := by simpa using congrArg List.reverse hr
    have hlast : s.getLast? = some t := by rw [hs]; simp
    have hlen : s.length - 1 = r.length := by rw [hs]; simp
    have hle : leNat s = leNat r.reverse + 256 ^ r.length * t.toNat := by
      rw [hs, leNat_append_singleton, List.length_reverse]
    simp only [hlast, hlen, hle, beNat_cons]
    split
    · rename_i ht
      -- clearing the sign bit of the top byte subtracts 0x80 · 256^(len − 1)
      have h2 : (UInt8.ofNat (t.toNat - 0x80)).toNat = t.toNat - 0x80 := by
        have := t.toNat_lt
        rw [UInt8.toNat_ofNat']; omega
      have hge : 0x80 * 256 ^ r.length ≤ 256 ^ r.length * t.toNat := by
        rw [Nat.mul_comm]; exact Nat.mul_le_mul_left _ ht
      rw [h2, Nat.mul_sub, Nat.mul_comm _ 0x80, Nat.add_sub_assoc hge]
    · rfl

/-- what `_CastToBigNum` raises on an operand the reference rejects: EvalScriptError, or the
    `struct.error` of `vch2mpi` for an operand of 2³² bytes or more -/
def castErr (s : Bytes) (st : St) : Err := if s.length < 2 ^ 32 then .eval st.cap else .py "error"

theorem castToBigNum_ref (s : Bytes) (st : St) :
    castToBigNum s st = match Ref.scriptNum? s with
      | some v => .ok v
      | none => .error (castErr s st) := by
  unfold Ref.scriptNum? castToBigNum castErr
  by_cases h32 : s.length < 2 ^ 32
  · rw [vch2bn_eq s h32, if_pos h32]
    by_cases hl : s.length > MAX_NUM_SIZE
    · simp only [hl, if_true]; rfl
    · simp only [hl, if_false]; rfl
  · have hl : s.length > MAX_NUM_SIZE := by simp only [MAX_NUM_SIZE]; omega
    have hge : s.length ≥ 2 ^ 32 := by omega
    simp only [hl, if_true, h32, if_false, vch2bn, hge]
    rfl

theorem castToBigNum_eq (s : Bytes) (st : St) :
    match Ref.scriptNum? s with
    | none => ∃ e, castToBigNum s st = .error e
    | some v => castToBigNum s st = .ok v := by
  rw [castToBigNum_ref]
  cases Ref.scriptNum? s with
  | none => exact ⟨_, rfl⟩
  | some v => rfl

theorem bitLength_div256 (n : Nat) : bitLength (n / 256) = bitLength n - 8 := by
  have key : ∀ k, bitLength (n / 256) ≤ k ↔ bitLength n ≤ k + 8 := fun k => by
    rw [bitLength_le_iff, bitLength_le_iff, Nat.pow_add, Nat.div_lt_iff_lt_mul (by decide)]
  have h1 := (key (bitLength n - 8)).mpr (by omega)
  have h2 := (key _).mp (Nat.le_refl _)
  omega

theorem bnBytes_succ {n : Nat} (h : n ≠ 0) : bnBytes n false = bnBytes (n / 256) false + 1 := by
  have hp := bitLength_pos h
  simp only [bnBytes, bitLength_div256]
  simp
  omega

theorem bnBytes_zero : bnBytes 0 false = 0 := by simp [bnBytes, bitLength_zero]

theorem leMinimal_zero : Ref.leMinimal 0 = [] := by rw [Ref.leMinimal]; simp

theorem leMinimal_pos {n : Nat} (h : n ≠ 0) :
    Ref.leMinimal n = UInt8.ofNat (n % 256) :: Ref.leMinimal (n / 256) := by
  rw [Ref.leMinimal]; simp [h]

theorem leMinimal_eq (n : Nat) : Ref.leMinimal n = leBytes (bnBytes n false) n := by
  induction n using Nat.strongRecOn with
  | _ n ih =>
    by_cases h0 : n = 0
    · subst h0; simp [leMinimal_zero, bnBytes_zero, leBytes]
    · rw [leMinimal_pos h0, bnBytes_succ h0, leBytes, ih (n / 256) (by omega)]

theorem leBytes_eq_map (w n : Nat) :
    leBytes w n = (List.range w).map (fun j => UInt8.ofNat (n / 256 ^ j % 256)) := by
  induction w generalizing n with
  | zero => rfl
  | succ w ih =>
    rw [leBytes, List.range_succ_eq_map, List.map_cons, List.map_map, ih]
    congr 1
    · simp
    · apply List.map_congr_left
      intro j _
      simp only [Function.comp, Nat.pow_succ, Nat.div_div_eq_div_mul, Nat.mul_comm]

theorem bn2bin_reverse (n : Nat) : (bn2bin n).reverse = Ref.leMinimal n := by
  rw [leMinimal_eq, leBytes_eq_map, bn2bin, ← List.map_reverse, List.reverse_reverse]

/-- the top byte of the minimal encoding has its high bit set exactly when the bit length is a
    multiple of 8 (`have_ext` of `bn2mpi`) -/
theorem haveExt_spec (n : Nat) (h : n ≠ 0) :
    ∃ last, (Ref.leMinimal n).getLast? = some last ∧ (bitLength n % 8 = 0 ↔ last.toNat ≥ 0x80) := by
  induction n using Nat.strongRecOn with
  | _ n ih =>
    by_cases hlt : n < 256
    · have hq : n / 256 = 0 := by omega
      rw [leMinimal_pos h, hq, leMinimal_zero]
      refine ⟨UInt8.ofNat (n % 256), rfl, ?_⟩
      have hv : (UInt8.ofNat (n % 256)).toNat = n := by rw [UInt8.toNat_ofNat']; omega
      rw [hv]
      have hpos := bitLength_pos h
      have h7 := bitLength_le_iff n 7
      have h8 := bitLength_le_iff n 8
      omega
    · have hq : n / 256 ≠ 0 := by omega
      obtain ⟨last, hl, hiff⟩ := ih (n / 256) (by omega) hq
      rw [leMinimal_pos h]
      refine ⟨last, ?_, ?_⟩
      · cases hm : Ref.leMinimal (n / 256) with
        | nil => rw [hm] at hl; simp at hl
        | cons x r => rw [hm] at hl; simpa [List.getLast?_cons_cons] using hl
      · rw [← hiff, bitLength_div256]
        have h8 := bitLength_le_iff n 8
        omega

theorem bn2vch_eq (v : Int) : bn2vch v = .ok (Ref.scriptNumSer v) := by
  unfold bn2vch bn2mpiBody Ref.scriptNumSer
  by_cases hz : v = 0
  · subst hz
    simp [bitLength_zero, bn2bin, bnBytes, bind, Except.bind]
  · have hne : v.natAbs ≠ 0 := by omega
    obtain ⟨last, hlast, hiff⟩ := haveExt_spec v.natAbs hne
    have hbl : bitLength v.natAbs > 0 := by have := bitLength_pos hne; omega
    have hrev := bn2bin_reverse v.natAbs
    simp only [hz, if_false, hlast]
    by_cases hneg : v < 0
    · by_cases hext : bitLength v.natAbs % 8 = 0
      · have hge := hiff.mp hext
        simp [hneg, hbl, hext, hge, bind, Except.bind, hrev]
      · have hge : ¬ last.toNat ≥ 0x80 := fun h => hext (hiff.mpr h)
        cases hb : bn2bin v.natAbs with
        | nil =>
          have : Ref.leMinimal v.natAbs = [] := by rw [← hrev, hb]; rfl
          rw [this] at hlast; simp at hlast
        | cons x r =>
          have hm : Ref.leMinimal v.natAbs = r.reverse ++ [x] := by rw [← hrev, hb]; simp
          have hx : last = x := by rw [hm] at hlast; simpa using hlast.symm
          subst hx
          have hx128 : last.toNat % 128 = last.toNat := by omega
          simp [hneg, hbl, hext, hge, bind, Except.bind, hm, hx128]
    · by_cases hext : bitLength v.natAbs % 8 = 0
      · have hge := hiff.mp hext
        simp [hneg, hbl, hext, hge, bind, Except.bind, hrev]
      · have hge : ¬ last.toNat ≥ 0x80 := fun h => hext (hiff.mpr h)
        simp [hneg, hbl, hext, hge, bind, Except.bind, hrev]

end BtcVerif.Model.ScriptEval

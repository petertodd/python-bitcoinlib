/-
  C09: what a name denotes as a transaction root; simulation of the edits of `tx.vin` and `tx.vout`
  (`append`, item assignment, `del`) and of the assignments `tx.vin = […]`, `tx.vout = […]`, `tx.wit = CTxWitness(…)`.
-/
import BtcVerif.Proofs.HeapOpsEdit

namespace BtcVerif.Model.Heap
open BtcVerif BtcVerif.Spec.ValueSem

/-- what a name denotes, as far as the transaction edits care -/
inductive TxRoot (s : St) (sp : Store) (r : Nat) : Prop
  | none (h1 : s.root r = none) (h2 : (sp[r]?).join = none)
  | other (a : Addr) (e : Entry) (h1 : s.root r = some a) (h2 : (sp[r]?).join = some e)
      (h3 : txParts s.heap a = none) (h4 : lookupTx sp r = none)
  | tx (a : Addr) (e : Entry) (tv : Tx) (o : Obj) (vi vo w : Addr)
      (h1 : s.root r = some a) (h2 : (sp[r]?).join = some e) (hval : e.val = .tx tv)
      (h3 : txParts s.heap a = some (o, vi, vo, w)) (h4 : lookupTx sp r = some (e, tv))
      (ho : s.heap[a]? = some o) (hm : o.isMut = e.isMut)
      (t0 : s.target ⟨r, []⟩ = some a) (t1 : s.target ⟨r, [0]⟩ = some vi) (t2 : s.target ⟨r, [1]⟩ = some vo)

theorem kind_tx {sc : Scalars} : sc.kind = 5 → ∃ ver lock, sc = .tx ver lock := by
  cases sc with
  | tx ver lock => intro _; exact ⟨ver, lock, rfl⟩
  | seq k => cases k <;> simp [Scalars.kind]
  | _ => simp [Scalars.kind]

theorem txParts_none_of_kind {h : Heap} {a : Addr} {o : Obj} (ho : h[a]? = some o) (hk : o.sc.kind ≠ 5) :
    txParts h a = none := by
  simp only [txParts, ho]
  cases hsc : o.sc <;> first | rfl | (exfalso; apply hk; rw [hsc]; rfl)

theorem assemble_tx_inv {ver : Int} {lock : Nat} {vs : List Val} {v : Val}
    (h : assemble (.tx ver lock) vs = some v) :
    ∃ vin vout w, vs = [.ins vin, .outs vout, .wit w] := by
  match vs, h with
  | [.ins vin, .outs vout, .wit w], _ => exact ⟨vin, vout, w, rfl⟩

theorem txRoot {s : St} {sp : Store} (hinv : Inv s) (hrel : Rel s sp) (r : Nat) : TxRoot s sp r := by
  rcases root_tx_sim hinv hrel r with ⟨h1, h2⟩ | ⟨a, e, t, h1, h2, hu, hd, hm, _, _⟩
  · exact .none h1 h2
  · have hu' := hu
    rw [D_eq] at hu'
    obtain ⟨o, kids, ho, hk, rfl⟩ := unfoldA_succ hu'
    obtain ⟨vs, hvs, hasm⟩ := decode_inv hd
    have hkind := assemble_kind hasm
    have hlen := mapO_length hk
    have hlen2 := mapO_length hvs
    by_cases hk5 : o.sc.kind = 5
    · obtain ⟨ver, lock, hsc⟩ := kind_tx hk5
      rw [hsc] at hasm
      obtain ⟨vin, vout, wv, rfl⟩ := assemble_tx_inv hasm
      simp only [assemble, Option.some.injEq] at hasm
      have hval : e.val = .tx { nVersion := ver, vin := vin, vout := vout, wit := wv, nLockTime := lock } :=
        hasm.symm
      simp at hlen2
      have h3 : o.refs.length = 3 := by omega
      match hr : o.refs, h3 with
      | [vi, vo, w], _ =>
        have hal : a < s.heap.length := (List.getElem?_eq_some_iff.mp ho).1
        have hkid : ∀ (i : Nat) (c : Addr), o.refs[i]? = some c → c < s.heap.length := by
          intro i c hc
          obtain ⟨k, _, huc⟩ := mapO_getElem hk i c hc
          obtain ⟨oc, _, hoc, _, _⟩ := unfoldA_succ huc
          exact (List.getElem?_eq_some_iff.mp hoc).1
        refine .tx a e _ o vi vo w h1 h2 hval ?_ ?_ ho hm ?_ ?_ ?_
        · simp [txParts, ho, hsc, hr]
        · simp [lookupTx, h2, hval]
        · simp [St.target, h1, resolve, hal]
        · have := hkid 0 vi (by rw [hr]; rfl)
          simp [St.target, h1, resolve, ho, hr, this]
        · have := hkid 1 vo (by rw [hr]; rfl)
          simp [St.target, h1, resolve, ho, hr, this]
    · refine .other a e h1 h2 (txParts_none_of_kind ho hk5) ?_
      simp only [lookupTx, h2]
      cases hval : e.val <;> first | rfl | (exfalso; apply hk5; rw [← hkind, hval]; rfl)

theorem sim_noTx {s : St} {sp : Store} (hinv : Inv s) (hrel : Rel s sp) :
    Inv s.skip ∧ Rel s.skip (Spec.ValueSem.bind sp none) := ⟨inv_skip hinv, rel_skip hrel⟩

/-- the list `tx.vin` (`j = 0`) or `tx.vout` (`j = 1`) of a transaction root, as a target: a sequence object of
    kind `k` whose items have the values `vs`; it sits one level below the root, so `D = 1 + (6 + 1)` (`hg`) -/
structure SeqInfo (s : St) (sp : Store) (r j : Nat) (e : Entry) (k : SeqKind) (vs : List Val) (x : Addr) where
  I : TInfo s sp ⟨r, [j]⟩ x
  kids : List ATree
  he : I.e = e
  hsc : I.o.sc = .seq k
  hmut : I.o.isMut = e.isMut
  htx : I.tx = .node x I.o.isMut (.seq k) kids
  hkids : mapO (unfoldA I.g s.heap) I.o.refs = some kids
  hdec : mapO decode kids = some vs
  hg : I.g = 6
  hfl : I.o.isMut = true → flagsOKL true kids

theorem seqInfo {s : St} {sp : Store} (hinv : Inv s) (hrel : Rel s sp) {r j : Nat} {e : Entry} {tv : Tx}
    {x : Addr} (h2 : (sp[r]?).join = some e) (hval : e.val = .tx tv) (t : s.target ⟨r, [j]⟩ = some x)
    {c : Val} {k : SeqKind} {vs : List Val} (hc : (Val.tx tv).child j = some c) (hp : partsOf c = (.seq k, vs))
    (hai : c.alwaysImm = false) : Nonempty (SeqInfo s sp r j e k vs x) := by
  obtain ⟨I⟩ := target_some hinv hrel t
  have he : I.e = e := by have := I.hentry; simp only at this; rw [h2] at this; cases this; rfl
  have hlook := I.hlook
  simp only [lookup, I.hentry, Option.bind_eq_bind, Option.bind_some, he, hval, Val.getM, hc, hai, Bool.not_false,
    Bool.and_true, Option.some.injEq, Prod.mk.injEq] at hlook
  obtain ⟨hm, hvx⟩ := hlook
  obtain ⟨kids, htx, hk, hdec, hsc, hfl⟩ := I.node
  rw [← hvx, hp] at hdec hsc
  rw [hsc] at htx
  refine ⟨{ I := I, kids := kids, he := he, hsc := hsc, hmut := by rw [← I.hom, ← hm], htx := htx,
            hkids := hk, hdec := hdec, hg := ?_, hfl := hfl }⟩
  have := I.hD
  simp only [D, List.length_cons, List.length_nil] at this
  omega

abbrev VinInfo (s : St) (sp : Store) (r : Nat) (e : Entry) (tv : Tx) (vi : Addr) :=
  SeqInfo s sp r 0 e .ins (tv.vin.map .txin) vi

theorem vinInfo {s : St} {sp : Store} (hinv : Inv s) (hrel : Rel s sp) {r : Nat} {e : Entry} {tv : Tx}
    {vi : Addr} (h2 : (sp[r]?).join = some e) (hval : e.val = .tx tv) (t1 : s.target ⟨r, [0]⟩ = some vi) :
    Nonempty (VinInfo s sp r e tv vi) :=
  seqInfo hinv hrel h2 hval t1 (c := .ins tv.vin) rfl rfl rfl

theorem put_vin (tv : Tx) (l : List TxIn) :
    (Val.tx tv).put [0] (.ins l) = some (.tx { tv with vin := l }) := by
  simp [Val.put, Val.child, Val.putChild]

theorem sim_appendIn {s : St} {sp : Store} (hinv : Inv s) (hrel : Rel s sp) (r : Nat) (v : TxIn) :
    Sim s sp (.appendIn r v) := by
  simp only [Sim, step, Spec.ValueSem.step, withTx, editList]
  cases txRoot hinv hrel r with
  | none h1 h2 => simp only [h1, lookupTx, h2]; exact ⟨inv_skip hinv, rel_skip hrel, by simp⟩
  | other a e h1 h2 h3 h4 => simp only [h1, h3, h4, h2]; exact ⟨inv_skip hinv, rel_skip hrel, by simp⟩
  | tx a e tv o vi vo w h1 h2 hval h3 h4 ho hm t0 t1 t2 =>
    obtain ⟨V⟩ := vinInfo hinv hrel h2 hval t1
    simp only [h1, h3, h4, V.I.ho, V.hmut, Bool.not_true, Bool.false_eq_true, if_false]
    cases hmu : e.isMut with
    | false => exact ⟨inv_skip hinv, rel_skip hrel, by simp⟩
    | true =>
      simp only [Bool.not_true, Bool.false_eq_true, if_false]
      cases hv : validTxIn v with
      | false => exact ⟨inv_skip hinv, rel_skip hrel, by simp⟩
      | true =>
        simp only [Bool.not_true, Bool.false_eq_true, if_false, if_true]
        have hom : V.I.o.isMut = true := by rw [V.hmut, hmu]
        obtain ⟨k1, k2⟩ := edit_append_fresh hinv hrel V.I hom (by rw [V.htx, hom, V.hsc]) V.hkids V.hdec (V.hfl hom)
          (p := planTxIn true v) (by rw [V.hg]; exact good_planTxIn s.heap true v 4) (mf := true) (c := .txin v)
          (fun lo hi t ht => by rw [V.hg] at ht; exact ⟨tree_planTxIn ht, by rw [(PT.root_sc ht).1]; rfl⟩)
          (w := .ins (tv.vin ++ [v])) (v' := .tx { tv with vin := tv.vin ++ [v] })
          (by rw [V.hsc, assemble_eq_some]; simp [partsOf]) (by rw [V.he, hval]; exact put_vin tv _)
        rw [V.he] at k2
        exact ⟨k1, by simpa [hmu] using k2, trivial⟩

theorem map_eraseIdx' {α β : Type} (f : α → β) : ∀ (l : List α) (i : Nat),
    (l.map f).eraseIdx i = (l.eraseIdx i).map f
  | [], _ => rfl
  | _ :: _, 0 => rfl
  | a :: l, i + 1 => by simp [map_eraseIdx' f l i]

theorem sim_replaceIn {s : St} {sp : Store} (hinv : Inv s) (hrel : Rel s sp) (r i : Nat) (v : TxIn) :
    Sim s sp (.replaceIn r i v) := by
  simp only [Sim, step, Spec.ValueSem.step, withTx, editList]
  cases txRoot hinv hrel r with
  | none h1 h2 => simp only [h1, lookupTx, h2]; exact ⟨inv_skip hinv, rel_skip hrel, by simp⟩
  | other a e h1 h2 h3 h4 => simp only [h1, h3, h4, h2]; exact ⟨inv_skip hinv, rel_skip hrel, by simp⟩
  | tx a e tv o vi vo w h1 h2 hval h3 h4 ho hm t0 t1 t2 =>
    obtain ⟨V⟩ := vinInfo hinv hrel h2 hval t1
    simp only [h1, h3, h4, V.I.ho, V.hmut]
    cases hv : validTxIn v with
    | false => exact ⟨inv_skip hinv, rel_skip hrel, by simp⟩
    | true =>
      simp only [Bool.not_true, Bool.false_eq_true, if_false]
      cases hmu : e.isMut with
      | false => exact ⟨inv_skip hinv, rel_skip hrel, by simp⟩
      | true =>
        simp only [Bool.not_true, Bool.false_eq_true, if_false]
        have hom : V.I.o.isMut = true := by rw [V.hmut, hmu]
        have hl1 := mapO_length V.hkids
        have hl2 := mapO_length V.hdec
        have hlen : V.I.o.refs.length = tv.vin.length := by simp at hl2; omega
        rw [hlen]
        by_cases hi : i < tv.vin.length
        · simp only [hi, if_true]
          obtain ⟨k1, k2⟩ := edit_set_fresh hinv hrel V.I hom (by rw [V.htx, hom, V.hsc]) V.hkids V.hdec (V.hfl hom)
            (j := i) (by omega) (p := planTxIn true v) (by rw [V.hg]; exact good_planTxIn s.heap true v 4) (mf := true) (c := .txin v)
            (fun lo hi t ht => by rw [V.hg] at ht; exact ⟨tree_planTxIn ht, by rw [(PT.root_sc ht).1]; rfl⟩)
            (w := .ins (tv.vin.set i v)) (v' := .tx { tv with vin := tv.vin.set i v })
            (by rw [V.hsc, assemble_eq_some]; simp [partsOf, List.map_set]) (by rw [V.he, hval]; exact put_vin tv _)
          rw [V.he] at k2
          exact ⟨k1, by simpa [hmu] using k2, trivial⟩
        · simp only [hi, if_false]
          exact ⟨inv_skip hinv, rel_skip hrel, trivial⟩

theorem sim_removeIn {s : St} {sp : Store} (hinv : Inv s) (hrel : Rel s sp) (r i : Nat) :
    Sim s sp (.removeIn r i) := by
  simp only [Sim, step, Spec.ValueSem.step, withTx, editList, withList]
  cases txRoot hinv hrel r with
  | none h1 h2 => simp only [h1, lookupTx, h2]; exact ⟨inv_skip hinv, rel_skip hrel, by simp⟩
  | other a e h1 h2 h3 h4 => simp only [h1, h3, h4, h2]; exact ⟨inv_skip hinv, rel_skip hrel, by simp⟩
  | tx a e tv o vi vo w h1 h2 hval h3 h4 ho hm t0 t1 t2 =>
    obtain ⟨V⟩ := vinInfo hinv hrel h2 hval t1
    simp only [h1, h3, h4, V.I.ho, V.hmut, Bool.not_true, Bool.false_eq_true, if_false]
    cases hmu : e.isMut with
    | false => exact ⟨inv_skip hinv, rel_skip hrel, by simp⟩
    | true =>
      simp only [Bool.not_true, Bool.false_eq_true, if_false]
      have hom : V.I.o.isMut = true := by rw [V.hmut, hmu]
      have hl1 := mapO_length V.hkids
      have hl2 := mapO_length V.hdec
      have hlen : V.I.o.refs.length = tv.vin.length := by simp at hl2; omega
      rw [hlen]
      by_cases hi : i < tv.vin.length
      · simp only [hi, if_true]
        obtain ⟨k1, k2⟩ := edit_erase hinv hrel V.I hom (by rw [V.htx, hom, V.hsc]) V.hkids V.hdec (V.hfl hom) i
          (w := .ins (tv.vin.eraseIdx i)) (v' := .tx { tv with vin := tv.vin.eraseIdx i })
          (by rw [V.hsc, assemble_eq_some]; simp [partsOf, map_eraseIdx']) (by rw [V.he, hval]; exact put_vin tv _)
        rw [V.he] at k2
        exact ⟨by simpa [hom] using k1, by simpa [hmu, hom] using k2, trivial⟩
      · simp only [hi, if_false]
        exact ⟨inv_skip hinv, rel_skip hrel, trivial⟩

/-! ### edits of `tx.vout` -/

abbrev VoutInfo (s : St) (sp : Store) (r : Nat) (e : Entry) (tv : Tx) (vo : Addr) :=
  SeqInfo s sp r 1 e .outs (tv.vout.map .txout) vo

theorem voutInfo {s : St} {sp : Store} (hinv : Inv s) (hrel : Rel s sp) {r : Nat} {e : Entry} {tv : Tx}
    {vo : Addr} (h2 : (sp[r]?).join = some e) (hval : e.val = .tx tv) (t2 : s.target ⟨r, [1]⟩ = some vo) :
    Nonempty (VoutInfo s sp r e tv vo) :=
  seqInfo hinv hrel h2 hval t2 (c := .outs tv.vout) rfl rfl rfl

theorem put_vout (tv : Tx) (l : List TxOut) :
    (Val.tx tv).put [1] (.outs l) = some (.tx { tv with vout := l }) := by
  simp [Val.put, Val.child, Val.putChild]

theorem sim_appendOut {s : St} {sp : Store} (hinv : Inv s) (hrel : Rel s sp) (r : Nat) (v : TxOut) :
    Sim s sp (.appendOut r v) := by
  simp only [Sim, step, Spec.ValueSem.step, withTx, editList]
  cases txRoot hinv hrel r with
  | none h1 h2 => simp only [h1, lookupTx, h2]; exact ⟨inv_skip hinv, rel_skip hrel, by simp⟩
  | other a e h1 h2 h3 h4 => simp only [h1, h3, h4, h2]; exact ⟨inv_skip hinv, rel_skip hrel, by simp⟩
  | tx a e tv o vi vo w h1 h2 hval h3 h4 ho hm t0 t1 t2 =>
    obtain ⟨V⟩ := voutInfo hinv hrel h2 hval t2
    simp only [h1, h3, h4, V.I.ho, V.hmut, Bool.not_true, Bool.false_eq_true, if_false]
    cases hmu : e.isMut with
    | false => exact ⟨inv_skip hinv, rel_skip hrel, by simp⟩
    | true =>
      simp only [Bool.not_true, Bool.false_eq_true, if_false]
      have hom : V.I.o.isMut = true := by rw [V.hmut, hmu]
      obtain ⟨k1, k2⟩ := edit_append_fresh hinv hrel V.I hom (by rw [V.htx, hom, V.hsc]) V.hkids V.hdec (V.hfl hom)
        (p := planTxOut true v) (by rw [V.hg]; exact good_planTxOut s.heap true v 5) (mf := true) (c := .txout v)
        (fun lo hi t ht => by rw [V.hg] at ht; exact ⟨tree_planTxOut ht, by rw [(PT.root_sc ht).1]; rfl⟩)
        (w := .outs (tv.vout ++ [v])) (v' := .tx { tv with vout := tv.vout ++ [v] })
        (by rw [V.hsc, assemble_eq_some]; simp [partsOf]) (by rw [V.he, hval]; exact put_vout tv _)
      rw [V.he] at k2
      exact ⟨k1, by simpa [hmu] using k2, trivial⟩

theorem sim_replaceOut {s : St} {sp : Store} (hinv : Inv s) (hrel : Rel s sp) (r i : Nat) (v : TxOut) :
    Sim s sp (.replaceOut r i v) := by
  simp only [Sim, step, Spec.ValueSem.step, withTx, editList]
  cases txRoot hinv hrel r with
  | none h1 h2 => simp only [h1, lookupTx, h2]; exact ⟨inv_skip hinv, rel_skip hrel, by simp⟩
  | other a e h1 h2 h3 h4 => simp only [h1, h3, h4, h2]; exact ⟨inv_skip hinv, rel_skip hrel, by simp⟩
  | tx a e tv o vi vo w h1 h2 hval h3 h4 ho hm t0 t1 t2 =>
    obtain ⟨V⟩ := voutInfo hinv hrel h2 hval t2
    simp only [h1, h3, h4, V.I.ho, V.hmut]
    cases hmu : e.isMut with
    | false => exact ⟨inv_skip hinv, rel_skip hrel, by simp⟩
    | true =>
      simp only [Bool.not_true, Bool.false_eq_true, if_false]
      have hom : V.I.o.isMut = true := by rw [V.hmut, hmu]
      have hl1 := mapO_length V.hkids
      have hl2 := mapO_length V.hdec
      have hlen : V.I.o.refs.length = tv.vout.length := by simp at hl2; omega
      rw [hlen]
      by_cases hi : i < tv.vout.length
      · simp only [hi, if_true]
        obtain ⟨k1, k2⟩ := edit_set_fresh hinv hrel V.I hom (by rw [V.htx, hom, V.hsc]) V.hkids V.hdec (V.hfl hom)
          (j := i) (by omega) (p := planTxOut true v) (by rw [V.hg]; exact good_planTxOut s.heap true v 5) (mf := true) (c := .txout v)
          (fun lo hi t ht => by rw [V.hg] at ht; exact ⟨tree_planTxOut ht, by rw [(PT.root_sc ht).1]; rfl⟩)
          (w := .outs (tv.vout.set i v)) (v' := .tx { tv with vout := tv.vout.set i v })
          (by rw [V.hsc, assemble_eq_some]; simp [partsOf, List.map_set]) (by rw [V.he, hval]; exact put_vout tv _)
        rw [V.he] at k2
        exact ⟨k1, by simpa [hmu] using k2, trivial⟩
      · simp only [hi, if_false]
        exact ⟨inv_skip hinv, rel_skip hrel, trivial⟩

theorem sim_removeOut {s : St} {sp : Store} (hinv : Inv s) (hrel : Rel s sp) (r i : Nat) :
    Sim s sp (.removeOut r i) := by
  simp only [Sim, step, Spec.ValueSem.step, withTx, editList, withList]
  cases txRoot hinv hrel r with
  | none h1 h2 => simp only [h1, lookupTx, h2]; exact ⟨inv_skip hinv, rel_skip hrel, by simp⟩
  | other a e h1 h2 h3 h4 => simp only [h1, h3, h4, h2]; exact ⟨inv_skip hinv, rel_skip hrel, by simp⟩
  | tx a e tv o vi vo w h1 h2 hval h3 h4 ho hm t0 t1 t2 =>
    obtain ⟨V⟩ := voutInfo hinv hrel h2 hval t2
    simp only [h1, h3, h4, V.I.ho, V.hmut, Bool.not_true, Bool.false_eq_true, if_false]
    cases hmu : e.isMut with
    | false => exact ⟨inv_skip hinv, rel_skip hrel, by simp⟩
    | true =>
      simp only [Bool.not_true, Bool.false_eq_true, if_false]
      have hom : V.I.o.isMut = true := by rw [V.hmut, hmu]
      have hl1 := mapO_length V.hkids
      have hl2 := mapO_length V.hdec
      have hlen : V.I.o.refs.length = tv.vout.length := by simp at hl2; omega
      rw [hlen]
      by_cases hi : i < tv.vout.length
      · simp only [hi, if_true]
        obtain ⟨k1, k2⟩ := edit_erase hinv hrel V.I hom (by rw [V.htx, hom, V.hsc]) V.hkids V.hdec (V.hfl hom) i
          (w := .outs (tv.vout.eraseIdx i)) (v' := .tx { tv with vout := tv.vout.eraseIdx i })
          (by rw [V.hsc, assemble_eq_some]; simp [partsOf, map_eraseIdx']) (by rw [V.he, hval]; exact put_vout tv _)
        rw [V.he] at k2
        exact ⟨by simpa [hom] using k1, by simpa [hmu, hom] using k2, trivial⟩
      · simp only [hi, if_false]
        exact ⟨inv_skip hinv, rel_skip hrel, trivial⟩

/-! ### assignments `tx.vin = …`, `tx.vout = …`, `tx.wit = …` -/

/-- the transaction object of a transaction root, as a target -/
structure TxNodeInfo (s : St) (sp : Store) (r : Nat) (e : Entry) (tv : Tx) (a : Addr) where
  I : TInfo s sp ⟨r, []⟩ a
  k0 : ATree
  k1 : ATree
  k2 : ATree
  he : I.e = e
  hmut : I.o.isMut = e.isMut
  htx : I.tx = .node a I.o.isMut I.o.sc [k0, k1, k2]
  hkids : mapO (unfoldA I.g s.heap) I.o.refs = some [k0, k1, k2]
  hdec : mapO decode [k0, k1, k2] = some [.ins tv.vin, .outs tv.vout, .wit tv.wit]
  hasm : ∀ vin vout wit, assemble I.o.sc [.ins vin, .outs vout, .wit wit] =
    some (.tx { tv with vin := vin, vout := vout, wit := wit })
  hg : I.g = 4 + 3
  hfl : I.o.isMut = true → flagsOKL true [k0, k1, k2]

theorem txNodeInfo {s : St} {sp : Store} (hinv : Inv s) (hrel : Rel s sp) {r : Nat} {e : Entry} {tv : Tx}
    {a : Addr} (h2 : (sp[r]?).join = some e) (hval : e.val = .tx tv) (t0 : s.target ⟨r, []⟩ = some a) :
    Nonempty (TxNodeInfo s sp r e tv a) := by
  obtain ⟨I⟩ := target_some hinv hrel t0
  have he : I.e = e := by have := I.hentry; simp only at this; rw [h2] at this; cases this; rfl
  have hlook := I.hlook
  simp only [lookup, I.hentry, Option.bind_eq_bind, Option.bind_some, he, hval, Val.getM] at hlook
  simp only [Option.some.injEq, Prod.mk.injEq] at hlook
  obtain ⟨hm, hvx⟩ := hlook
  obtain ⟨o, kids, ho, hk, htx⟩ := unfoldA_succ I.hux
  rw [I.ho] at ho; cases ho
  have hdx := I.hdx
  rw [htx, ← hvx] at hdx
  obtain ⟨vs, hvs, hasm⟩ := decode_inv hdx
  have hkind := assemble_kind hasm
  obtain ⟨ver, lock, hsc⟩ := kind_tx hkind.symm
  rw [hsc] at hasm
  obtain ⟨vin, vout, wv, rfl⟩ := assemble_tx_inv hasm
  simp only [assemble, Option.some.injEq, Val.tx.injEq] at hasm
  have hlen := mapO_length hvs
  match kids, hlen with
  | [k0, k1, k2], _ =>
    refine ⟨{ I := I, k0 := k0, k1 := k1, k2 := k2, he := he, hmut := by rw [← I.hom, ← hm], htx := htx,
              hkids := hk, hdec := by rw [hvs, ← hasm], hasm := ?_, hg := ?_, hfl := ?_ }⟩
    · intro vin' vout' wit'
      rw [hsc, ← hasm]; rfl
    · have := I.hD
      simp only [D, List.length_nil] at this
      omega
    · intro hmu
      have := I.hfx
      rw [htx, hmu] at this
      exact this.2

theorem setRef_eq {h : Heap} {a : Addr} {o : Obj} (ho : h[a]? = some o) {j : Nat} (hj : j < o.refs.length)
    (c : Addr) : setRef h a j c = some (h.set a { o with refs := o.refs.set j c }) := by
  simp [setRef, ho, hj]

theorem set_tx_ref {s : St} {sp : Store} (hinv : Inv s) (hrel : Rel s sp) {r : Nat} {e : Entry} {tv : Tx}
    {a : Addr} (X : TxNodeInfo s sp r e tv a) (hmu : e.isMut = true)
    (j : Nat) (p : Plan) (hgood : PlanGood s.heap (4 + 3) p) (mf : Bool) (cv : Val)
    (htree : ∀ lo hi t, PT s.heap (4 + 3) p lo hi t → TreeIs mf cv t ∧ t.sc.alwaysImm = !mf)
    (tv' : Tx)
    (hnewval : assemble X.I.o.sc ([Val.ins tv.vin, Val.outs tv.vout, Val.wit tv.wit].set j cv) = some (.tx tv'))
    (hj : j < 3) :
    ∃ h2, setRef (allocPlan s.heap p).1 a j (allocPlan s.heap p).2 = some h2 ∧ Inv (s.bind h2 none) ∧
      Rel (s.bind h2 none) (Spec.ValueSem.bind (sp.set r (some { e with val := .tx tv' })) none) := by
  have hom : X.I.o.isMut = true := by rw [X.hmut, hmu]
  have hgood' : PlanGood s.heap X.I.g p := by rw [X.hg]; exact hgood
  obtain ⟨k1, k2⟩ := edit_set_fresh hinv hrel X.I hom (by rw [X.htx, hom]) X.hkids X.hdec (X.hfl hom) (j := j)
    (by simpa using hj) hgood' (mf := mf) (c := cv)
    (fun lo hi t ht => by rw [X.hg] at ht; exact htree lo hi t ht) (w := .tx tv') (v' := .tx tv') hnewval
    rfl
  rw [X.he] at k2
  have hlen : j < X.I.o.refs.length := by have := mapO_length X.hkids; simp at this; omega
  obtain ⟨ee, _, he, _⟩ := alloc_good hinv hgood'
  have ho1 : (allocPlan s.heap p).1[a]? = some X.I.o := by rw [he]; exact getElem?_append_of_some ee X.I.ho
  have hobj : ({ X.I.o with refs := X.I.o.refs.set j (allocPlan s.heap p).2 } : Obj) =
      { isMut := true, sc := X.I.o.sc, refs := X.I.o.refs.set j (allocPlan s.heap p).2,
        cHash := X.I.o.cHash, cPy := X.I.o.cPy } := by rw [← hom]
  exact ⟨_, setRef_eq ho1 hlen _, by rw [hobj]; exact k1, by rw [hobj]; exact k2⟩

theorem sim_setVin {s : St} {sp : Store} (hinv : Inv s) (hrel : Rel s sp) (r : Nat) (l : List TxIn) :
    Sim s sp (.setVin r l) := by
  simp only [Sim, step, Spec.ValueSem.step, withTx, editList]
  cases txRoot hinv hrel r with
  | none h1 h2 => simp only [h1, lookupTx, h2]; exact ⟨inv_skip hinv, rel_skip hrel, by simp⟩
  | other a e h1 h2 h3 h4 => simp only [h1, h3, h4, h2]; exact ⟨inv_skip hinv, rel_skip hrel, by simp⟩
  | tx a e tv o vi vo w h1 h2 hval h3 h4 ho hm t0 t1 t2 =>
    obtain ⟨X⟩ := txNodeInfo hinv hrel h2 hval t0
    simp only [h1, h3, h4, hm]
    cases hv : l.all validTxIn with
    | false => exact ⟨inv_skip hinv, rel_skip hrel, by simp⟩
    | true =>
      simp only [Bool.not_true, Bool.false_eq_true, if_false]
      cases hmu : e.isMut with
      | false => exact ⟨inv_skip hinv, rel_skip hrel, by simp⟩
      | true =>
        simp only [Bool.not_true, Bool.false_eq_true, if_false]
        obtain ⟨h2', es, k1, k2⟩ := set_tx_ref hinv hrel X hmu 0 (planIns true l) (good_planIns s.heap true l 4)
          true (.ins l) (fun lo hi t ht => ⟨tree_planIns ht, by rw [(PT.root_sc ht).1]; rfl⟩)
          { tv with vin := l } (by simpa using X.hasm l tv.vout tv.wit) (by omega)
        rw [es]
        exact ⟨k1, by simpa [hmu] using k2, rfl⟩

theorem sim_setVout {s : St} {sp : Store} (hinv : Inv s) (hrel : Rel s sp) (r : Nat) (l : List TxOut) :
    Sim s sp (.setVout r l) := by
  simp only [Sim, step, Spec.ValueSem.step, withTx, editList]
  cases txRoot hinv hrel r with
  | none h1 h2 => simp only [h1, lookupTx, h2]; exact ⟨inv_skip hinv, rel_skip hrel, by simp⟩
  | other a e h1 h2 h3 h4 => simp only [h1, h3, h4, h2]; exact ⟨inv_skip hinv, rel_skip hrel, by simp⟩
  | tx a e tv o vi vo w h1 h2 hval h3 h4 ho hm t0 t1 t2 =>
    obtain ⟨X⟩ := txNodeInfo hinv hrel h2 hval t0
    simp only [h1, h3, h4, hm, Bool.not_true, Bool.false_eq_true, if_false]
    cases hmu : e.isMut with
    | false => exact ⟨inv_skip hinv, rel_skip hrel, by simp⟩
    | true =>
      simp only [Bool.not_true, Bool.false_eq_true, if_false]
      obtain ⟨h2', es, k1, k2⟩ := set_tx_ref hinv hrel X hmu 1 (planOuts true l) (good_planOuts s.heap true l 5)
        true (.outs l) (fun lo hi t ht => ⟨tree_planOuts ht, by rw [(PT.root_sc ht).1]; rfl⟩)
        { tv with vout := l } (by simpa using X.hasm tv.vin l tv.wit) (by omega)
      rw [es]
      exact ⟨k1, by simpa [hmu] using k2, rfl⟩

theorem sim_setWit {s : St} {sp : Store} (hinv : Inv s) (hrel : Rel s sp) (r : Nat) (wl : List WitStack) :
    Sim s sp (.setWit r wl) := by
  simp only [Sim, step, Spec.ValueSem.step, withTx, editList]
  cases txRoot hinv hrel r with
  | none h1 h2 => simp only [h1, lookupTx, h2]; exact ⟨inv_skip hinv, rel_skip hrel, by simp⟩
  | other a e h1 h2 h3 h4 => simp only [h1, h3, h4, h2]; exact ⟨inv_skip hinv, rel_skip hrel, by simp⟩
  | tx a e tv o vi vo w h1 h2 hval h3 h4 ho hm t0 t1 t2 =>
    obtain ⟨X⟩ := txNodeInfo hinv hrel h2 hval t0
    simp only [h1, h3, h4, hm, Bool.not_true, Bool.false_eq_true, if_false]
    cases hmu : e.isMut with
    | false => exact ⟨inv_skip hinv, rel_skip hrel, by simp⟩
    | true =>
      simp only [Bool.not_true, Bool.false_eq_true, if_false]
      obtain ⟨h2', es, k1, k2⟩ := set_tx_ref hinv hrel X hmu 2 (planWit wl) (good_planWit s.heap wl 4)
        false (.wit wl) (fun lo hi t ht => ⟨tree_planWit ht, by rw [(PT.root_sc ht).1]; rfl⟩)
        { tv with wit := wl } (by simpa using X.hasm tv.vin tv.vout wl) (by omega)
      rw [es]
      exact ⟨k1, by simpa [hmu] using k2, rfl⟩

end BtcVerif.Model.Heap

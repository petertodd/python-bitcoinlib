/-
  C19, send side (PARTIAL): the arithmetic argument that the shortest round-tripping decimal numeral of
  the double nearest to a / 10^8 denotes exactly a / 10^8, for amounts in the money range.  binary64
  and float.__repr__ enter only through the hypotheses of `repr_denotes_amount`.
-/
import BtcVerif.Proofs.Rpc
import Mathlib.Tactic.Linarith
import Mathlib.Tactic.Ring
import Mathlib.Tactic.NormNum
import Mathlib.Tactic.Positivity
import Mathlib.Algebra.Order.Field.Basic

namespace BtcVerif.Rpc
open BtcVerif Model.Rpc

/-- value of the decimal numeral with significand `m` and exponent `p` -/
def decVal (m : ℕ) (p : ℤ) : ℚ := (m : ℚ) * (10 : ℚ) ^ p

theorem exists_strip (a : ℕ) (ha : 0 < a) : ∃ mD t : ℕ, a = mD * 10 ^ t ∧ mD % 10 ≠ 0 := by
  induction a using Nat.strongRecOn with
  | _ a ih =>
    by_cases h : a % 10 = 0
    · obtain ⟨mD, t, h1, h2⟩ := ih (a / 10) (by omega) (by omega)
      refine ⟨mD, t + 1, ?_, h2⟩
      rw [pow_succ, ← mul_assoc, ← h1]; omega
    · exact ⟨a, 0, by simp, h⟩

theorem decVal_eq_div (m : ℕ) (p : ℤ) (j k : ℕ) (h : p = (j : ℤ) - k) :
    decVal m p = ((m * 10 ^ j : ℕ) : ℚ) / ((10 ^ k : ℕ) : ℚ) := by
  unfold decVal
  rw [h, zpow_sub₀ (by norm_num : (10 : ℚ) ≠ 0), zpow_natCast, zpow_natCast]
  push_cast
  ring

theorem decVal_mul_pow (m t : ℕ) (p : ℤ) : decVal (m * 10 ^ t) p = decVal m (p + t) := by
  unfold decVal
  rw [zpow_add₀ (by norm_num : (10 : ℚ) ≠ 0), zpow_natCast]
  push_cast
  ring

theorem amount_eq_decVal (a : ℕ) : (a : ℚ) / 10 ^ 8 = decVal a (-8) := by
  rw [decVal_eq_div a (-8) 0 8 (by norm_num)]
  push_cast
  ring

theorem spacing_nat (r a d : ℕ) (hd : 0 < d) (hle : a ≤ r)
    (h : |(r : ℚ) / d - (a : ℚ) / d| ≤ max ((r : ℚ) / d) ((a : ℚ) / d) / 2 ^ 52) :
    (r - a) * 2 ^ 52 ≤ r := by
  have hdq : (0 : ℚ) < d := Nat.cast_pos.2 hd
  have h1 : (a : ℚ) / d ≤ (r : ℚ) / d := div_le_div_of_nonneg_right (Nat.cast_le.2 hle) hdq.le
  rw [max_eq_left h1, abs_of_nonneg (sub_nonneg.2 h1), le_div_iff₀ (by positivity), ← sub_div,
    div_mul_eq_mul_div, div_le_div_iff_of_pos_right hdq, ← Nat.cast_sub hle] at h
  exact_mod_cast h

/-- a multiple of ten `A` at or above a power of ten `P ≤ 10^16`, within 2^-52 of some `m < P`, is `P`
    itself, and then `P = 10` is impossible.  (`A (2^52 - 1) ≤ m 2^52 < P 2^52` gives `A < P + 3` because
    `P ≤ 10^16 < 3 (2^52 - 1)`, and the next multiple of ten after `P` is `P + 10`; for `P = 10` the
    bound `(10 - m) 2^52 ≤ 10` fails for every `m < 10`.) -/
theorem near_pow (m P A : ℕ) (hm : m < P) (hPA : P ≤ A) (hP : P % 10 = 0) (hA : A % 10 = 0)
    (hP16 : P ≤ 10 ^ 16) (h : (A - m) * 2 ^ 52 ≤ A) : A = P ∧ P ≠ 10 := by
  omega

theorem pow_eq_strip (mD u s : ℕ) (hu : 1 ≤ u) (h : mD * 10 ^ u = 10 ^ s) (hge : 10 ^ (s - 1) ≤ mD)
    (hmod : mD % 10 ≠ 0) : s = 1 := by
  obtain ⟨u, rfl⟩ : ∃ u', u = u' + 1 := ⟨u - 1, by omega⟩
  have hu1 : 1 ≤ 10 ^ u := Nat.pow_pos (by omega)
  match s with
  | 0 => rw [pow_succ, ← mul_assoc, pow_zero] at h; omega
  | 1 => rfl
  | s + 2 =>
    exfalso
    rw [pow_succ, pow_succ _ (s + 1), ← mul_assoc] at h
    have h' : mD * 10 ^ u = 10 ^ (s + 1) := Nat.eq_of_mul_eq_mul_right (by omega) h
    have : mD = 10 ^ (s + 1) :=
      Nat.le_antisymm (h' ▸ Nat.le_mul_of_pos_right mD hu1) hge
    rw [this, pow_succ] at hmod
    omega

/-- the send-side argument; `rn` is "the binary64 nearest to", and the three hypotheses are explained at
    `C19.amount_out_exact_partial` -/
theorem repr_denotes_amount
    (rn : ℚ → ℚ)
    (hspacing : ∀ x y : ℚ, 0 < x → (1 : ℚ) / 10 ^ 8 ≤ y → y ≤ 21 * 10 ^ 6 → rn x = rn y →
      |x - y| ≤ max x y / 2 ^ 52)
    (a : ℕ) (ha : 0 < a) (ha2 : a ≤ 21 * 10 ^ 14)
    (m : ℕ) (p : ℤ) (hm : m % 10 ≠ 0)
    (hrt : rn (decVal m p) = rn ((a : ℚ) / 10 ^ 8))
    (hshort : ∀ (m' : ℕ) (p' : ℤ), m' % 10 ≠ 0 → rn (decVal m' p') = rn ((a : ℚ) / 10 ^ 8) →
      ndigits m ≤ ndigits m') :
    decVal m p = (a : ℚ) / 10 ^ 8 := by
  have hxpos : 0 < decVal m p :=
    mul_pos (Nat.cast_pos.2 (by omega)) (zpow_pos (by norm_num) _)
  have haq : (1 : ℚ) ≤ a := Nat.one_le_cast.2 ha
  have hylo : (1 : ℚ) / 10 ^ 8 ≤ (a : ℚ) / 10 ^ 8 := div_le_div_of_nonneg_right haq (by positivity)
  have hyhi : (a : ℚ) / 10 ^ 8 ≤ 21 * 10 ^ 6 := by
    rw [div_le_iff₀ (by positivity)]
    have : (a : ℚ) ≤ 21 * 10 ^ 14 := by exact_mod_cast ha2
    linarith
  have hsp := hspacing _ _ hxpos hylo hyhi hrt
  -- both sides over the denominator 10^(8+i): `i` decimals beyond the satoshi grid, or `j` zeros on it
  obtain ⟨i, j, hp, hij⟩ : ∃ i j : ℕ, p = (j : ℤ) - (8 + i : ℕ) ∧ (i = 0 ∨ j = 0) := by
    by_cases h : -8 ≤ p
    · exact ⟨0, (p + 8).toNat, by omega, Or.inl rfl⟩
    · exact ⟨(-8 - p).toNat, 0, by omega, Or.inr rfl⟩
  have hA : (a : ℚ) / 10 ^ 8 = ((a * 10 ^ i : ℕ) : ℚ) / ((10 ^ (8 + i) : ℕ) : ℚ) := by
    rw [amount_eq_decVal, decVal_eq_div a (-8) i (8 + i) (by push_cast; ring)]
  rw [hA, decVal_eq_div m p j (8 + i) hp] at hsp ⊢
  have hD : 0 < 10 ^ (8 + i) := Nat.pow_pos (by omega)
  have h1 := fun hle => spacing_nat (m * 10 ^ j) (a * 10 ^ i) _ hD hle hsp
  rw [abs_sub_comm, max_comm] at hsp
  have h2 := fun hle => spacing_nat (a * 10 ^ i) (m * 10 ^ j) _ hD hle hsp
  rcases Nat.eq_zero_or_pos i with rfl | hi
  · -- on the satoshi grid: the amount is below 2^52
    rw [pow_zero, mul_one] at h1 h2 ⊢
    have : m * 10 ^ j = a := by
      rcases Nat.lt_trichotomy (m * 10 ^ j) a with h | h | h
      · have := h2 (by omega); omega
      · exact h
      · have := h1 (by omega); omega
    rw [this]
  · -- finer than the satoshi grid: impossible for a shortest numeral
    exfalso
    obtain rfl : j = 0 := by omega
    rw [pow_zero, mul_one] at h2
    -- the eight-decimal numeral of the amount is a candidate, so `m` has no more digits than `mD`
    obtain ⟨mD, t, hat, hmD⟩ := exists_strip a ha
    have hs := hshort mD (-8 + t) hmD (by rw [amount_eq_decVal, hat, decVal_mul_pow])
    have hmlt : m < 10 ^ ndigits mD := Nat.lt_of_lt_of_le (ndigits_lt m) (Nat.pow_le_pow_right (by omega) hs)
    have hmDge := ndigits_ge mD (by omega)
    have hs16 : ndigits mD ≤ 16 := by
      have : mD ≤ a := by rw [hat]; exact Nat.le_mul_of_pos_right _ (Nat.pow_pos (by omega))
      exact (ndigits_le_iff (by omega)).2 (by omega)
    have hspos := ndigits_pos mD
    generalize ndigits mD = s at hmlt hmDge hs16 hspos
    -- A = a·10^i = mD·10^(t+i) ≥ 10^s > m
    have hAe : a * 10 ^ i = mD * 10 ^ (t + i) := by rw [hat, mul_assoc, ← pow_add]
    have hAge : 10 ^ s ≤ a * 10 ^ i := by
      rw [hAe, ← Nat.sub_add_cancel hspos, pow_succ]
      exact Nat.mul_le_mul hmDge (Nat.le_self_pow (by omega) 10)
    have hPmod : 10 ^ s % 10 = 0 := by
      rw [← Nat.sub_add_cancel hspos, pow_succ]; omega
    have hAmod : (a * 10 ^ i) % 10 = 0 := by
      rw [← Nat.sub_add_cancel hi, pow_succ, ← mul_assoc]; omega
    obtain ⟨hAeq, hne⟩ := near_pow m (10 ^ s) (a * 10 ^ i) hmlt hAge hPmod hAmod
      (Nat.pow_le_pow_right (by omega) hs16) (h2 (by omega))
    rw [hAe] at hAeq
    rw [pow_eq_strip mD (t + i) s (by omega) hAeq hmDge hmD] at hne
    exact hne rfl

theorem decVal_iff_denotes (m : ℕ) (p : ℤ) (a : ℕ) :
    decVal m p = (a : ℚ) / 10 ^ 8 ↔ Spec.Rpc.denotesSat false m p (a : ℤ) := by
  obtain ⟨i, j, hi, hj⟩ : ∃ i j : ℕ, i = (-(p + 8)).toNat ∧ j = (p + 8).toNat := ⟨_, _, rfl, rfl⟩
  have hd : ((10 ^ (8 + i) : ℕ) : ℚ) ≠ 0 := by positivity
  have hp : p = (j : ℤ) - (8 + i : ℕ) := by omega
  rw [denotesSat_iff, amount_eq_decVal, decVal_eq_div a (-8) i (8 + i) (by push_cast; ring),
    decVal_eq_div m p j (8 + i) hp, div_left_inj' hd, Nat.cast_inj,
    ← scaledEq_iff (e := p + 8) j i (by omega)]
  exact ⟨fun h => ⟨a, h, rfl⟩, fun ⟨n, h, hn⟩ => Int.ofNat.inj hn ▸ h⟩

end BtcVerif.Rpc

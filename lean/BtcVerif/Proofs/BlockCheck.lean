/-
  Context-free checks (C16): the legacy sigop count against Core's; `Decides r P` for every loop of
  CheckTransaction / CheckBlock, the commitment check and CheckBlockHeader, and for the two checks as wholes
  against `Spec.BlockCheck.ValidTx` / `ValidBlock`.
-/
import BtcVerif.Model.BlockCheck
import BtcVerif.Spec.BlockCheck
import BtcVerif.Proofs.Merkle
import BtcVerif.Props.C17
import BtcVerif.Proofs.CryptoLen
import BtcVerif.Proofs.GetOp

namespace BtcVerif.BlockCheckProofs
open BtcVerif BtcVerif.Crypto BtcVerif.Model.BlockCheck BtcVerif.Model.Merkle BtcVerif.Model.Wire
open BtcVerif.Codec BtcVerif.Spec
open BtcVerif.Spec.Merkle (TxRange BlockRange)

/-! ### sigop counting: raw_iter-based count = Core's GetOp-based count -/

open Model.Script in
theorem rawStep_getOp (idx : Nat) (s : Bytes) :
    match rawStep idx s with
    | none => s = []
    | some (.err _) => Spec.BlockCheck.getOp s = none
    | some (.op o rest) => Spec.BlockCheck.getOp s = some (o.opcode, rest) := by
  cases s with
  | nil => simp [rawStep]
  | cons b t =>
    rw [rawStep_eq_getOp, getOp_blockcheck]
    cases Spec.Script.getOp (b :: t) <;> rfl

/-- what one operation adds to `GetSigOpCount(False)` -/
def opWeight (o : Model.Script.RawOp) : Nat :=
  if o.opcode = 0xac ∨ o.opcode = 0xad then 1
  else if o.opcode = 0xae ∨ o.opcode = 0xaf then 20 else 0

theorem sigOps_unfold (s : Bytes) :
    Spec.BlockCheck.sigOps s =
      match Spec.BlockCheck.getOp s with
      | none => 0
      | some (op, rest) => Spec.BlockCheck.opSigOps op + Spec.BlockCheck.sigOps rest := by
  rw [Spec.BlockCheck.sigOps]
  split <;> rename_i h <;> simp [h]

theorem rawIter_sigOps : ∀ (n : Nat) (s : Bytes) (idx : Nat), s.length = n →
    ((Model.Script.rawIterFrom idx s).1.map opWeight).sum = Spec.BlockCheck.sigOps s := by
  intro n
  induction n using Nat.strongRecOn with
  | _ n ih =>
    intro s idx hn
    have hstep := rawStep_getOp idx s
    rw [rawIterFrom_unfold, sigOps_unfold]
    cases h : Model.Script.rawStep idx s with
    | none =>
      rw [h] at hstep
      simp only at hstep
      subst hstep
      simp [Spec.BlockCheck.getOp]
    | some st =>
      cases st with
      | err e =>
        rw [h] at hstep
        simp only at hstep
        simp [hstep]
      | op o rest =>
        rw [h] at hstep
        simp only at hstep
        have hlt := Model.Script.rawStep_rest_lt h
        have := ih rest.length (by omega) rest (idx + (s.length - rest.length)) rfl
        simp only [hstep, List.map_cons, List.sum_cons, this]
        simp [opWeight, Spec.BlockCheck.opSigOps]

theorem sigOpCount_eq (s : Bytes) : sigOpCount s = Spec.BlockCheck.sigOps s := by
  have := rawIter_sigOps s.length s 0 rfl
  unfold sigOpCount Model.Script.rawIter
  exact this

theorem legacySigOpCount_eq (t : Tx) : legacySigOpCount t = Spec.BlockCheck.txSigOps t := by
  simp [legacySigOpCount, Spec.BlockCheck.txSigOps, sigOpCount_eq]

theorem isNull_iff (o : OutPoint) : o.isNull = true ↔ Spec.BlockCheck.NullOutPoint o := by
  unfold OutPoint.isNull Spec.BlockCheck.NullOutPoint Spec.Merkle.zero32
  simp

theorem isCoinbase_iff (t : Tx) : t.isCoinbase = true ↔ Spec.BlockCheck.IsCoinbase t := by
  unfold Tx.isCoinbase Spec.BlockCheck.IsCoinbase
  rcases t.vin with _ | ⟨i, _ | ⟨j, r⟩⟩
  · simp
  · exact isNull_iff _
  · simp

theorem isCoinbase_false_iff (t : Tx) : t.isCoinbase = false ↔ ¬ Spec.BlockCheck.IsCoinbase t := by
  rw [← isCoinbase_iff, Bool.not_eq_true]

/-! ### checks as deciders of a rule set -/

/-- the check `r` accepts exactly when `P` holds and otherwise raises a validation error (no other
    exception): what every loop and every check below is shown to do -/
def Decides (r : Res Unit) (P : Prop) : Prop := (P → r = .ok ()) ∧ (¬ P → r = .error .validation)

theorem Decides.of_true {P : Prop} (h : P) : Decides (.ok ()) P := ⟨fun _ => rfl, fun hn => absurd h hn⟩

theorem Decides.of_false {P : Prop} (h : ¬ P) : Decides (.error .validation) P :=
  ⟨fun hp => absurd hp h, fun _ => rfl⟩

theorem Decides.congr {r : Res Unit} {P Q : Prop} (h : Decides r P) (hpq : P ↔ Q) : Decides r Q :=
  ⟨fun q => h.1 (hpq.2 q), fun nq => h.2 (fun p => nq (hpq.1 p))⟩

theorem Decides.cases {r : Res Unit} {P : Prop} (h : Decides r P) :
    (P ∧ r = .ok ()) ∨ (¬ P ∧ r = .error .validation) :=
  (Classical.em P).elim (fun p => .inl ⟨p, h.1 p⟩) (fun np => .inr ⟨np, h.2 np⟩)

theorem Decides.verdict {r : Res Unit} {P : Prop} (h : Decides r P) : r = .ok () ∨ r = .error .validation :=
  h.cases.elim (fun x => .inl x.2) (fun x => .inr x.2)

theorem Decides.iff {r : Res Unit} {P : Prop} (h : Decides r P) : r = .ok () ↔ P := by
  refine ⟨fun e => ?_, h.1⟩
  rcases h.cases with ⟨p, _⟩ | ⟨_, e'⟩
  · exact p
  · rw [e'] at e; cases e

/-- `if c: raise Check…Error` in front of a check -/
theorem Decides.guard {c : Prop} [Decidable c] {r : Res Unit} {P : Prop} (h : ¬ c → Decides r P) :
    Decides (if c then reject else r) (¬ c ∧ P) := by
  by_cases hc : c
  · rw [if_pos hc]; exact .of_false (fun hp => hp.1 hc)
  · rw [if_neg hc]; exact (h hc).congr ⟨fun hp => ⟨hc, hp⟩, fun hp => hp.2⟩

/-- `Decides.guard` towards a fixed rule set `V` that itself excludes `c` -/
theorem Decides.guardV {c : Prop} [Decidable c] {r : Res Unit} {V : Prop} (hV : V → ¬ c)
    (h : ¬ c → Decides r V) : Decides (if c then reject else r) V :=
  (Decides.guard h).congr ⟨fun hp => hp.2, fun v => ⟨hV v, v⟩⟩

/-! ### CheckTransaction -/

/-- the output values, in order -/
def vals (outs : List TxOut) : List Int := outs.map (·.nValue)

/-- the loop started with running total `acc` (itself in range) accepts exactly when every value and
    every running total is in range: the Spec's formulation, with `acc` added -/
theorem valueLoop_decides (p : ChainParams) : ∀ (outs : List TxOut) (acc : Int), Spec.BlockCheck.moneyRange p acc →
    Decides (valueLoop p outs acc)
      ((∀ o ∈ outs, Spec.BlockCheck.moneyRange p o.nValue) ∧
      (∀ k ∈ List.range (outs.length + 1), Spec.BlockCheck.moneyRange p (acc + (vals (outs.take k)).sum)))
  | [], acc, hacc => .of_true ⟨fun _ h => (nomatch h), fun k _ => by simpa [vals] using hacc⟩
  | o :: rest, acc, hacc => by
    have hstep : ∀ k, acc + (vals ((o :: rest).take (k + 1))).sum = (acc + o.nValue) + (vals (rest.take k)).sum := by
      intro k
      simp only [List.take_succ_cons, vals, List.map_cons, List.sum_cons, Int.add_assoc]
    have hmem : ∀ k, k + 1 ∈ List.range ((o :: rest).length + 1) ↔ k ∈ List.range (rest.length + 1) := by
      intro k
      simp only [List.mem_range, List.length_cons]; omega
    have hbool : ∀ v, moneyRange p v = true ↔ Spec.BlockCheck.moneyRange p v := by
      intro v; simp [moneyRange, Spec.BlockCheck.moneyRange]
    unfold valueLoop
    refine (Decides.guard fun h1 => Decides.guard fun h2 => Decides.guard fun h3 =>
      valueLoop_decides p rest (acc + o.nValue) ((hbool _).mp (by simpa using h3))).congr ?_
    constructor
    · intro ⟨h1, h2, _, ha, hsum⟩
      refine ⟨fun o' ho' => (List.mem_cons.mp ho').elim
        (fun e => e ▸ (show Spec.BlockCheck.moneyRange p o.nValue from ⟨by omega, by omega⟩)) (ha o'), ?_⟩
      intro k hk
      cases k with
      | zero => simpa [vals] using hacc
      | succ k' => rw [hstep]; exact hsum k' ((hmem k').mp hk)
    · intro ⟨ha, hsum⟩
      have ho := ha o List.mem_cons_self
      have h1 := hsum 1 ((hmem 0).mpr (by simp))
      rw [hstep 0] at h1
      refine ⟨by have := ho.1; omega, by have := ho.2; omega, ?_, fun o' ho' => ha o' (List.mem_cons_of_mem _ ho'), ?_⟩
      · simpa [vals, hbool] using h1
      · intro k hk
        rw [← hstep]; exact hsum (k + 1) ((hmem k).mpr hk)

theorem outPoint_inj (a b : OutPoint) (ha : Spec.Wire.WFOutPoint a) (hb : Spec.Wire.WFOutPoint b) :
    Spec.Wire.outPoint a = Spec.Wire.outPoint b ↔ (a.hash, a.n) = (b.hash, b.n) := by
  obtain ⟨ha1, ha2⟩ := ha
  obtain ⟨hb1, hb2⟩ := hb
  unfold Spec.Wire.outPoint
  constructor
  · intro h
    have := List.append_inj h (by rw [ha1, hb1])
    obtain ⟨h1, h2⟩ := this
    have h3 := congrArg leNat h2
    rw [leNat_leBytes, leNat_leBytes] at h3
    have : a.n = b.n := by
      rw [Nat.mod_eq_of_lt (by omega), Nat.mod_eq_of_lt (by omega)] at h3; exact h3
    simp [h1, this]
  · intro h
    simp only [Prod.mk.injEq] at h
    rw [h.1, h.2]

/-- the outpoint an input spends, as the pair the Spec's uniqueness rule speaks of -/
def outPair (i : TxIn) : Bytes × Nat := (i.prevout.hash, i.prevout.n)
/-- the same outpoint as the byte key of the `set` in CheckTransaction -/
def outKey (i : TxIn) : Bytes := Spec.Wire.outPoint i.prevout

theorem dupLoop_decides : ∀ (ins seenIns : List TxIn),
    (∀ i ∈ ins, Spec.Wire.WFOutPoint i.prevout) → (∀ i ∈ seenIns, Spec.Wire.WFOutPoint i.prevout) →
    Decides (dupLoop ins (seenIns.map outKey))
      ((ins.map outPair).Nodup ∧ ∀ i ∈ ins, outPair i ∉ seenIns.map outPair)
  | [], _, _, _ => .of_true ⟨List.nodup_nil, fun _ h => (nomatch h)⟩
  | i :: rest, seenIns, hwf, hwfs => by
    have hi := hwf i List.mem_cons_self
    have hwfs' : ∀ j ∈ i :: seenIns, Spec.Wire.WFOutPoint j.prevout :=
      fun j hj => (List.mem_cons.mp hj).elim (fun e => e ▸ hi) (hwfs j)
    have hmem : Spec.Wire.outPoint i.prevout ∈ seenIns.map outKey ↔ outPair i ∈ seenIns.map outPair := by
      simp only [List.mem_map]
      constructor
      · rintro ⟨j, hj, he⟩
        exact ⟨j, hj, ((outPoint_inj _ _ (hwfs j hj) hi).mp he)⟩
      · rintro ⟨j, hj, he⟩
        exact ⟨j, hj, ((outPoint_inj _ _ (hwfs j hj) hi).mpr he)⟩
    unfold dupLoop
    rw [serOutPoint_ok hi]
    refine (Decides.guard fun _ =>
      dupLoop_decides rest (i :: seenIns) (fun j hj => hwf j (List.mem_cons_of_mem _ hj)) hwfs').congr ?_
    rw [hmem]
    simp only [List.map_cons, List.nodup_cons, List.mem_cons, List.mem_map, not_or, not_exists, not_and,
      forall_eq_or_imp]
    constructor
    · intro ⟨hnot, hnd, hall⟩
      exact ⟨⟨fun j hj he => (hall j hj).1 he, hnd⟩, fun j hj he => hnot j hj he,
        fun j hj j' hj' he => (hall j hj).2 j' hj' he⟩
    · intro ⟨⟨h1, hnd⟩, h2, h3⟩
      exact ⟨h2, hnd, fun j hj => ⟨fun he => h1 j hj he, fun j' hj' he => h3 j hj j' hj' he⟩⟩

theorem nullLoop_decides : ∀ ins : List TxIn,
    Decides (nullLoop ins) (∀ i ∈ ins, ¬ Spec.BlockCheck.NullOutPoint i.prevout)
  | [] => .of_true (fun _ h => nomatch h)
  | i :: rest => by
    unfold nullLoop
    refine (Decides.guard fun _ => nullLoop_decides rest).congr ?_
    rw [isNull_iff, List.forall_mem_cons]

theorem checkTx_decides (p : ChainParams) (t : Tx) (h : TxRange t) :
    Decides (checkTx p t) (Spec.BlockCheck.ValidTx p t) := by
  have hwf : ∀ i ∈ t.vin, Spec.Wire.WFOutPoint i.prevout := fun i hi => (h.2.2.2.2.1 i hi).1
  unfold checkTx
  refine .guardV (fun hV h0 => hV.1 (List.eq_nil_of_length_eq_zero h0)) fun _ => ?_
  refine .guardV (fun hV h0 => hV.2.1 (List.eq_nil_of_length_eq_zero h0)) fun _ => ?_
  simp only [MerkleProofs.ctorValid_of_range t h, Bool.not_true, Bool.false_eq_true, if_false, serTx_strip h]
  refine .guardV (fun hV hsz => Nat.not_lt.2 hV.2.2.1 hsz) fun hsz => ?_
  have hval := valueLoop_decides p t.vout 0 ⟨Int.le_refl 0, Int.natCast_nonneg _⟩
  simp only [Int.zero_add, vals] at hval
  rcases hval.cases with ⟨hval, e⟩ | ⟨hval, e⟩ <;> rw [e]
  swap
  · exact .of_false fun hV => hval ⟨hV.2.2.2.1, hV.2.2.2.2.1⟩
  have hd : Decides (dupLoop t.vin []) _ := dupLoop_decides t.vin [] hwf (fun _ h => nomatch h)
  rcases hd.cases with ⟨hdup, e⟩ | ⟨hdup, e⟩ <;> rw [e]
  swap
  · exact .of_false fun hV => hdup ⟨hV.2.2.2.2.2.1, fun _ _ h => nomatch h⟩
  -- what is left of `ValidTx`: its last conjunct
  suffices hlast : Decides (if t.isCoinbase = true then
        match t.vin[0]? with
        | none => .error indexError
        | some i => if ¬ (2 ≤ i.scriptSig.length ∧ i.scriptSig.length ≤ 100) then reject else .ok ()
      else nullLoop t.vin)
      (if Spec.BlockCheck.IsCoinbase t then ∀ i ∈ t.vin, 2 ≤ i.scriptSig.length ∧ i.scriptSig.length ≤ 100
       else ∀ i ∈ t.vin, ¬ Spec.BlockCheck.NullOutPoint i.prevout) from
    hlast.congr ⟨fun h7 => ⟨fun h0 => by simp [h0] at *, fun h0 => by simp [h0] at *, Nat.not_lt.1 hsz,
      hval.1, hval.2, hdup.1, h7⟩, fun hV => hV.2.2.2.2.2.2⟩
  by_cases hcb : t.isCoinbase = true
  · rw [if_pos hcb, if_pos ((isCoinbase_iff t).mp hcb)]
    obtain ⟨i, hi⟩ : ∃ i, t.vin = [i] := by
      unfold Tx.isCoinbase at hcb
      split at hcb
      · rename_i i hi; exact ⟨i, hi⟩
      · cases hcb
    simp only [hi, List.getElem?_cons_zero, List.mem_singleton, forall_eq]
    exact (Decides.guard fun _ => Decides.of_true trivial).congr ⟨fun h => Decidable.not_not.1 h.1, fun h => ⟨not_not_intro h, trivial⟩⟩
  · rw [if_neg hcb, if_neg (fun hc => hcb ((isCoinbase_iff t).mpr hc))]
    exact nullLoop_decides t.vin

/-! ### get_witness_commitment_index -/

/-- the loop keeps the index of the last qualifying output seen: appending one output either moves the
    answer to it or leaves it -/
theorem commitLoop_snoc : ∀ (outs : List TxOut) (o : TxOut) (idx : Nat) (pos : Option Nat),
    commitLoop (outs ++ [o]) idx pos =
      if Spec.BlockCheck.isCommitScript o.scriptPubKey then some (idx + outs.length) else commitLoop outs idx pos
  | [], o, idx, pos => by
    simp only [List.nil_append, commitLoop, List.length_nil, Nat.add_zero]
    rfl
  | a :: rest, o, idx, pos => by
    simp only [List.cons_append, commitLoop, List.length_cons]
    split <;> rw [commitLoop_snoc rest o (idx + 1) _, Nat.add_assoc, Nat.add_comm 1]

theorem commitLoop_reverse : ∀ r : List TxOut,
    match commitLoop r.reverse 0 none with
    | none => ((r.reverse.map (·.scriptPubKey)).filter Spec.BlockCheck.isCommitScript).getLast? = none
    | some i => ∃ o, r.reverse[i]? = some o ∧
        ((r.reverse.map (·.scriptPubKey)).filter Spec.BlockCheck.isCommitScript).getLast? = some o.scriptPubKey ∧
        38 ≤ o.scriptPubKey.length
  | [] => rfl
  | o :: r => by
    have ih := commitLoop_reverse r
    rw [List.reverse_cons, commitLoop_snoc, List.map_append, List.filter_append]
    by_cases hc : Spec.BlockCheck.isCommitScript o.scriptPubKey = true
    · have h38 : 38 ≤ o.scriptPubKey.length := by
        simp only [Spec.BlockCheck.isCommitScript, Bool.and_eq_true, decide_eq_true_eq] at hc
        exact hc.1
      simp only [hc, if_true, Nat.zero_add, List.map_cons, List.map_nil, List.filter_cons, List.filter_nil]
      exact ⟨o, by simp, by simp, h38⟩
    · simp only [hc, Bool.false_eq_true, if_false, List.map_cons, List.map_nil, List.filter_cons, List.filter_nil,
        List.append_nil]
      cases h : commitLoop r.reverse 0 none with
      | none => rw [h] at ih; exact ih
      | some i =>
        rw [h] at ih
        obtain ⟨o', ho', hs, h38⟩ := ih
        have hi : i < r.reverse.length := (List.getElem?_eq_some_iff.mp ho').1
        exact ⟨o', by rw [List.getElem?_append_left hi]; exact ho', hs, h38⟩

/-- the index found is that of the last output whose script has the commitment form -/
theorem commitLoop_result (cb : Tx) :
    match commitLoop cb.vout 0 none with
    | none => Spec.BlockCheck.commitScript? cb = none
    | some i => ∃ o, cb.vout[i]? = some o ∧ Spec.BlockCheck.commitScript? cb = some o.scriptPubKey ∧
        38 ≤ o.scriptPubKey.length := by
  have := commitLoop_reverse cb.vout.reverse
  rwa [List.reverse_reverse] at this

theorem witnessCommitmentIndex_cons (cb : Tx) (rest : List Tx) :
    witnessCommitmentIndex (cb :: rest) = (commitLoop cb.vout 0 none).elim (.error .valueerr) .ok := by
  unfold witnessCommitmentIndex
  simp only [List.length_cons, Nat.add_one_ne_zero, if_false, List.getElem?_cons_zero]
  cases commitLoop cb.vout 0 none <;> rfl

theorem checkCommitment_decides (cb : Tx) (rest : List Tx) (wtree : List Bytes) (root : Bytes)
    (hl : lastOf wtree = .ok root) (hr : Spec.Merkle.witnessRoot (cb :: rest) = some root) :
    Decides (checkCommitment (cb :: rest) wtree) (Spec.BlockCheck.CommitmentOk (cb :: rest)) := by
  have hres := commitLoop_result cb
  unfold checkCommitment Spec.BlockCheck.CommitmentOk
  simp only [hl, hr, List.getElem?_cons_zero]
  match cb.wit with
  | [] => exact ⟨fun h => h.elim, fun _ => by simp [reject]⟩
  | [] :: _ => exact ⟨fun h => h.elim, fun _ => by simp [reject]⟩
  | (a :: b :: _) :: _ => exact ⟨fun h => h.elim, fun _ => by simp [reject]⟩
  | [nonce] :: tail =>
    simp only [List.getElem?_cons_zero, List.length_singleton, ne_eq, not_true_eq_false, if_false]
    refine .guardV (fun hV hc => hc hV.1) fun h32 => ?_
    rw [witnessCommitmentIndex_cons]
    cases hci : commitLoop cb.vout 0 none with
    | none =>
      rw [hci] at hres
      rw [hres]
      exact .of_false fun hV => hV.2
    | some i =>
      rw [hci] at hres
      obtain ⟨o, ho, hs, h38⟩ := hres
      simp only [Option.elim, ho, hs]
      refine .guardV (fun _ hc => hc (by omega)) fun _ => ?_
      exact (Decides.guard fun _ => Decides.of_true trivial).congr
        ⟨fun hm => ⟨Decidable.not_not.1 h32, Decidable.not_not.1 hm.1⟩, fun hV => ⟨not_not_intro hV.2, trivial⟩⟩

/-! ### the per-transaction loop of CheckBlock -/

/-- what the loop, started at position `i` with txid set `seen` and count `sig`, accepts -/
def LoopOk (p : ChainParams) (txs : List Tx) (i : Nat) (seen : List Bytes) (sig : Nat) : Prop :=
  (∀ k t, txs[k]? = some t → 0 < i + k → t.isCoinbase = false) ∧
  (∀ t ∈ txs, Spec.BlockCheck.ValidTx p t) ∧
  (txs.map Spec.Merkle.txid).Nodup ∧
  (∀ t ∈ txs, Spec.Merkle.txid t ∉ seen) ∧
  sig + (txs.map Spec.BlockCheck.txSigOps).sum ≤ maxBlockSigops

theorem loopOk_cons (p : ChainParams) (t : Tx) (rest : List Tx) (i : Nat) (seen : List Bytes) (sig : Nat) :
    LoopOk p (t :: rest) i seen sig ↔
      (0 < i → t.isCoinbase = false) ∧ Spec.BlockCheck.ValidTx p t ∧ Spec.Merkle.txid t ∉ seen ∧
      LoopOk p rest (i + 1) (Spec.Merkle.txid t :: seen) (sig + Spec.BlockCheck.txSigOps t) := by
  unfold LoopOk
  constructor
  · intro ⟨h1, h2, h3, h4, h5⟩
    rw [List.map_cons, List.nodup_cons] at h3
    rw [List.map_cons, List.sum_cons] at h5
    refine ⟨fun hi => h1 0 t rfl (by omega), h2 t List.mem_cons_self, h4 t List.mem_cons_self,
      fun k t' hk _ => h1 (k + 1) t' (by simpa using hk) (by omega),
      fun t' ht' => h2 t' (List.mem_cons_of_mem _ ht'), h3.2, ?_, by omega⟩
    intro t' ht' hm
    rcases List.mem_cons.mp hm with hm | hm
    · exact h3.1 (List.mem_map.mpr ⟨t', ht', hm⟩)
    · exact h4 t' (List.mem_cons_of_mem _ ht') hm
  · intro ⟨h0, hvt, hseen, h1, h2, h3, h4, h5⟩
    refine ⟨?_, ?_, ?_, ?_, ?_⟩
    · intro k t' hk hpos
      cases k with
      | zero =>
        simp only [List.getElem?_cons_zero, Option.some.injEq] at hk
        exact hk ▸ h0 (by omega)
      | succ k' => exact h1 k' t' (by simpa using hk) (by omega)
    · intro t' ht'
      rcases List.mem_cons.mp ht' with rfl | ht'
      · exact hvt
      · exact h2 t' ht'
    · rw [List.map_cons, List.nodup_cons]
      refine ⟨fun hmem => ?_, h3⟩
      obtain ⟨t', ht', he⟩ := List.mem_map.mp hmem
      exact h4 t' ht' (by rw [he]; exact List.mem_cons_self)
    · intro t' ht'
      rcases List.mem_cons.mp ht' with rfl | ht'
      · exact hseen
      · exact fun hm => h4 t' ht' (List.mem_cons_of_mem _ hm)
    · rw [List.map_cons, List.sum_cons]; omega

theorem txLoop_decides (p : ChainParams) : ∀ (txs : List Tx) (i : Nat) (seen : List Bytes) (sig : Nat),
    (∀ t ∈ txs, TxRange t) → sig ≤ maxBlockSigops → Decides (txLoop p txs i seen sig) (LoopOk p txs i seen sig)
  | [], i, seen, sig, _, hsig =>
    .of_true ⟨by intro k t h; simp at h, by simp, by simp, by simp, by simpa using hsig⟩
  | t :: rest, i, seen, sig, hr, hsig => by
    have hrt := hr t List.mem_cons_self
    rw [loopOk_cons]
    unfold txLoop
    refine .guardV (fun hV hcb => ?_) fun hcb => ?_
    · simp only [Bool.and_eq_true, decide_eq_true_eq] at hcb
      rw [hV.1 hcb.1] at hcb
      exact absurd hcb.2 (by simp)
    rcases (checkTx_decides p t hrt).cases with ⟨hvt, e⟩ | ⟨hvt, e⟩ <;> rw [e]
    swap
    · exact .of_false fun hV => hvt hV.2.1
    simp only [MerkleProofs.getTxid_ok t hrt, legacySigOpCount_eq]
    refine .guardV (fun hV hs => hV.2.2.1 hs) fun hseen => ?_
    refine .guardV (fun hV ho => ?_) fun hover => ?_
    · have := hV.2.2.2.2.2.2.2
      omega
    refine (txLoop_decides p rest (i + 1) _ _ (fun t' h' => hr t' (List.mem_cons_of_mem _ h')) (by omega)).congr
      ⟨fun h => ⟨fun hi => by simpa [hi] using hcb, hvt, hseen, h⟩, fun hV => hV.2.2.2⟩

theorem checkBlockHeader_decides (p : ChainParams) (hlim : p.powLimit < 2 ^ 256)
    (h : Header) (hh : Spec.Wire.WFHeader h)
    (fPoW : Bool) (now : Int) :
    Decides (checkBlockHeader p h fPoW now) (Spec.BlockCheck.ValidHeader p now fPoW h) := by
  have hpow := C17.pow_iff p.powLimit hlim (hash256 (Spec.Wire.header h)) (hash256_length _) h.nBits hh.2.2.2.2.2.1
  have htime : Decides (if (h.nTime : Int) > now + 2 * 60 * 60 then reject else .ok ()) ((h.nTime : Int) ≤ now + 7200) :=
    (Decides.guard fun _ => Decides.of_true trivial).congr
      ⟨fun ht => by have := ht.1; omega, fun hv => ⟨by omega, trivial⟩⟩
  unfold checkBlockHeader
  cases fPoW with
  | false => exact htime.congr ⟨fun ht => ⟨fun hf => (nomatch hf), ht⟩, fun hv => hv.2⟩
  | true =>
    simp only [if_true, serHeader_ok hh, checkPoW]
    cases hc : Model.checkPoW p.powLimit (hash256 (Spec.Wire.header h)) h.nBits with
    | ok => exact htime.congr ⟨fun ht => ⟨fun _ => hpow.mp hc, ht⟩, fun hv => hv.2⟩
    | errPow => exact .of_false (fun hv => by rw [hpow.mpr (hv.1 rfl)] at hc; cases hc)
    | pyStructError =>
      have h32 : 32 ≤ (hash256 (Spec.Wire.header h)).length := by rw [hash256_length]
      rcases C17.pow_reject_is_validation p.powLimit _ h32 h.nBits with h' | h' <;>
        simp [hc] at h'

theorem lastOf_ok_ne_nil {tree : List Bytes} {r : Bytes} (h : lastOf tree = .ok r) : tree.length ≠ 0 := by
  cases tree with
  | nil => simp [lastOf] at h
  | cons _ _ => simp

theorem loopOk_start (p : ChainParams) (cb : Tx) (rest : List Tx) :
    LoopOk p (cb :: rest) 0 [] 0 ↔
      (∀ t ∈ rest, ¬ Spec.BlockCheck.IsCoinbase t) ∧ (∀ t ∈ cb :: rest, Spec.BlockCheck.ValidTx p t) ∧
      ((cb :: rest).map Spec.Merkle.txid).Nodup ∧ ((cb :: rest).map Spec.BlockCheck.txSigOps).sum ≤ maxBlockSigops := by
  unfold LoopOk
  constructor
  · intro ⟨h1, h2, h3, _, h5⟩
    refine ⟨fun t ht => ?_, h2, h3, by omega⟩
    obtain ⟨k, hk⟩ := List.getElem?_of_mem ht
    exact (isCoinbase_false_iff t).mp (h1 (k + 1) t (by simpa using hk) (by omega))
  · intro ⟨h1, h2, h3, h5⟩
    refine ⟨fun k t hk hpos => ?_, h2, h3, fun _ _ h => (nomatch h), by omega⟩
    cases k with
    | zero => omega
    | succ k' =>
      exact (isCoinbase_false_iff t).mpr (h1 t (List.mem_of_getElem? (by simpa using hk)))

theorem checkBlock_decides (p : ChainParams) (hlim : p.powLimit < 2 ^ 256)
    (b : Block) (hb : BlockRange b)
    (fPoW fMerkle : Bool) (now : Int) :
    Decides (checkBlock p b fPoW fMerkle now) (Spec.BlockCheck.ValidBlock p now fPoW fMerkle b) := by
  have hwfh := hb.1
  unfold checkBlock checkBlockWith
  have hgh : getHeader b.hdr = .ok b.hdr := by simp [getHeader, hwfh.2.2.1, hwfh.2.2.2.1]
  rw [hgh]; dsimp only
  rcases (checkBlockHeader_decides p hlim b.hdr hwfh fPoW now).cases with ⟨hhdr, e⟩ | ⟨hhdr, e⟩ <;> rw [e]
  swap
  · exact .of_false fun hv => hhdr ⟨hv.1, hv.2.1⟩
  refine .guardV (fun hv h0 => hv.2.2.1 (List.eq_nil_of_length_eq_zero h0)) fun hlen => ?_
  rw [serBlock_noWitness_ok hb]
  refine .guardV (fun hv hsz => Nat.not_lt.2 hv.2.2.2.1 hsz) fun hsz => ?_
  rw [MerkleProofs.getWeight_ok b hb]
  refine .guardV (fun hv hwt => Nat.not_lt.2 hv.2.2.2.2.1 hwt) fun hwt => ?_
  obtain ⟨cb, rest, hvtx⟩ : ∃ cb rest, b.vtx = cb :: rest := by
    cases hq : b.vtx with
    | nil => exact absurd (by simp [hq]) hlen
    | cons cb rest => exact ⟨cb, rest, rfl⟩
  have hrt : ∀ t ∈ cb :: rest, TxRange t := hvtx ▸ hb.2.2
  simp only [hvtx, List.getElem?_cons_zero]
  refine .guardV (fun hv hc => ?_) fun hcb => ?_
  · have := hv.2.2.2.2.2.1
    rw [hvtx] at this
    rw [(isCoinbase_iff cb).mpr this.1] at hc
    cases hc
  have hcb' : Spec.BlockCheck.IsCoinbase cb := (isCoinbase_iff cb).mp (by simpa using hcb)
  rcases (txLoop_decides p (cb :: rest) 0 [] 0 hrt (Nat.zero_le _)).cases with ⟨hloop, e⟩ | ⟨hloop, e⟩ <;> rw [e]
  swap
  · refine .of_false fun hv => hloop ((loopOk_start p cb rest).mpr ?_)
    obtain ⟨_, _, _, _, _, h6, h7, h8, h9, _⟩ := hv
    rw [hvtx] at h6 h7 h8 h9
    exact ⟨h6.2, h7, h8, h9⟩
  obtain ⟨l1, l2, l3, l5⟩ := (loopOk_start p cb rest).mp hloop
  -- everything but the merkle-root / commitment rule
  have hbase : Spec.BlockCheck.ValidBlock p now fPoW fMerkle b ↔
      (fMerkle = true → Spec.Merkle.merkleRoot b.vtx = some b.hdr.hashMerkleRoot ∧
        ((∃ t ∈ b.vtx, t.hasWitness = true) → Spec.BlockCheck.CommitmentOk b.vtx)) :=
    ⟨fun hv => hv.2.2.2.2.2.2.2.2.2, fun h10 => ⟨hhdr.1, hhdr.2, fun h0 => hlen (by simp [h0]),
      Nat.not_lt.1 hsz, Nat.not_lt.1 hwt, hvtx ▸ ⟨hcb', l1⟩, hvtx ▸ l2, hvtx ▸ l3, hvtx ▸ l5, h10⟩⟩
  refine Decides.congr ?_ hbase.symm
  cases fMerkle with
  | false => exact .of_true (fun h => nomatch h)
  | true =>
    simp only [if_true, true_imp_iff, hvtx]
    obtain ⟨_, r, _, _, hcm, hsm⟩ := MerkleProofs.calcMerkleRoot_spec (cb :: rest) (by simp) hrt
    rw [hcm, hsm]
    refine .guardV (fun hv hroot => hroot (Option.some.inj hv.1).symm) fun hroot => ?_
    have hroot' : some r = some b.hdr.hashMerkleRoot := by rw [Decidable.not_not.1 hroot]
    obtain ⟨hnone, hsome⟩ := MerkleProofs.buildWitnessTree_spec (cb :: rest) hrt
    cases hany : (cb :: rest).any (·.hasWitness) with
    | false =>
      rw [hnone hany]
      refine .of_true ⟨hroot', ?_⟩
      rintro ⟨t, ht, hw⟩
      have := List.any_eq_false.mp hany t ht
      simp [hw] at this
    | true =>
      obtain ⟨tree, wr, hbt, hlast, hwr⟩ := hsome hany
      rw [hbt]
      simp only [Option.getD_some, ne_eq, lastOf_ok_ne_nil hlast, not_false_eq_true, if_true]
      exact (checkCommitment_decides cb rest tree wr hlast hwr).congr
        ⟨fun hc => ⟨hroot', fun _ => hc⟩, fun hv => hv.2 (List.any_eq_true.mp hany)⟩

end BtcVerif.BlockCheckProofs

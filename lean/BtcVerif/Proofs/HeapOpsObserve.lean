/-
  C09: `Sim`, the statement form of every `sim_*` lemma; simulation of the observing operations (`serialize`, `GetHash`, `GetTxid`, `hash()`, `==`), of `del`,
  and the skeleton shared by the operations defined on a transaction root only.
-/
import BtcVerif.Proofs.HeapRel

namespace BtcVerif.Model.Heap
open BtcVerif BtcVerif.Spec.ValueSem

/-- one step of the heap model is matched by one step of the value store -/
def Sim (s : St) (sp : Store) (op : Op) : Prop :=
  Inv (step s op).1 ∧ Rel (step s op).1 (Spec.ValueSem.step sp op).1 ∧
    (step s op).2 = (Spec.ValueSem.step sp op).2

theorem TInfo.isSeq_eq {s : St} {sp : Store} {tg : Target} {x : Addr} (I : TInfo s sp tg x) :
    I.o.sc.isSeq = I.vx.isSeq := by
  rw [← I.hosc]; exact (decode_alwaysImm I.hdx).2.symm

theorem sim_observe {s : St} {sp : Store} (hinv : Inv s) (hrel : Rel s sp) (tg : Target)
    (fm : Addr → Obj → Val → St × Out) (fs : Val → Out)
    (hf : ∀ (x : Addr) (I : TInfo s sp tg x), I.vx.isSeq = false →
      Inv (fm x I.o I.vx).1 ∧ Rel (fm x I.o I.vx).1 (Spec.ValueSem.bind sp none) ∧ (fm x I.o I.vx).2 = fs I.vx) :
    Inv (observeAt s tg fm).1 ∧ Rel (observeAt s tg fm).1 (observe sp tg fs).1 ∧
      (observeAt s tg fm).2 = (observe sp tg fs).2 := by
  simp only [observeAt, observe]
  cases ht : s.target tg with
  | none =>
    rw [target_none hinv hrel ht]
    exact ⟨inv_skip hinv, rel_skip hrel, rfl⟩
  | some x =>
    obtain ⟨I⟩ := target_some hinv hrel ht
    simp only [I.ho, I.habs, I.hlook, I.isSeq_eq]
    cases hseq : I.vx.isSeq with
    | true => exact ⟨inv_skip hinv, rel_skip hrel, by simp⟩
    | false =>
      have := hf x I hseq
      simpa using this

theorem sim_ser {s : St} {sp : Store} (hinv : Inv s) (hrel : Rel s sp) (tg : Target) :
    Sim s sp (.ser tg) := by
  simp only [Sim, step, Spec.ValueSem.step]
  exact sim_observe hinv hrel tg _ _ (fun x I _ => ⟨inv_skip hinv, rel_skip hrel, rfl⟩)

theorem sim_txid {s : St} {sp : Store} (hinv : Inv s) (hrel : Rel s sp) (tg : Target) :
    Sim s sp (.txid tg) := by
  simp only [Sim, step, Spec.ValueSem.step]
  apply sim_observe hinv hrel tg
  intro x I _
  cases I.vx <;> exact ⟨inv_skip hinv, rel_skip hrel, rfl⟩

theorem sim_getHash {s : St} {sp : Store} (hinv : Inv s) (hrel : Rel s sp) (tg : Target) :
    Sim s sp (.getHash tg) := by
  simp only [Sim, step, Spec.ValueSem.step]
  apply sim_observe hinv hrel tg
  intro x I _
  obtain ⟨h', e, hh⟩ := memoAt_spec (get := (·.cHash)) (set := fun o c => { o with cHash := some c })
    (f := identOf) I.ho I.habs (fun hm c hcc => by
      obtain ⟨v, hv, hi⟩ := (hinv.cacheOK x I.o I.ho hm).1 c hcc; rw [I.habs] at hv; cases hv; exact hi)
  rw [getHashAt_eq_memoAt, e]
  rcases hh with rfl | ⟨c, hm, hid, rfl⟩
  · exact ⟨inv_skip hinv, rel_skip hrel, rfl⟩
  · refine ⟨inv_set_same hinv I.ho rfl rfl rfl (fun _ => ⟨fun c' hc' => ?_, (hinv.cacheOK x I.o I.ho hm).2⟩),
      rel_set_same hrel I.ho rfl rfl rfl, rfl⟩
    obtain rfl := Option.some.inj hc'
    exact ⟨I.vx, I.habs, hid⟩

theorem sim_pyHash {s : St} {sp : Store} (hinv : Inv s) (hrel : Rel s sp) (tg : Target) :
    Sim s sp (.pyHash tg) := by
  simp only [Sim, step, Spec.ValueSem.step]
  apply sim_observe hinv hrel tg
  intro x I _
  obtain ⟨h', e, hh⟩ := memoAt_spec (get := (·.cPy)) (set := fun o c => { o with cPy := some c })
    (f := pyHashOf) I.ho I.habs (fun hm c hcc => by
      obtain ⟨v, hv, hi⟩ := (hinv.cacheOK x I.o I.ho hm).2 c hcc; rw [I.habs] at hv; cases hv; exact hi)
  rw [pyHashAt_eq_memoAt, e]
  rcases hh with rfl | ⟨c, hm, hid, rfl⟩
  · exact ⟨inv_skip hinv, rel_skip hrel, rfl⟩
  · refine ⟨inv_set_same hinv I.ho rfl rfl rfl (fun _ => ⟨(hinv.cacheOK x I.o I.ho hm).1, fun c' hc' => ?_⟩),
      rel_set_same hrel I.ho rfl rfl rfl, rfl⟩
    obtain rfl := Option.some.inj hc'
    exact ⟨I.vx, I.habs, hid⟩

theorem sim_delAttr {s : St} {sp : Store} (hinv : Inv s) (hrel : Rel s sp) (tg : Target) :
    Sim s sp (.delAttr tg) := by
  simp only [Sim, step, Spec.ValueSem.step]
  cases ht : s.target tg with
  | none =>
    rw [target_none hinv hrel ht]
    exact ⟨inv_skip hinv, rel_skip hrel, rfl⟩
  | some x =>
    obtain ⟨I⟩ := target_some hinv hrel ht
    simp only [I.ho, I.hlook, I.isSeq_eq, I.hom]
    cases I.vx.isSeq <;> cases I.o.isMut <;> exact ⟨inv_skip hinv, rel_skip hrel, rfl⟩

theorem sim_eq {s : St} {sp : Store} (hinv : Inv s) (hrel : Rel s sp) (ta tb : Target) :
    Sim s sp (.eq ta tb) := by
  simp only [Sim, step, Spec.ValueSem.step]
  cases ha : s.target ta with
  | none =>
    rw [target_none hinv hrel ha]
    exact ⟨inv_skip hinv, rel_skip hrel, rfl⟩
  | some x =>
    obtain ⟨I⟩ := target_some hinv hrel ha
    cases hb : s.target tb with
    | none =>
      rw [target_none hinv hrel hb, I.hlook]
      exact ⟨inv_skip hinv, rel_skip hrel, rfl⟩
    | some y =>
      obtain ⟨J⟩ := target_some hinv hrel hb
      simp only [I.ho, I.habs, I.hlook, J.ho, J.habs, J.hlook, I.isSeq_eq, J.isSeq_eq, I.hom, J.hom]
      cases (I.vx.isSeq || J.vx.isSeq) <;> exact ⟨inv_skip hinv, rel_skip hrel, rfl⟩

theorem sim_onTx {s : St} {sp : Store} (hinv : Inv s) (hrel : Rel s sp) (r : Nat) (K : Addr → St × Out)
    (hK : ∀ a tv, absVal s.heap a = some (.tx tv) →
      Inv (K a).1 ∧ Rel (K a).1 (Spec.ValueSem.bind sp none) ∧ (K a).2 = .done) :
    let m : St × Out :=
      match s.root r with
      | none => (s.skip, .badRef)
      | some a =>
        match absVal s.heap a with
        | some (.tx _) => K a
        | some _ => (s.skip, .na)
        | none => (s.skip, .badRef)
    let q : Store × Out :=
      match lookupTx sp r with
      | none => (Spec.ValueSem.bind sp none, if (sp[r]?).join.isSome then .na else .badRef)
      | some _ => (Spec.ValueSem.bind sp none, .done)
    Inv m.1 ∧ Rel m.1 q.1 ∧ m.2 = q.2 := by
  simp only [lookupTx]
  rcases root_tx_sim hinv hrel r with ⟨h1, h2⟩ | ⟨a, e, t, h1, h2, _, _, _, _, habs⟩
  · simp only [h1, h2]
    exact ⟨inv_skip hinv, rel_skip hrel, rfl⟩
  · simp only [h1, h2, habs]
    cases hval : e.val with
    | tx tv => exact hK a tv (hval ▸ habs)
    | _ => exact ⟨inv_skip hinv, rel_skip hrel, rfl⟩

theorem sim_sighashW {s : St} {sp : Store} (hinv : Inv s) (hrel : Rel s sp) (r i ht : Nat) :
    Sim s sp (.sighashW r i ht) :=
  sim_onTx hinv hrel r (fun _ => (s.skip, .done)) fun _ _ _ => ⟨inv_skip hinv, rel_skip hrel, rfl⟩

end BtcVerif.Model.Heap

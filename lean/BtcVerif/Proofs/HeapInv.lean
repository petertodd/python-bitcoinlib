/-
  C09: `resolve` follows `sub`; occurrences over the named roots (`total`); the memoised identifiers
  (`memoAt`); the invariant `Inv`, its clauses on classes and caches under extension, cache fill and
  overwrite, and the steps that change no heap, extend it, or fill a cache.
-/
import BtcVerif.Proofs.HeapVal

namespace BtcVerif.Model.Heap
open BtcVerif BtcVerif.Spec.ValueSem

theorem resolve_sub {h : Heap} : ∀ {p : List Nat} {f : Nat} {a : Addr} {t : ATree},
    unfoldA f h a = some t → resolve h a p = (sub t p).map ATree.addr
  | [], f, a, t, hu => by
    cases f with
    | zero => simp [unfoldA] at hu
    | succ f =>
      obtain ⟨o, kids, ho, _, rfl⟩ := unfoldA_succ hu
      simp [resolve, sub, ATree.addr, (List.getElem?_eq_some_iff.mp ho).1]
  | i :: p, 0, a, t, hu => by simp [unfoldA] at hu
  | i :: p, f + 1, a, t, hu => by
    obtain ⟨o, kids, ho, hk, rfl⟩ := unfoldA_succ hu
    simp only [resolve, ho, sub, Option.bind_eq_bind, Option.bind_some]
    cases hc : o.refs[i]? with
    | none =>
      have : kids[i]? = none := by
        have := mapO_length hk
        rw [List.getElem?_eq_none_iff] at hc ⊢; omega
      simp [this]
    | some c =>
      obtain ⟨k, hki, huc⟩ := mapO_getElem hk i c hc
      simp only [Option.bind_some, hki]
      exact resolve_sub huc

/-! ### counting -/

mutual
theorem cnt_zero_of_not_mem (y : Addr) : ∀ (t : ATree), y ∉ addrs t → cnt y t = 0
  | .node a m sc kids, h => by
    simp only [addrs, List.mem_cons, not_or] at h
    simp only [cnt]
    have := cntL_zero_of_not_mem y kids h.2
    have hay : a ≠ y := fun e => h.1 e.symm
    cases m <;> simp [this, hay]
theorem cntL_zero_of_not_mem (y : Addr) : ∀ (ts : List ATree), y ∉ addrsL ts → cntL y ts = 0
  | [], _ => rfl
  | t :: ts, h => by
    simp only [addrsL, List.mem_append, not_or] at h
    simp [cntL, cnt_zero_of_not_mem y t h.1, cntL_zero_of_not_mem y ts h.2]
end

def cntAt (h : Heap) (y : Addr) (a : Addr) : Nat :=
  match unfoldA D h a with
  | some t => cnt y t
  | none => 0

def nameCnt (h : Heap) (y : Addr) : Option Addr → Nat
  | some a => cntAt h y a
  | none => 0

/-- occurrences of `y` in the mutable parts of all named roots -/
def total (h : Heap) (names : List (Option Addr)) (y : Addr) : Nat := (names.map (nameCnt h y)).sum

theorem total_append (h : Heap) (n1 n2 : List (Option Addr)) (y : Addr) :
    total h (n1 ++ n2) y = total h n1 y + total h n2 y := by
  simp [total, List.sum_append]

theorem total_congr {h h' : Heap} {y : Addr} : ∀ {names : List (Option Addr)},
    (∀ a, some a ∈ names → cntAt h' y a = cntAt h y a) → total h' names y = total h names y
  | names, hc => by
    unfold total
    congr 1
    apply List.map_congr_left
    intro n hn
    cases n with
    | none => rfl
    | some a => exact hc a hn

theorem nameCnt_le_total {h : Heap} {y : Addr} : ∀ {names : List (Option Addr)} {r : Nat} {n : Option Addr},
    names[r]? = some n → nameCnt h y n ≤ total h names y
  | [], r, n, hr => by simp at hr
  | n0 :: ns, 0, n, hr => by simp at hr; subst hr; simp [total]
  | n0 :: ns, r + 1, n, hr => by
    simp at hr
    have := nameCnt_le_total (h := h) (y := y) hr
    simp only [total, List.map_cons, List.sum_cons] at this ⊢
    omega

theorem total_two {h : Heap} {y : Addr} : ∀ {names : List (Option Addr)} {r r' : Nat} {n n' : Option Addr},
    r ≠ r' → names[r]? = some n → names[r']? = some n' → nameCnt h y n + nameCnt h y n' ≤ total h names y
  | [], r, _, _, _, _, hr, _ => by simp at hr
  | n0 :: ns, 0, 0, _, _, hrr, _, _ => by simp at hrr
  | n0 :: ns, 0, r' + 1, n, n', _, hr, hr' => by
    simp at hr hr'; subst hr
    have := nameCnt_le_total (h := h) (y := y) hr'
    simp only [total, List.map_cons, List.sum_cons] at this ⊢; omega
  | n0 :: ns, r + 1, 0, n, n', _, hr, hr' => by
    simp at hr hr'; subst hr'
    have := nameCnt_le_total (h := h) (y := y) hr
    simp only [total, List.map_cons, List.sum_cons] at this ⊢; omega
  | n0 :: ns, r + 1, r' + 1, n, n', hrr, hr, hr' => by
    simp at hr hr'
    have := total_two (h := h) (y := y) (by omega : r ≠ r') hr hr'
    simp only [total, List.map_cons, List.sum_cons] at this ⊢; omega

theorem total_update {h h' : Heap} {y : Addr} : ∀ {names : List (Option Addr)} {r : Nat} {n : Option Addr},
    names[r]? = some n →
    (∀ (r' : Nat) (n' : Option Addr), r' ≠ r → names[r']? = some n' → nameCnt h' y n' = nameCnt h y n') →
    total h' names y + nameCnt h y n = total h names y + nameCnt h' y n
  | [], r, n, hr, _ => by simp at hr
  | n0 :: ns, 0, n, hr, ho => by
    simp at hr; subst hr
    have : total h' ns y = total h ns y := by
      simp only [total]
      congr 1
      apply List.map_congr_left
      intro n' hn'
      obtain ⟨j, hj, rfl⟩ := List.getElem_of_mem hn'
      exact ho (j + 1) ns[j] (by omega) (by simp [hj])
    simp only [total, List.map_cons, List.sum_cons] at this ⊢; omega
  | n0 :: ns, r + 1, n, hr, ho => by
    simp at hr
    have h0 := ho 0 n0 (by omega) (by simp)
    have := total_update (h := h) (h' := h') (y := y) hr
      (fun r' n' hr' hn' => ho (r' + 1) n' (by omega) (by simpa using hn'))
    simp only [total, List.map_cons, List.sum_cons] at this ⊢; omega

/-! ### the invariant -/

/-- every filled cache slot of an immutable object holds the identifier recomputed from the
    current serialisation -/
def CacheOK (h : Heap) : Prop :=
  ∀ (a : Addr) (o : Obj), h[a]? = some o → o.isMut = false →
    (∀ c, o.cHash = some c → ∃ v, absVal h a = some v ∧ identOf v = .ok c) ∧
    (∀ c, o.cPy = some c → ∃ v, absVal h a = some v ∧ pyHashOf v = .ok c)

/-! ### the two memoised identifiers

  `GetHash()` and `hash()` are one program over different cache slots (serialize.py:138-153). -/

def memoAt (get : Obj → Option Bytes) (set : Obj → Bytes → Obj) (f : Val → BtcVerif.Res Bytes) (h : Heap)
    (x : Addr) : Option (Heap × BtcVerif.Res Bytes) := do
  let o ← h[x]?
  let v ← absVal h x
  if o.isMut then pure (h, f v)
  else match get o with
    | some c => pure (h, .ok c)
    | none =>
      match f v with
      | .ok c => pure (h.set x (set o c), .ok c)
      | .error e => pure (h, .error e)

theorem getHashAt_eq_memoAt :
    getHashAt = memoAt (·.cHash) (fun o c => { o with cHash := some c }) identOf := rfl

theorem pyHashAt_eq_memoAt :
    pyHashAt = memoAt (·.cPy) (fun o c => { o with cPy := some c }) pyHashOf := rfl

theorem memoAt_spec {get : Obj → Option Bytes} {set : Obj → Bytes → Obj} {f : Val → BtcVerif.Res Bytes}
    {h : Heap} {x : Addr} {o : Obj} {v : Val} (ho : h[x]? = some o) (hv : absVal h x = some v)
    (hc : o.isMut = false → ∀ c, get o = some c → f v = .ok c) :
    ∃ h', memoAt get set f h x = some (h', f v) ∧
      (h' = h ∨ ∃ c, o.isMut = false ∧ f v = .ok c ∧ h' = h.set x (set o c)) := by
  simp only [memoAt, ho, hv, Option.bind_eq_bind, Option.bind_some]
  cases hm : o.isMut with
  | true => exact ⟨h, rfl, Or.inl rfl⟩
  | false =>
    simp only [Bool.false_eq_true, if_false]
    cases hg : get o with
    | some c => rw [hc hm c hg]; exact ⟨h, rfl, Or.inl rfl⟩
    | none =>
      cases hf : f v with
      | ok c => exact ⟨_, rfl, Or.inr ⟨c, trivial, rfl, rfl⟩⟩
      | error e => exact ⟨h, rfl, Or.inl rfl⟩

theorem memoAt_cases {get : Obj → Option Bytes} {set : Obj → Bytes → Obj} {f : Val → BtcVerif.Res Bytes}
    {h h' : Heap} {x : Addr} {r : BtcVerif.Res Bytes} (hg : memoAt get set f h x = some (h', r)) :
    h' = h ∨ ∃ (o : Obj) (c : Bytes) (v : Val), h[x]? = some o ∧ o.isMut = false ∧ absVal h x = some v ∧
      f v = .ok c ∧ h' = h.set x (set o c) := by
  simp only [memoAt, Option.bind_eq_bind] at hg
  cases ho : h[x]? with
  | none => simp [ho] at hg
  | some o =>
    cases hv : absVal h x with
    | none => simp [ho, hv] at hg
    | some v =>
      simp only [ho, hv, Option.bind_some] at hg
      cases hm : o.isMut with
      | true =>
        simp only [hm, if_true, pure, Option.some.injEq, Prod.mk.injEq] at hg
        exact Or.inl hg.1.symm
      | false =>
        simp only [hm, Bool.false_eq_true, if_false] at hg
        cases hc : get o with
        | some c =>
          simp only [hc, pure, Option.some.injEq, Prod.mk.injEq] at hg
          exact Or.inl hg.1.symm
        | none =>
          simp only [hc] at hg
          cases hid : f v with
          | error err =>
            simp only [hid, pure, Option.some.injEq, Prod.mk.injEq] at hg
            exact Or.inl hg.1.symm
          | ok c =>
            simp only [hid, pure, Option.some.injEq, Prod.mk.injEq] at hg
            exact Or.inr ⟨o, c, v, rfl, hm, rfl, hid, hg.1.symm⟩

theorem absVal_obj {h : Heap} {a : Addr} {v : Val} (hv : absVal h a = some v) : ∃ o : Obj, h[a]? = some o := by
  simp only [absVal] at hv
  cases hu : unfoldA D h a with
  | none => simp [hu] at hv
  | some t => obtain ⟨o, ho, _⟩ := unfoldA_obj hu; exact ⟨o, ho⟩

theorem getHashAt_ident {h : Heap} (hc : CacheOK h) {a : Addr} {v : Val} (hv : absVal h a = some v) :
    ∃ h', getHashAt h a = some (h', identOf v) := by
  obtain ⟨o, ho⟩ := absVal_obj hv
  obtain ⟨h', e, _⟩ := memoAt_spec (get := (·.cHash)) (set := fun o c => { o with cHash := some c }) (f := identOf)
    ho hv (fun hm c hcc => by obtain ⟨v', hv', hi⟩ := (hc a o ho hm).1 c hcc; rw [hv] at hv'; cases hv'; exact hi)
  rw [getHashAt_eq_memoAt]
  exact ⟨h', e⟩

theorem pyHashAt_hash {h : Heap} (hc : CacheOK h) {a : Addr} {v : Val} (hv : absVal h a = some v) :
    ∃ h', pyHashAt h a = some (h', pyHashOf v) := by
  obtain ⟨o, ho⟩ := absVal_obj hv
  obtain ⟨h', e, _⟩ := memoAt_spec (get := (·.cPy)) (set := fun o c => { o with cPy := some c }) (f := pyHashOf)
    ho hv (fun hm c hcc => by obtain ⟨v', hv', hi⟩ := (hc a o ho hm).2 c hcc; rw [hv] at hv'; cases hv'; exact hi)
  rw [pyHashAt_eq_memoAt]
  exact ⟨h', e⟩

/-- no mutable object is reachable from two named roots (nor twice from one) -/
def Sep (s : St) : Prop := ∀ y, total s.heap s.names y ≤ 1

/-- a named root unfolds to a well-typed object graph whose mutability flags are the ones the
    value level predicts -/
def RootOK (h : Heap) (a : Addr) : Prop :=
  ∃ t v, unfoldA D h a = some t ∧ decode t = some v ∧ flagsOK t.isMut t

/-- the shared default objects (`()` and the default argument `CTxWitness()`) are where the
    constructors expect them -/
def DefaultsOK (h : Heap) : Prop :=
  ∃ o0 o1 : Obj, h[emptyTuple]? = some o0 ∧ o0.isMut = false ∧ o0.sc = .seq .stacks ∧ o0.refs = [] ∧
    h[defaultWit]? = some o1 ∧ o1.isMut = false ∧ o1.sc = .wit ∧ o1.refs = [emptyTuple]

theorem defaults_ext {h : Heap} (e : Heap) (hd : DefaultsOK h) : DefaultsOK (h ++ e) := by
  obtain ⟨o0, o1, h0, a1, a2, a3, h1, b1, b2, b3⟩ := hd
  exact ⟨o0, o1, getElem?_append_of_some e h0, a1, a2, a3, getElem?_append_of_some e h1, b1, b2, b3⟩

theorem defaults_set {h : Heap} {x : Addr} {o' : Obj} (hd : DefaultsOK h)
    (hk : ∀ o : Obj, h[x]? = some o → o.isMut = false → o'.isMut = false ∧ o'.sc = o.sc ∧ o'.refs = o.refs) :
    DefaultsOK (h.set x o') := by
  obtain ⟨o0, o1, h0, a1, a2, a3, h1, b1, b2, b3⟩ := hd
  have key : ∀ (c : Addr) (oc : Obj), h[c]? = some oc → oc.isMut = false →
      ∃ oc' : Obj, (h.set x o')[c]? = some oc' ∧ oc'.isMut = false ∧ oc'.sc = oc.sc ∧ oc'.refs = oc.refs := by
    intro c oc hoc hm
    by_cases hcx : c = x
    · subst hcx
      obtain ⟨k1, k2, k3⟩ := hk oc hoc hm
      exact ⟨o', by simp [List.getElem?_set_self (List.getElem?_eq_some_iff.mp hoc).1], k1, k2, k3⟩
    · exact ⟨oc, by rw [List.getElem?_set_ne (fun e => hcx e.symm)]; exact hoc, hm, rfl, rfl⟩
  obtain ⟨p0, q0, q1, q2, q3⟩ := key _ o0 h0 a1
  obtain ⟨p1, r0, r1, r2, r3⟩ := key _ o1 h1 b1
  exact ⟨p0, p1, q0, q1, by rw [q2, a2], by rw [q3, a3], r0, r1, by rw [r2, b2], by rw [r3, b3]⟩

structure Inv (s : St) : Prop where
  immClosed : ImmClosed s.heap
  kindOK : KindOK s.heap
  cacheOK : CacheOK s.heap
  sep : Sep s
  roots : ∀ r a, s.root r = some a → RootOK s.heap a
  defaults : DefaultsOK s.heap

theorem Inv.mk' {h : Heap} {names : List (Option Addr)} (h1 : ImmClosed h) (h2 : KindOK h) (h3 : CacheOK h)
    (h4 : ∀ y, total h names y ≤ 1) (h5 : ∀ (r : Nat) (a : Addr), (names[r]?).join = some a → RootOK h a)
    (h6 : DefaultsOK h) : Inv ⟨h, names⟩ := ⟨h1, h2, h3, h4, h5, h6⟩

theorem join_append_one {names : List (Option Addr)} {n : Option Addr} {r : Nat} {a : Addr}
    (h : ((names ++ [n])[r]?).join = some a) :
    (names[r]?).join = some a ∨ (r = names.length ∧ n = some a) := by
  by_cases h1 : r < names.length
  · left; rwa [List.getElem?_append_left h1] at h
  · right
    by_cases h2 : r = names.length
    · subst h2; simp at h; exact ⟨rfl, h⟩
    · have : (names ++ [n])[r]? = none := by
        apply List.getElem?_eq_none_iff.mpr; simp; omega
      simp [this] at h

theorem total_snoc (h : Heap) (names : List (Option Addr)) (n : Option Addr) (y : Addr) :
    total h (names ++ [n]) y = total h names y + nameCnt h y n := by
  rw [total_append]; simp [total]

theorem root_bind (s : St) (h : Heap) (n : Option Addr) (r : Nat) :
    (s.bind h n).root r = if r < s.names.length then s.root r else if r = s.names.length then n else none := by
  simp only [St.root, St.bind]
  by_cases h1 : r < s.names.length
  · simp [h1, List.getElem?_append_left h1]
  · by_cases h2 : r = s.names.length
    · subst h2; simp
    · have : ¬ r < (s.names ++ [n]).length := by simp; omega
      simp [h1, h2, List.getElem?_eq_none_iff.mpr (Nat.not_lt.mp this)]

theorem root_lt {s : St} {r : Nat} {a : Addr} (h : s.root r = some a) : r < s.names.length := by
  simp only [St.root] at h
  cases hr : s.names[r]? with
  | none => simp [hr] at h
  | some n => exact (List.getElem?_eq_some_iff.mp hr).1

theorem root_mem {s : St} {r : Nat} {a : Addr} (h : s.root r = some a) : s.names[r]? = some (some a) := by
  simp only [St.root] at h
  cases hr : s.names[r]? with
  | none => simp [hr] at h
  | some n => simp [hr] at h; rw [h]

theorem mem_root {s : St} {a : Addr} (h : some a ∈ s.names) : ∃ r, s.root r = some a := by
  obtain ⟨r, hr, he⟩ := List.getElem_of_mem h
  exact ⟨r, by simp [St.root, List.getElem?_eq_getElem hr, he]⟩

theorem absVal_of_unfold {h h' : Heap} {a : Addr} {v : Val}
    (hu : ∀ t, unfoldA D h a = some t → unfoldA D h' a = some t) (hv : absVal h a = some v) :
    absVal h' a = some v := by
  simp only [absVal] at hv ⊢
  cases hu' : unfoldA D h a with
  | none => simp [hu'] at hv
  | some t => rw [hu t hu']; simpa [hu'] using hv

theorem absVal_ext {h : Heap} (e : Heap) {a : Addr} {v : Val} (hv : absVal h a = some v) :
    absVal (h ++ e) a = some v :=
  absVal_of_unfold (fun _ hu => unfoldA_ext e hu) hv

/-! ### the clauses on classes and caches under extension, cache fill and overwrite of a mutable object -/

theorem cacheOK_of_keep {h h' : Heap} (hc : CacheOK h)
    (hobj : ∀ a o', h'[a]? = some o' → o'.isMut = false →
      (∃ o : Obj, h[a]? = some o ∧ o.isMut = false ∧ o'.cHash = o.cHash ∧ o'.cPy = o.cPy ∧
        ∀ v, absVal h a = some v → absVal h' a = some v) ∨
      ((∀ c, o'.cHash = some c → ∃ v, absVal h' a = some v ∧ identOf v = .ok c) ∧
       (∀ c, o'.cPy = some c → ∃ v, absVal h' a = some v ∧ pyHashOf v = .ok c))) : CacheOK h' := by
  intro a o' ho' hm
  rcases hobj a o' ho' hm with ⟨o, ho, hmo, e1, e2, keep⟩ | hnew
  · obtain ⟨c1, c2⟩ := hc a o ho hmo
    constructor
    · intro c hcc; obtain ⟨v, hv, hi⟩ := c1 c (e1 ▸ hcc); exact ⟨v, keep v hv, hi⟩
    · intro c hcc; obtain ⟨v, hv, hi⟩ := c2 c (e2 ▸ hcc); exact ⟨v, keep v hv, hi⟩
  · exact hnew

theorem cacheOK_ext {h e : Heap} (hc : CacheOK h) (hnew : ∀ o ∈ e, o.cHash = none ∧ o.cPy = none) :
    CacheOK (h ++ e) :=
  cacheOK_of_keep hc fun a o ho hm => by
    rcases getElem?_append_cases ho with h1 | ⟨_, h1⟩
    · exact Or.inl ⟨o, h1, hm, rfl, rfl, fun v hv => absVal_ext e hv⟩
    · obtain ⟨c1, c2⟩ := hnew o h1
      exact Or.inr ⟨fun c hc => (by rw [c1] at hc; cases hc), fun c hc => (by rw [c2] at hc; cases hc)⟩

theorem kindOK_ext {h e : Heap} (hk : KindOK h) (hnew : ∀ o ∈ e, o.sc.alwaysImm = true → o.isMut = false) :
    KindOK (h ++ e) := by
  intro a o ho hai
  rcases getElem?_append_cases ho with h1 | ⟨_, h1⟩
  · exact hk a o h1 hai
  · exact hnew o h1 hai

theorem getElem?_set_cases {α : Type} {l : List α} {x a : Nat} {y z : α} (h : (l.set x y)[a]? = some z) :
    (a = x ∧ z = y) ∨ (a ≠ x ∧ l[a]? = some z) := by
  by_cases hax : a = x
  · subst hax
    have hlt : a < l.length := by simpa using (List.getElem?_eq_some_iff.mp h).1
    rw [List.getElem?_set_self hlt] at h
    exact Or.inl ⟨rfl, (Option.some.inj h).symm⟩
  · rw [List.getElem?_set_ne (fun e => hax e.symm)] at h
    exact Or.inr ⟨hax, h⟩

theorem kindOK_set {h : Heap} {x : Addr} {o o' : Obj} (hk : KindOK h) (hox : h[x]? = some o)
    (h1 : o'.isMut = o.isMut) (h2 : o'.sc.alwaysImm = o.sc.alwaysImm) : KindOK (h.set x o') := by
  intro a oa hoa hai
  rcases getElem?_set_cases hoa with ⟨_, rfl⟩ | ⟨_, h0⟩
  · rw [h1]; exact hk x o hox (h2 ▸ hai)
  · exact hk a oa h0 hai

theorem cntAt_ext {h : Heap} (e : Heap) {a : Addr} {y : Addr} (hr : RootOK h a) :
    cntAt (h ++ e) y a = cntAt h y a := by
  obtain ⟨t, _, hu, _⟩ := hr
  simp [cntAt, hu, unfoldA_ext e hu]

theorem rootOK_ext {h : Heap} (e : Heap) {a : Addr} (hr : RootOK h a) : RootOK (h ++ e) a := by
  obtain ⟨t, v, hu, hd, hf⟩ := hr
  exact ⟨t, v, unfoldA_ext e hu, hd, hf⟩

theorem cntAt_fresh {h : Heap} {a y : Addr} (hy : h.length ≤ y) : cntAt h y a = 0 := by
  simp only [cntAt]
  cases hu : unfoldA D h a with
  | none => rfl
  | some t =>
    apply cnt_zero_of_not_mem
    intro hm
    have hlt : y < h.length := addrs_lt hu y hm
    exact absurd hlt (Nat.not_lt.mpr hy)

theorem total_fresh {h : Heap} {y : Addr} (hy : h.length ≤ y) : ∀ (names : List (Option Addr)), total h names y = 0
  | [] => rfl
  | n :: ns => by
    have := total_fresh hy ns
    simp only [total, List.map_cons, List.sum_cons] at this ⊢
    cases n <;> simp [nameCnt, cntAt_fresh hy, this]

theorem inv_skip {s : St} (hinv : Inv s) : Inv s.skip := by
  apply Inv.mk' hinv.immClosed hinv.kindOK hinv.cacheOK
  · intro y
    rw [total_snoc]
    simpa [nameCnt] using hinv.sep y
  · intro r a hr
    rcases join_append_one hr with h1 | ⟨_, h1⟩
    · exact hinv.roots r a h1
    · cases h1
  · exact hinv.defaults

theorem inv_ext {s : St} (hinv : Inv s) {h' e : Heap} (he : h' = s.heap ++ e)
    (hnew : ∀ o ∈ e, o.cHash = none ∧ o.cPy = none ∧ (o.sc.alwaysImm = true → o.isMut = false))
    (hic : ImmClosed h') (n : Option Addr)
    (hn : ∀ a, n = some a → ∃ t v, unfoldA D h' a = some t ∧ decode t = some v ∧ flagsOK t.isMut t ∧
      ∀ y, cnt y t ≤ (if s.heap.length ≤ y then 1 else 0)) :
    Inv (s.bind h' n) := by
  subst he
  apply Inv.mk' hic (kindOK_ext hinv.kindOK fun o ho => (hnew o ho).2.2)
    (cacheOK_ext hinv.cacheOK fun o ho => ⟨(hnew o ho).1, (hnew o ho).2.1⟩)
  · intro y
    rw [total_snoc]
    have hold : total (s.heap ++ e) s.names y = total s.heap s.names y := by
      apply total_congr
      intro a ha
      obtain ⟨r, hr⟩ := mem_root ha
      exact cntAt_ext e (hinv.roots r a hr)
    rw [hold]
    have hsep := hinv.sep y
    cases n with
    | none => simpa [nameCnt] using hsep
    | some a =>
      obtain ⟨t, v, hu, _, _, hc⟩ := hn a rfl
      have hcy := hc y
      have hnc : nameCnt (s.heap ++ e) y (some a) = cnt y t := by simp [nameCnt, cntAt, hu]
      rw [hnc]
      by_cases hy : s.heap.length ≤ y
      · rw [total_fresh hy s.names]; rw [if_pos hy] at hcy; omega
      · rw [if_neg hy] at hcy; omega
  · intro r a hr
    rcases join_append_one hr with h1 | ⟨_, h1⟩
    · exact rootOK_ext e (hinv.roots r a h1)
    · obtain ⟨t, v, hu, hd, hf, _⟩ := hn a h1
      exact ⟨t, v, hu, hd, hf⟩
  · exact defaults_ext e hinv.defaults

theorem immClosed_set_same {h : Heap} {x : Addr} {o o' : Obj} (hic : ImmClosed h) (hox : h[x]? = some o)
    (h1 : o'.isMut = o.isMut) (h3 : o'.refs = o.refs) : ImmClosed (h.set x o') := by
  have hget : ∀ (c : Addr) (oc : Obj), h[c]? = some oc → oc.isMut = false →
      ∃ oc' : Obj, (h.set x o')[c]? = some oc' ∧ oc'.isMut = false := by
    intro c oc hoc hmc
    by_cases hcx : c = x
    · subst hcx
      rw [hox] at hoc; cases hoc
      exact ⟨o', by simp [List.getElem?_set_self (List.getElem?_eq_some_iff.mp hox).1], by rw [h1]; exact hmc⟩
    · exact ⟨oc, by rw [List.getElem?_set_ne (fun e => hcx e.symm)]; exact hoc, hmc⟩
  intro a oa hoa hm c hc
  by_cases hax : a = x
  · subst hax
    have : oa = o' := by
      simpa [List.getElem?_set_self (List.getElem?_eq_some_iff.mp hox).1] using hoa.symm
    subst this
    rw [h3] at hc; rw [h1] at hm
    obtain ⟨oc, hoc, hmc⟩ := hic a o hox hm c hc
    exact hget c oc hoc hmc
  · rw [List.getElem?_set_ne (fun e => hax e.symm)] at hoa
    obtain ⟨oc, hoc, hmc⟩ := hic a oa hoa hm c hc
    exact hget c oc hoc hmc

theorem absVal_set_same {h : Heap} {x : Addr} {o o' : Obj} (hox : h[x]? = some o)
    (h1 : o'.isMut = o.isMut) (h2 : o'.sc = o.sc) (h3 : o'.refs = o.refs) {a : Addr} {v : Val}
    (hv : absVal h a = some v) : absVal (h.set x o') a = some v :=
  absVal_of_unfold (fun _ hu => unfoldA_set_same hox h1 h2 h3 hu) hv

theorem cacheOK_set_same {h : Heap} {x : Addr} {o o' : Obj} (hc : CacheOK h) (hox : h[x]? = some o)
    (h1 : o'.isMut = o.isMut) (h2 : o'.sc = o.sc) (h3 : o'.refs = o.refs)
    (hcx : o.isMut = false →
      (∀ c, o'.cHash = some c → ∃ v, absVal h x = some v ∧ identOf v = .ok c) ∧
      (∀ c, o'.cPy = some c → ∃ v, absVal h x = some v ∧ pyHashOf v = .ok c)) : CacheOK (h.set x o') :=
  cacheOK_of_keep hc fun a oa hoa hm => by
    rcases getElem?_set_cases hoa with ⟨rfl, rfl⟩ | ⟨_, h0⟩
    · obtain ⟨c1, c2⟩ := hcx (h1 ▸ hm)
      refine Or.inr ⟨fun c hcc => ?_, fun c hcc => ?_⟩
      · obtain ⟨v, hv, hi⟩ := c1 c hcc; exact ⟨v, absVal_set_same hox h1 h2 h3 hv, hi⟩
      · obtain ⟨v, hv, hi⟩ := c2 c hcc; exact ⟨v, absVal_set_same hox h1 h2 h3 hv, hi⟩
    · exact Or.inl ⟨oa, h0, hm, rfl, rfl, fun v hv => absVal_set_same hox h1 h2 h3 hv⟩

theorem kindOK_set_mut {h : Heap} {x : Addr} {o' : Obj} (hk : KindOK h) (hk' : o'.sc.alwaysImm = false) :
    KindOK (h.set x o') := by
  intro a oa hoa hai
  rcases getElem?_set_cases hoa with ⟨_, rfl⟩ | ⟨_, h0⟩
  · rw [hk'] at hai; cases hai
  · exact hk a oa h0 hai

theorem absVal_set_mut {h : Heap} (hic : ImmClosed h) {x : Addr} {ox o' : Obj} (hox : h[x]? = some ox)
    (hmx : ox.isMut = true) {a : Addr} {oa : Obj} (hoa : h[a]? = some oa) (hma : oa.isMut = false) {v : Val}
    (hv : absVal h a = some v) : absVal (h.set x o') a = some v :=
  absVal_of_unfold (fun t hu => unfoldA_set_frame hu fun hmem => by
    obtain ⟨ox', hox', hmx'⟩ := imm_reach hic hu ((unfoldA_root hu hoa).1.trans hma) x hmem
    rw [hox] at hox'; cases hox'
    rw [hmx] at hmx'; cases hmx') hv

theorem cacheOK_set_mut {h : Heap} (hc : CacheOK h) (hic : ImmClosed h) {x : Addr} {ox o' : Obj}
    (hox : h[x]? = some ox) (hmx : ox.isMut = true) (hm' : o'.isMut = true) : CacheOK (h.set x o') :=
  cacheOK_of_keep hc fun a oa hoa hm => by
    rcases getElem?_set_cases hoa with ⟨_, rfl⟩ | ⟨_, h0⟩
    · rw [hm'] at hm; cases hm
    · exact Or.inl ⟨oa, h0, hm, rfl, rfl, fun v hv => absVal_set_mut hic hox hmx h0 hm hv⟩

theorem inv_set_same {s : St} (hinv : Inv s) {x : Addr} {o o' : Obj} (hox : s.heap[x]? = some o)
    (h1 : o'.isMut = o.isMut) (h2 : o'.sc = o.sc) (h3 : o'.refs = o.refs)
    (hc : o.isMut = false →
      (∀ c, o'.cHash = some c → ∃ v, absVal s.heap x = some v ∧ identOf v = .ok c) ∧
      (∀ c, o'.cPy = some c → ∃ v, absVal s.heap x = some v ∧ pyHashOf v = .ok c)) :
    Inv (s.bind (s.heap.set x o') none) := by
  apply Inv.mk' (immClosed_set_same hinv.immClosed hox h1 h3) (kindOK_set hinv.kindOK hox h1 (by rw [h2]))
    (cacheOK_set_same hinv.cacheOK hox h1 h2 h3 hc)
  · intro y
    rw [total_snoc]
    have hold : total (s.heap.set x o') s.names y = total s.heap s.names y := by
      apply total_congr
      intro a ha
      obtain ⟨r, hr⟩ := mem_root ha
      obtain ⟨t, _, hu, _⟩ := hinv.roots r a hr
      simp only [cntAt, hu, unfoldA_set_same hox h1 h2 h3 hu]
    rw [hold]
    simpa [nameCnt] using hinv.sep y
  · intro r a hr
    rcases join_append_one hr with h1' | ⟨_, h1'⟩
    · obtain ⟨t, v, hu, hd, hf⟩ := hinv.roots r a h1'
      exact ⟨t, v, unfoldA_set_same hox h1 h2 h3 hu, hd, hf⟩
    · cases h1'
  · apply defaults_set hinv.defaults
    intro o2 ho2 hm2
    rw [hox] at ho2; cases ho2
    exact ⟨by rw [h1]; exact hm2, h2, h3⟩

end BtcVerif.Model.Heap

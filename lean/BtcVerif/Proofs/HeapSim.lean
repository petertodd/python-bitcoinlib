/-
  C09: `sim_core` collects the simulation lemmas of all operations but `sighash`, `verify`, `newBlock` (those are
  added in Proofs/HeapAll); the initial state satisfies the invariant and is related to the empty store.
-/
import BtcVerif.Proofs.HeapOpsCopy
import BtcVerif.Proofs.HeapOpsTxEdit

namespace BtcVerif.Model.Heap
open BtcVerif BtcVerif.Spec.ValueSem

/-- the operations whose simulation is proved in Proofs/HeapOps{Observe,Copy,Assign,New,TxEdit} -/
def coreOp : Op → Bool
  | .sighash _ _ _ _ | .verify _ _ _ | .newBlock _ _ => false
  | _ => true

theorem sim_core {s : St} {sp : Store} (hinv : Inv s) (hrel : Rel s sp) (op : Op) (hc : coreOp op = true) :
    Sim s sp op := by
  cases op with
  | newTx v => exact sim_newTx hinv hrel v
  | newCTx v => exact sim_newCTx hinv hrel v
  | newHeader v => exact sim_newHeader hinv hrel v
  | newBlock h t => simp [coreOp] at hc
  | snapshot t => exact sim_snapshot hinv hrel t
  | mutCopy t => exact sim_mutCopy hinv hrel t
  | assign t f => exact sim_assign hinv hrel t f
  | delAttr t => exact sim_delAttr hinv hrel t
  | setVin r l => exact sim_setVin hinv hrel r l
  | setVout r l => exact sim_setVout hinv hrel r l
  | appendIn r v => exact sim_appendIn hinv hrel r v
  | replaceIn r i v => exact sim_replaceIn hinv hrel r i v
  | removeIn r i => exact sim_removeIn hinv hrel r i
  | appendOut r v => exact sim_appendOut hinv hrel r v
  | replaceOut r i v => exact sim_replaceOut hinv hrel r i v
  | removeOut r i => exact sim_removeOut hinv hrel r i
  | setWit r w => exact sim_setWit hinv hrel r w
  | ser t => exact sim_ser hinv hrel t
  | getHash t => exact sim_getHash hinv hrel t
  | txid t => exact sim_txid hinv hrel t
  | pyHash t => exact sim_pyHash hinv hrel t
  | eq a b => exact sim_eq hinv hrel a b
  | sighash r s i h => simp [coreOp] at hc
  | sighashW r i h => exact sim_sighashW hinv hrel r i h
  | verify r i c => simp [coreOp] at hc

theorem inv_init' : Inv init := by
  have h0 : init.heap[emptyTuple]? = some { isMut := false, sc := .seq .stacks, refs := [] } := rfl
  have h1 : init.heap[defaultWit]? = some { isMut := false, sc := .wit, refs := [emptyTuple] } := rfl
  refine ⟨?_, ?_, ?_, ?_, ?_, ⟨_, _, h0, rfl, rfl, rfl, h1, rfl, rfl, rfl⟩⟩
  · intro a o ho hm c hc
    match a, ho with
    | 0, ho => simp [init] at ho; subst ho; simp at hc
    | 1, ho =>
      simp [init] at ho; subst ho
      simp at hc; subst hc
      exact ⟨_, h0, rfl⟩
    | a + 2, ho => simp [init] at ho
  · intro a o ho hai
    match a, ho with
    | 0, ho => simp [init] at ho; subst ho; rfl
    | 1, ho => simp [init] at ho; subst ho; rfl
    | a + 2, ho => simp [init] at ho
  · intro a o ho hm
    match a, ho with
    | 0, ho => simp [init] at ho; subst ho; simp
    | 1, ho => simp [init] at ho; subst ho; simp
    | a + 2, ho => simp [init] at ho
  · intro y; simp [init, total]
  · intro r a hr; simp [St.root, init] at hr

theorem rel_init' : Rel init Spec.ValueSem.init := by
  refine ⟨rfl, ?_⟩
  intro r
  simp [St.root, init, Spec.ValueSem.init, RelAt]

end BtcVerif.Model.Heap

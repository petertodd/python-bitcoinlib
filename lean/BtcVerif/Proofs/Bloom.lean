/-
  C20 — helper lemmas.  The Python-int MurmurHash3 of Model.Bloom equals the UInt32 reference of
  Spec.Bloom (`murmurHash3_eq`); the wire form (`wire`, `dec_de`); `setBit`/`testBit` read and write the
  BIP37 bit, the insert and query loops as closed forms over the scheduled bits (`insertLoop_eq`,
  `containsLoop_eq`) and `insert_spec`/`contains_spec`; the constructor's sizing (`truncInt`, `create_eq_ok`);
  histories of inserts and reloads (`Sub`, `step_spec`, `run_spec`).
-/
import BtcVerif.Model.Bloom
import BtcVerif.Spec.Bloom
import BtcVerif.Proofs.Wire

namespace BtcVerif.Bloom
open BtcVerif Model.Bloom Model

theorem bind_err {α β : Type} (e : Exc) (f : α → Res β) : ((Except.error e : Res α) >>= f) = .error e := rfl
theorem pure_ok {α : Type} (a : α) : (pure a : Res α) = .ok a := rfl

/-! ### MurmurHash3 -/

theorem and_M32 (x : Nat) : x &&& 0xFFFFFFFF = x % 2 ^ 32 := Nat.and_two_pow_sub_one_eq_mod x 32

theorem rotl32_eq (x : UInt32) (r : Nat) (h0 : 0 < r) (hr : r < 32) :
    rotl32 x.toNat r = .ok (Spec.Bloom.rotl32 x (UInt32.ofNat r)).toNat := by
  have hx : x.toNat ≤ 0xFFFFFFFF := by have := x.toNat_lt; omega
  have h1 : (UInt32.ofNat r).toNat = r := by rw [UInt32.toNat_ofNat']; omega
  have h2 : (32 - UInt32.ofNat r).toNat = 32 - r := by
    rw [UInt32.toNat_sub_of_le _ _ (by rw [UInt32.le_iff_toNat_le, h1]; exact Nat.le_of_lt hr), h1]; rfl
  simp only [rotl32, hx, if_true, Spec.Bloom.rotl32, UInt32.toNat_or, UInt32.toNat_shiftLeft,
    UInt32.toNat_shiftRight, and_M32, h1, h2, Nat.mod_eq_of_lt hr, Nat.mod_eq_of_lt (show 32 - r < 32 by omega)]

theorem mixK1_eq (k : UInt32) : mixK1 k.toNat = .ok (Spec.Bloom.scramble k).toNat := by
  have h1 : (k.toNat * c1) &&& 0xFFFFFFFF = (k * Spec.Bloom.c1).toNat := by
    rw [and_M32, UInt32.toNat_mul]; rfl
  unfold mixK1
  rw [h1]
  show (rotl32 (k * Spec.Bloom.c1).toNat 15 >>= fun k1 => pure ((k1 * c2) &&& 0xFFFFFFFF)) = _
  rw [rotl32_eq _ 15 (by omega) (by omega)]
  show Except.ok _ = _
  apply congrArg Except.ok
  rw [and_M32, Spec.Bloom.scramble, UInt32.toNat_mul]; rfl

theorem mixH1_eq (h k : UInt32) :
    mixH1 h.toNat (Spec.Bloom.scramble k).toNat = .ok (Spec.Bloom.mixBlock h k).toNat := by
  unfold mixH1
  rw [← UInt32.toNat_xor]
  show (rotl32 (h ^^^ Spec.Bloom.scramble k).toNat 13 >>= fun h1 =>
      pure ((((h1 * 5) &&& 0xFFFFFFFF) + 0xe6546b64) &&& 0xFFFFFFFF)) = _
  rw [rotl32_eq _ 13 (by omega) (by omega)]
  show Except.ok _ = _
  apply congrArg Except.ok
  rw [and_M32, and_M32, Spec.Bloom.mixBlock, UInt32.toNat_add, UInt32.toNat_mul]; rfl

theorem xorshift_mod (X : Nat) (u s : UInt32) (hu : X % 2 ^ 32 = u.toNat) :
    (X ^^^ ((X &&& 0xFFFFFFFF) >>> (s.toNat % 32))) % 2 ^ 32 = (u ^^^ (u >>> s)).toNat := by
  have hlt : u.toNat >>> (s.toNat % 32) < 2 ^ 32 :=
    Nat.lt_of_le_of_lt (Nat.shiftRight_le _ _) u.toNat_lt
  rw [and_M32, Nat.xor_mod_two_pow, hu, Nat.mod_eq_of_lt hlt, UInt32.toNat_xor, UInt32.toNat_shiftRight]

theorem mul_mod32 (X : Nat) (u c : UInt32) (cn : Nat) (hc : c.toNat = cn) (hu : X % 2 ^ 32 = u.toNat) :
    (X * cn) % 2 ^ 32 = (u * c).toNat := by
  subst hc
  rw [Nat.mul_mod, hu, UInt32.toNat_mul, Nat.mod_eq_of_lt c.toNat_lt]

theorem finalize_eq (h : UInt32) (L : Nat) :
    finalize h.toNat L = (Spec.Bloom.fmix32 (h ^^^ UInt32.ofNat L)).toNat := by
  have h0 : h.toNat ^^^ (L &&& 0xFFFFFFFF) = (h ^^^ UInt32.ofNat L).toNat := by
    rw [and_M32, UInt32.toNat_xor, UInt32.toNat_ofNat']
  unfold finalize Spec.Bloom.fmix32
  simp only [h0]
  generalize h ^^^ UInt32.ofNat L = a
  -- each step commutes with reduction mod 2^32, so the single mask at the end suffices
  have ha := xorshift_mod a.toNat a 16 (Nat.mod_eq_of_lt a.toNat_lt)
  have hb := mul_mod32 _ _ 0x85ebca6b 0x85ebca6b rfl ha
  have hc := xorshift_mod _ _ 13 hb
  have hd := mul_mod32 _ _ 0xc2b2ae35 0xc2b2ae35 rfl hc
  have he := xorshift_mod _ _ 16 hd
  rw [and_M32]
  exact he

/-- the tail word of the 0..3 left-over bytes as the reference forms it -/
def tailW : Bytes → UInt32
  | [a] => a.toUInt32
  | [a, b] => (b.toUInt32 <<< 8) ^^^ a.toUInt32
  | [a, b, c] => (c.toUInt32 <<< 16) ^^^ (b.toUInt32 <<< 8) ^^^ a.toUInt32
  | _ => 0

/-- the 0..3 bytes left over behind the last complete block -/
theorem short_rec {P : Bytes → Prop} (h0 : P []) (h1 : ∀ a, P [a]) (h2 : ∀ a b, P [a, b])
    (h3 : ∀ a b c, P [a, b, c]) : ∀ t : Bytes, t.length < 4 → P t
  | [], _ => h0
  | [a], _ => h1 a
  | [a, b], _ => h2 a b
  | [a, b, c], _ => h3 a b c
  | _ :: _ :: _ :: _ :: _, h => absurd h (by simp)

theorem tailMix_eq (h : UInt32) (t : Bytes) (ht : t.length < 4) :
    Spec.Bloom.tailMix h t = h ^^^ Spec.Bloom.scramble (tailW t) :=
  short_rec (P := fun t => Spec.Bloom.tailMix h t = h ^^^ Spec.Bloom.scramble (tailW t))
    (by simp [Spec.Bloom.tailMix, tailW, (by decide : Spec.Bloom.scramble 0 = 0)])
    (fun _ => rfl) (fun _ _ => rfl) (fun _ _ _ => rfl) t ht

theorem blocks_cons4 (h : UInt32) (a b c d : UInt8) (rest : Bytes) :
    Spec.Bloom.blocks h (a :: b :: c :: d :: rest) =
      Spec.Bloom.blocks (Spec.Bloom.mixBlock h (Spec.Bloom.le32 a b c d)) rest := by
  rw [Spec.Bloom.blocks, Spec.Bloom.foldBlocks, Spec.Bloom.blocks]

theorem blocks_short (h : UInt32) (t : Bytes) (ht : t.length < 4) : Spec.Bloom.blocks h t = (h, t) :=
  short_rec (P := fun t => Spec.Bloom.blocks h t = (h, t)) rfl (fun _ => rfl) (fun _ _ => rfl) (fun _ _ _ => rfl) t ht

theorem byteAt_append (pre t : Bytes) (i : Nat) : byteAt (pre ++ t) (pre.length + i) = byteAt t i := by
  unfold byteAt
  rw [List.getElem?_append_right (by omega)]
  simp

theorem and3 (n : Nat) : n &&& 3 = n % 4 := Nat.and_two_pow_sub_one_eq_mod n 2

theorem shl_byte_mod (a : UInt8) (s : Nat) (hs : s ≤ 24) : (a.toNat <<< s) % 2 ^ 32 = a.toNat <<< s := by
  apply Nat.mod_eq_of_lt
  rw [Nat.shiftLeft_eq]
  have ha : a.toNat < 2 ^ 8 := a.toNat_lt
  calc a.toNat * 2 ^ s < 2 ^ 8 * 2 ^ s := Nat.mul_lt_mul_of_pos_right ha (Nat.pow_pos (by omega))
    _ = 2 ^ (8 + s) := by rw [Nat.pow_add]
    _ ≤ 2 ^ 32 := Nat.pow_le_pow_right (by omega) (by omega)

theorem shl_byte_lt (a : UInt8) (s : Nat) (hs : s ≤ 24) : a.toNat <<< s < 2 ^ 32 := by
  rw [← shl_byte_mod a s hs]; exact Nat.mod_lt _ (by omega)

theorem byte_lt32 (a : UInt8) : a.toNat < 2 ^ 32 := Nat.lt_trans a.toNat_lt (by omega)

theorem tailWord_eq (pre t : Bytes) (hp : pre.length % 4 = 0) (ht : t.length < 4) :
    tailWord (pre ++ t) = .ok (tailW t).toNat := by
  have hj : ∀ k, k < 4 → (pre.length + k) / 4 * 4 = pre.length := by intro k hk; omega
  have hm : ∀ k, k < 4 → (pre.length + k) % 4 = k := by intro k hk; omega
  refine short_rec (P := fun t => tailWord (pre ++ t) = .ok (tailW t).toNat) ?_ (fun a => ?_) (fun a b => ?_)
    (fun a b c => ?_) t ht
  · simp only [tailWord, List.append_nil, and3, hp]
    rfl
  · simp only [tailWord, List.length_append, List.length_cons, List.length_nil, and3, hm 1 (by omega),
      hj 1 (by omega)]
    simp [byteAt, tailW, and_M32, bind, Except.bind, pure, Except.pure]
  · simp only [tailWord, List.length_append, List.length_cons, List.length_nil, and3, hm 2 (by omega),
      hj 2 (by omega)]
    simp [byteAt, tailW, and_M32, bind, Except.bind, pure, Except.pure, shl_byte_mod b 8 (by omega)]
    exact Nat.xor_lt_two_pow (shl_byte_lt b 8 (by omega)) (byte_lt32 a)
  · simp only [tailWord, List.length_append, List.length_cons, List.length_nil, and3, hm 3 (by omega),
      hj 3 (by omega)]
    simp [byteAt, tailW, and_M32, bind, Except.bind, pure, Except.pure,
      shl_byte_mod b 8 (by omega), shl_byte_mod c 16 (by omega)]
    exact Nat.xor_lt_two_pow (Nat.xor_lt_two_pow (shl_byte_lt c 16 (by omega)) (shl_byte_lt b 8 (by omega)))
      (byte_lt32 a)

theorem le32_toNat (a b c d : UInt8) : (Spec.Bloom.le32 a b c d).toNat = leNat [a, b, c, d] := by
  unfold Spec.Bloom.le32
  rw [UInt32.toNat_ofNat']
  exact Nat.mod_eq_of_lt (by have := leNat_lt [a, b, c, d]; simpa using this)

theorem finish_eq (pre t : Bytes) (h : UInt32) (hp : pre.length % 4 = 0) (ht : t.length < 4) :
    finish (pre ++ t) h.toNat =
      .ok (Spec.Bloom.fmix32 (Spec.Bloom.tailMix h t ^^^ UInt32.ofNat (pre ++ t).length)).toNat := by
  rw [finish, tailWord_eq pre t hp ht, Codec.ok_bind, mixK1_eq, Codec.ok_bind, pure_ok]
  apply congrArg Except.ok
  rw [← UInt32.toNat_xor, finalize_eq, tailMix_eq h t ht]

theorem bodyLoop_stop (data : Bytes) (i h1 : Nat)
    (hc : ¬ (i < data.length - data.length % 4 ∧ data.length - i ≥ 4)) :
    bodyLoop data i h1 = .ok h1 := by
  rw [bodyLoop]
  simp only [hc, if_false]
  rfl

theorem murmur_stop (t pre : Bytes) (h : UInt32) (hp : pre.length % 4 = 0) (ht : t.length < 4) :
    (bodyLoop (pre ++ t) pre.length h.toNat >>= finish (pre ++ t)) =
      .ok (Spec.Bloom.finishFrom h t (pre ++ t).length).toNat := by
  rw [bodyLoop_stop _ _ _ (by simp only [List.length_append]; omega), Codec.ok_bind, finish_eq pre t h hp ht,
    Spec.Bloom.finishFrom, blocks_short h t ht]

theorem bodyLoop_block (data pre : Bytes) (a b c d : UInt8) (rest : Bytes) (hd : data = pre ++ a :: b :: c :: d :: rest)
    (hp : pre.length % 4 = 0) (h1 : Nat) :
    bodyLoop data pre.length h1 = (mixK1 (leNat [a, b, c, d]) >>= fun k1 => mixH1 h1 k1 >>= fun h1' =>
      bodyLoop data (pre.length + 4) h1') := by
  have hlen : data.length = pre.length + (rest.length + 4) := by rw [hd]; simp
  have hsl : (data.drop pre.length).take 4 = [a, b, c, d] := by rw [hd, List.drop_left]; rfl
  rw [bodyLoop, if_pos (by omega), hsl]
  rfl

theorem murmur_from : ∀ (rest pre : Bytes) (h : UInt32) (data : Bytes), data = pre ++ rest → pre.length % 4 = 0 →
    (bodyLoop data pre.length h.toNat >>= finish data) = .ok (Spec.Bloom.finishFrom h rest data.length).toNat
  | a :: b :: c :: d :: rest, pre, h, data, hd, hp => by
    have ih := murmur_from rest (pre ++ [a, b, c, d]) (Spec.Bloom.mixBlock h (Spec.Bloom.le32 a b c d)) data
      (by rw [hd, List.append_assoc]; rfl) (by rw [List.length_append]; show (pre.length + 4) % 4 = 0; omega)
    rw [List.length_append, show [a, b, c, d].length = 4 from rfl] at ih
    rw [bodyLoop_block data pre a b c d rest hd hp, ← le32_toNat, mixK1_eq, Codec.ok_bind, mixH1_eq, Codec.ok_bind, ih,
      Spec.Bloom.finishFrom, Spec.Bloom.finishFrom, blocks_cons4]
  | [], pre, h, _, hd, hp => hd ▸ murmur_stop [] pre h hp (by decide)
  | [_], pre, h, _, hd, hp => hd ▸ murmur_stop _ pre h hp (show 1 < 4 by omega)
  | [_, _], pre, h, _, hd, hp => hd ▸ murmur_stop _ pre h hp (show 2 < 4 by omega)
  | [_, _, _], pre, h, _, hd, hp => hd ▸ murmur_stop _ pre h hp (show 3 < 4 by omega)

theorem murmurHash3_eq (seed : Nat) (hs : seed < 2 ^ 32) (data : Bytes) :
    murmurHash3 seed data = .ok (Spec.Bloom.murmur3 (UInt32.ofNat seed) data).toNat := by
  have hto : (UInt32.ofNat seed).toNat = seed := by rw [UInt32.toNat_ofNat']; exact Nat.mod_eq_of_lt hs
  have := murmur_from data [] (UInt32.ofNat seed) data rfl rfl
  rw [hto] at this
  unfold murmurHash3
  rw [if_neg (by omega)]
  exact this

/-! ### wire form -/

/-- `BytesSerializer` of the data followed by `struct.pack('<IIB', …)` -/
def wire (f : Filter) : Bytes :=
  Spec.Wire.varBytes f.vData ++ (leBytes 4 f.nHashFuncs ++ leBytes 4 f.nTweak ++ leBytes 1 f.nFlags)

/-- the fields fit `'<IIB'` -/
def Packs (f : Filter) : Prop := f.nHashFuncs < 2 ^ 32 ∧ f.nTweak < 2 ^ 32 ∧ f.nFlags < 2 ^ 8

theorem ser_eq (f : Filter) (hl : f.vData.length ≤ Wire.MAX_SIZE) (hp : Packs f) : ser f = .ok (wire f) := by
  unfold ser
  rw [Codec.serBytes_le hl, Codec.packU_ok hp.1, Codec.packU_ok hp.2.1, Codec.packU_ok hp.2.2]
  exact congrArg Except.ok (by simp only [wire, List.append_assoc])

theorem ser_ok (f : Filter) (enc : Bytes) (hl : f.vData.length ≤ Wire.MAX_SIZE) (h : ser f = .ok enc) :
    Packs f ∧ enc = wire f := by
  have hp : Packs f := by
    obtain ⟨d, _, h⟩ := Codec.bind_ok_inv h
    obtain ⟨k, hk, h⟩ := Codec.bind_ok_inv h
    obtain ⟨t, ht, h⟩ := Codec.bind_ok_inv h
    obtain ⟨fl, hfl, _⟩ := Codec.bind_ok_inv h
    exact ⟨Codec.packU_ok_inv hk, Codec.packU_ok_inv ht, Codec.packU_ok_inv hfl⟩
  exact ⟨hp, Except.ok.inj (h.symm.trans (ser_eq f hl hp))⟩

theorem dec_de (f : Filter) (hl : f.vData.length ≤ Wire.MAX_SIZE) (hp : Packs f) : Codec.Dec de (wire f) f := by
  have h4 : (leBytes 4 f.nHashFuncs).length = 4 := leBytes_length _ _
  have h4' : (leBytes 4 f.nTweak).length = 4 := leBytes_length _ _
  unfold de wire
  refine Codec.Dec.bind (Codec.dec_deBytes f.vData hl) (Codec.Dec.bind_last
    (Codec.dec_serRead _ 9 (by simp [leBytes_length]) (by decide)) fun r => ?_)
  show Except.ok _ = _
  rw [List.append_assoc, List.take_left' h4, List.drop_left' h4, List.take_left' h4',
    ← List.append_assoc, List.drop_left' (by simp [leBytes_length]), leNat_leBytes, leNat_leBytes, leNat_leBytes,
    Nat.mod_eq_of_lt hp.1, Nat.mod_eq_of_lt hp.2.1, Nat.mod_eq_of_lt hp.2.2]

theorem de_ser (f : Filter) (enc rest : Bytes) (h : ser f = .ok enc) (hlen : f.vData.length ≤ Wire.MAX_SIZE) :
    de (enc ++ rest) = .ok (f, rest) := by
  obtain ⟨hp, rfl⟩ := ser_ok f enc hlen h
  exact (dec_de f hlen hp).1 rest

theorem deserialize_ser (f : Filter) (enc : Bytes) (h : ser f = .ok enc) (hlen : f.vData.length ≤ Wire.MAX_SIZE) :
    deserialize enc = .ok f := by
  obtain ⟨hp, rfl⟩ := ser_ok f enc hlen h
  exact (dec_de f hlen hp).deserialize_exact _

/-! ### bits, insert, contains -/

theorem and7 (n : Nat) : 7 &&& n = n % 8 := by
  rw [Nat.and_comm]; exact Nat.and_two_pow_sub_one_eq_mod n 3

theorem mask_lookup (n : Nat) : bitMaskTable[7 &&& n]? = some (UInt8.ofNat (2 ^ (n % 8))) := by
  rw [and7]
  exact (by decide : ∀ m, m < 8 → bitMaskTable[m]? = some (UInt8.ofNat (2 ^ m))) _ (Nat.mod_lt _ (by omega))

theorem mask_toNat (m : Nat) (hm : m < 8) : (UInt8.ofNat (2 ^ m)).toNat = 2 ^ m := by
  rw [UInt8.toNat_ofNat']
  apply Nat.mod_eq_of_lt
  calc 2 ^ m < 2 ^ 8 := Nat.pow_lt_pow_right (by omega) hm
    _ = 256 := rfl

theorem shr3 (n : Nat) : n >>> 3 = n / 8 := Nat.shiftRight_eq_div_pow n 3

theorem and_pow_ne_zero (b k : Nat) : (b &&& 2 ^ k ≠ 0) ↔ b.testBit k = true := by
  constructor
  · intro h
    cases hb : b.testBit k with
    | true => rfl
    | false =>
      exfalso; apply h
      apply Nat.eq_of_testBit_eq
      intro i
      rw [Nat.testBit_and, Nat.testBit_two_pow, Nat.zero_testBit]
      by_cases hki : k = i
      · subst hki; simp [hb]
      · simp [hki]
  · intro hb h
    have := congrArg (fun x => x.testBit k) h
    simp only [Nat.testBit_and, Nat.testBit_two_pow, Nat.zero_testBit, hb] at this
    simp at this

theorem byte_test (b : UInt8) (m : Nat) (hm : m < 8) :
    ((b &&& UInt8.ofNat (2 ^ m)) != 0) = b.toNat.testBit m := by
  have h0 : (b &&& UInt8.ofNat (2 ^ m)).toNat = b.toNat &&& 2 ^ m := by
    rw [UInt8.toNat_and, mask_toNat m hm]
  have h1 : ((b &&& UInt8.ofNat (2 ^ m)) != 0) = true ↔ b.toNat.testBit m = true := by
    rw [bne_iff_ne, ← and_pow_ne_zero, ← h0, Ne, Ne, ← UInt8.toNat_inj]
    rfl
  cases hb : b.toNat.testBit m with
  | true => exact h1.mpr hb
  | false =>
    cases hx : ((b &&& UInt8.ofNat (2 ^ m)) != 0) with
    | false => rfl
    | true => rw [h1.mp hx] at hb; cases hb

theorem byte_or (b : UInt8) (m i : Nat) (hm : m < 8) :
    (b ||| UInt8.ofNat (2 ^ m)).toNat.testBit i = (b.toNat.testBit i || decide (m = i)) := by
  rw [UInt8.toNat_or, Nat.testBit_or, mask_toNat m hm, Nat.testBit_two_pow]

open Spec.Bloom in
theorem bitSet_iff (v : Bytes) (n : Nat) (hn : n / 8 < v.length) :
    bitSet v n ↔ v[n / 8].toNat.testBit (n % 8) = true := by
  have hg : v[n / 8]? = some v[n / 8] := List.getElem?_eq_getElem hn
  unfold bitSet
  rw [hg]
  constructor
  · rintro ⟨b, hb, ht⟩; cases hb; exact ht
  · intro h; exact ⟨_, rfl, h⟩

open Spec.Bloom in
theorem testBit_eq (v : Bytes) (n : Nat) (hn : n / 8 < v.length) :
    Model.Bloom.testBit v n = .ok (decide (bitSet v n)) := by
  unfold Model.Bloom.testBit
  rw [shr3, mask_lookup]
  have hg : v[n / 8]? = some v[n / 8] := List.getElem?_eq_getElem hn
  rw [hg]
  apply congrArg Except.ok
  rw [byte_test _ _ (Nat.mod_lt _ (by omega))]
  have key := bitSet_iff v n hn
  cases hb : v[n / 8].toNat.testBit (n % 8) with
  | true => exact (decide_eq_true (key.mpr hb)).symm
  | false =>
    have : ¬ bitSet v n := by rw [key, hb]; simp
    exact (decide_eq_false this).symm

open BtcVerif.Spec.Bloom (bitSet bitIndex bitsOf specMatches)

/-- `setBit` without its failure branch -/
def setBitP (v : Bytes) (n : Nat) : Bytes :=
  v.set (n / 8) ((v[n / 8]?.getD 0) ||| UInt8.ofNat (2 ^ (n % 8)))

theorem length_setBitP (v : Bytes) (n : Nat) : (setBitP v n).length = v.length := List.length_set

theorem setBit_eq (v : Bytes) (n : Nat) (hn : n / 8 < v.length) : setBit v n = .ok (setBitP v n) := by
  unfold setBit setBitP
  rw [shr3, mask_lookup, List.getElem?_eq_getElem hn]
  rfl

theorem bitSet_setBitP (v : Bytes) (n : Nat) (hn : n / 8 < v.length) (j : Nat) :
    bitSet (setBitP v n) j ↔ (bitSet v j ∨ j = n) := by
  have hm : n % 8 < 8 := Nat.mod_lt _ (by omega)
  unfold bitSet setBitP
  rw [List.getElem?_set, List.getElem?_eq_getElem hn, Option.getD_some]
  by_cases hj : n / 8 = j / 8
  · rw [if_pos hj, if_pos hn, ← hj, List.getElem?_eq_getElem hn]
    simp only [Option.some.injEq, exists_eq_left', byte_or _ _ _ hm, Bool.or_eq_true, decide_eq_true_eq]
    exact or_congr_right ⟨fun h => by omega, fun h => by omega⟩
  · rw [if_neg hj]
    exact ⟨Or.inl, fun h => h.resolve_right fun e => hj (e ▸ rfl)⟩

theorem length_foldl_setBitP (js : List Nat) (v : Bytes) : (js.foldl setBitP v).length = v.length := by
  induction js generalizing v with
  | nil => rfl
  | cons n js ih => rw [List.foldl_cons, ih, length_setBitP]

theorem bitSet_foldl_setBitP (js : List Nat) (v : Bytes) (h : ∀ n ∈ js, n / 8 < v.length) (j : Nat) :
    bitSet (js.foldl setBitP v) j ↔ (bitSet v j ∨ j ∈ js) := by
  induction js generalizing v with
  | nil => simp
  | cons n js ih =>
    have hn := h n List.mem_cons_self
    rw [List.foldl_cons, ih _ fun m hm => by rw [length_setBitP]; exact h m (List.mem_cons_of_mem _ hm),
      bitSet_setBitP v n hn, List.mem_cons, or_assoc]

theorem seed_eq (i tweak : Nat) :
    (i * 0xFBA4C795 + tweak) &&& 0xFFFFFFFF = (Spec.Bloom.seedOf i (UInt32.ofNat tweak)).toNat := by
  unfold Spec.Bloom.seedOf
  rw [and_M32, UInt32.toNat_add, UInt32.toNat_mul, UInt32.toNat_ofNat', UInt32.toNat_ofNat']
  have : (0xFBA4C795 : UInt32).toNat = 0xFBA4C795 := by rfl
  rw [this, Nat.add_mod (i * 0xFBA4C795), Nat.mul_mod i]

theorem bloomHash_eq (f : Filter) (i : Nat) (e : Bytes) (hne : f.vData.length ≠ 0) :
    bloomHash f i e = .ok (Spec.Bloom.bitIndex (f.vData.length * 8) (UInt32.ofNat f.nTweak) i e) := by
  rw [bloomHash, seed_eq, murmurHash3_eq _ (UInt32.toNat_lt _), Codec.ok_bind]
  have : ¬ (f.vData.length * 8 = 0) := by omega
  rw [if_neg this, pure_ok]
  unfold Spec.Bloom.bitIndex
  rw [UInt32.ofNat_toNat]

theorem bitIndex_lt (nbits : Nat) (t : UInt32) (i : Nat) (e : Bytes) (h : nbits ≠ 0) :
    Spec.Bloom.bitIndex nbits t i e < nbits := Nat.mod_lt _ (by omega)

/-- the bit indices `bloom_hash` yields for hash functions `i, …, i+n-1` -/
def sched (f : Filter) (e : Bytes) (i n : Nat) : List Nat :=
  (List.range' i n).map fun i' => bitIndex (f.vData.length * 8) (UInt32.ofNat f.nTweak) i' e

theorem sched_lt (f : Filter) (e : Bytes) (i n : Nat) (hne : f.vData.length ≠ 0) :
    ∀ j ∈ sched f e i n, j / 8 < f.vData.length := by
  intro j hj
  obtain ⟨i', _, rfl⟩ := List.mem_map.1 hj
  have := bitIndex_lt (f.vData.length * 8) (UInt32.ofNat f.nTweak) i' e (by omega)
  omega

theorem sched_zero (f : Filter) (e : Bytes) :
    sched f e 0 f.nHashFuncs = bitsOf (f.vData.length * 8) f.nHashFuncs (UInt32.ofNat f.nTweak) e := by
  unfold sched bitsOf; rw [List.range_eq_range']

theorem insertLoop_eq (e : Bytes) (n i : Nat) (f : Filter) (hne : f.vData.length ≠ 0) :
    insertLoop e n i f = .ok { f with vData := (sched f e i n).foldl setBitP f.vData } := by
  induction n generalizing i f with
  | zero => rfl
  | succ n ih =>
    have hlt := sched_lt f e i 1 hne _ (List.mem_singleton.2 rfl)
    rw [insertLoop, bloomHash_eq f i e hne, Codec.ok_bind, setBit_eq _ _ hlt, Codec.ok_bind,
      ih (i + 1) _ (by rw [length_setBitP]; exact hne)]
    simp only [sched, length_setBitP, List.range'_succ, List.map_cons, List.foldl_cons]

theorem containsLoop_eq (f : Filter) (e : Bytes) (hne : f.vData.length ≠ 0) (n i : Nat) :
    containsLoop f e n i = .ok ((sched f e i n).all fun j => decide (bitSet f.vData j)) := by
  induction n generalizing i with
  | zero => rfl
  | succ n ih =>
    have hlt := sched_lt f e i 1 hne _ (List.mem_singleton.2 rfl)
    rw [containsLoop, bloomHash_eq f i e hne, Codec.ok_bind, testBit_eq _ _ hlt, Codec.ok_bind, ih (i + 1)]
    simp only [sched, List.range'_succ, List.map_cons, List.all_cons]
    cases decide (bitSet f.vData (bitIndex (f.vData.length * 8) (UInt32.ofNat f.nTweak) i e)) <;> rfl

theorem isFullByte_iff (f : Filter) : isFullByte f = true ↔ f.vData = [0xff] := by
  unfold isFullByte
  constructor
  · intro h
    simp only [Bool.and_eq_true, beq_iff_eq] at h
    match hv : f.vData, h with
    | [b], ⟨_, h2⟩ => simp at h2; rw [h2]
    | [], ⟨h1, _⟩ => simp at h1
    | _ :: _ :: _, ⟨h1, _⟩ => simp at h1
  · intro h; rw [h]; rfl

theorem full_bitSet (j : Nat) (hj : j < 8) : Spec.Bloom.bitSet [0xff] j := by
  refine ⟨0xff, by rw [Nat.div_eq_of_lt hj]; rfl, ?_⟩
  rw [Nat.mod_eq_of_lt hj]
  exact (by decide : ∀ m, m < 8 → (255 : Nat).testBit m = true) j hj

theorem full_bits (f : Filter) (e : Bytes) (h : isFullByte f = true) :
    ∀ j ∈ bitsOf (f.vData.length * 8) f.nHashFuncs (UInt32.ofNat f.nTweak) e, bitSet f.vData j := by
  rw [(isFullByte_iff f).1 h]
  intro j hj
  obtain ⟨i, _, rfl⟩ := List.mem_map.1 hj
  exact full_bitSet _ (bitIndex_lt 8 _ i e (by omega))

theorem insert_spec (f : Filter) (e : Bytes) :
    ∃ g, Model.Bloom.insert f e = .ok g ∧ g.vData.length = f.vData.length ∧ g.nHashFuncs = f.nHashFuncs ∧
      g.nTweak = f.nTweak ∧ g.nFlags = f.nFlags ∧
      ∀ j, Spec.Bloom.bitSet g.vData j ↔ (Spec.Bloom.bitSet f.vData j ∨ (f.vData ≠ [] ∧
        j ∈ Spec.Bloom.bitsOf (f.vData.length * 8) f.nHashFuncs (UInt32.ofNat f.nTweak) e)) := by
  unfold Model.Bloom.insert
  by_cases h0 : f.vData.length = 0
  · rw [if_pos h0]
    exact ⟨f, rfl, rfl, rfl, rfl, rfl, fun j =>
      ⟨Or.inl, fun h => h.resolve_right fun h' => h'.1 (List.eq_nil_of_length_eq_zero h0)⟩⟩
  have hne : f.vData ≠ [] := fun h => h0 (h ▸ rfl)
  rw [if_neg h0]
  by_cases hfull : isFullByte f = true
  · rw [if_pos hfull]
    exact ⟨f, rfl, rfl, rfl, rfl, rfl, fun j => ⟨Or.inl, fun h => h.elim id fun h' => full_bits f e hfull j h'.2⟩⟩
  · rw [if_neg hfull, insertLoop_eq e _ 0 f h0, sched_zero]
    refine ⟨_, rfl, length_foldl_setBitP _ _, rfl, rfl, rfl, fun j => ?_⟩
    rw [bitSet_foldl_setBitP _ _ (sched_zero f e ▸ sched_lt f e 0 _ h0), and_iff_right hne]

theorem contains_spec (f : Filter) (e : Bytes) :
    ∃ b, Model.Bloom.contains f e = .ok b ∧
      (b = true ↔ Spec.Bloom.specMatches f.vData f.nHashFuncs (UInt32.ofNat f.nTweak) e) := by
  unfold Model.Bloom.contains specMatches
  by_cases h0 : f.vData.length = 0
  · rw [if_pos h0]
    exact ⟨true, rfl, iff_of_true rfl (Or.inl (List.eq_nil_of_length_eq_zero h0))⟩
  have hne : f.vData ≠ [] := fun h => h0 (h ▸ rfl)
  rw [if_neg h0]
  by_cases hfull : isFullByte f = true
  · rw [if_pos hfull]
    exact ⟨true, rfl, iff_of_true rfl (Or.inr (full_bits f e hfull))⟩
  · rw [if_neg hfull, containsLoop_eq f e h0, sched_zero]
    refine ⟨_, rfl, ?_⟩
    rw [List.all_eq_true, or_iff_right hne]
    simp only [decide_eq_true_eq]

/-! ### sizing -/

theorem min_le_cap (x c : Rat) : min x c ≤ c := by rw [Rat.min_def]; split <;> grind
theorem min_le_arg (x c : Rat) : min x c ≤ x := by rw [Rat.min_def]; split <;> grind
theorem min_nonneg {x c : Rat} (hx : 0 ≤ x) (hc : 0 ≤ c) : 0 ≤ min x c := by
  rw [Rat.min_def]; split <;> assumption

theorem floor_nonneg {v : Rat} (hv : 0 ≤ v) : 0 ≤ v.floor := by
  have := Rat.floor_monotone hv
  rwa [show ((0 : Rat)) = ((0 : Int) : Rat) by rfl, Rat.floor_intCast] at this

theorem truncInt_le (v : Rat) (c : Int) (hc : 0 ≤ c) (h : v ≤ (c : Rat)) : truncInt v ≤ c := by
  unfold truncInt
  split
  · have := Rat.floor_monotone h
    rwa [Rat.floor_intCast] at this
  · have := floor_nonneg (v := -v) (by grind)
    omega

theorem truncInt_nonneg {v : Rat} (hv : 0 ≤ v) : 0 ≤ truncInt v := by
  unfold truncInt; rw [if_pos hv]; exact floor_nonneg hv

theorem truncInt_le_self {v : Rat} (hv : 0 ≤ v) : ((truncInt v : Int) : Rat) ≤ v := by
  unfold truncInt; rw [if_pos hv]; exact Rat.floor_le v

/-- the common tail of `sizeBytes` and `hashFuncs` -/
theorem toNat_eq_ok {n : Int} {e : Exc} {m : Nat}
    (h : (if n < 0 then (.error e : Res Nat) else .ok n.toNat) = .ok m) : (m : Int) = n := by
  split at h
  · cases h
  · cases h; omega

theorem toNat_ok {n : Int} (e : Exc) (hn : 0 ≤ n) :
    (if n < 0 then (.error e : Res Nat) else .ok n.toNat) = .ok n.toNat := if_neg (by omega)

theorem min_div_le (x c : Rat) : min x (c * 8) / 8 ≤ c := by
  have := min_le_cap x (c * 8)
  grind

theorem sizeBytes_le (x : Rat) (n : Nat) (h : sizeBytes x = .ok n) : n ≤ MAX_BLOOM_FILTER_SIZE := by
  have e : ((MAX_BLOOM_FILTER_SIZE * 8 : Nat) : Rat) = ((MAX_BLOOM_FILTER_SIZE : Int) : Rat) * 8 := by
    rw [Rat.natCast_mul, Rat.intCast_natCast]; rfl
  have hv : min x ((MAX_BLOOM_FILTER_SIZE * 8 : Nat) : Rat) / 8 ≤ ((MAX_BLOOM_FILTER_SIZE : Int) : Rat) :=
    e ▸ min_div_le x _
  have := truncInt_le _ _ (by decide) hv
  have := toNat_eq_ok h
  omega

theorem hashFuncs_le (y : Rat) (k : Nat) (h : hashFuncs y = .ok k) : k ≤ MAX_HASH_FUNCS := by
  have := truncInt_le (min y ((MAX_HASH_FUNCS : Nat) : Rat)) (MAX_HASH_FUNCS : Nat) (by decide)
    (by rw [Rat.intCast_natCast]; exact min_le_cap y _)
  have := toNat_eq_ok h
  omega

theorem sizeBytes_bits_le (x : Rat) (hx : 0 ≤ x) (n : Nat) (h : sizeBytes x = .ok n) : ((n : Int) : Rat) * 8 ≤ x := by
  have h0 : 0 ≤ min x ((MAX_BLOOM_FILTER_SIZE * 8 : Nat) : Rat) / 8 := by
    have := min_nonneg hx (show (0 : Rat) ≤ ((MAX_BLOOM_FILTER_SIZE * 8 : Nat) : Rat) by decide)
    grind
  have := truncInt_le_self h0
  have := min_le_arg x ((MAX_BLOOM_FILTER_SIZE * 8 : Nat) : Rat)
  rw [toNat_eq_ok h]
  grind

theorem hashFuncs_le_y (y : Rat) (hy : 0 ≤ y) (k : Nat) (h : hashFuncs y = .ok k) : ((k : Int) : Rat) ≤ y := by
  have := truncInt_le_self (min_nonneg hy (show (0 : Rat) ≤ ((MAX_HASH_FUNCS : Nat) : Rat) by decide))
  have := min_le_arg y ((MAX_HASH_FUNCS : Nat) : Rat)
  rw [toNat_eq_ok h]
  grind

theorem sizeBytes_ok {x : Rat} (hx : 0 ≤ x) : ∃ n, sizeBytes x = .ok n := by
  have h8 : 0 ≤ min x ((MAX_BLOOM_FILTER_SIZE * 8 : Nat) : Rat) / 8 := by
    have := min_nonneg hx (show (0 : Rat) ≤ ((MAX_BLOOM_FILTER_SIZE * 8 : Nat) : Rat) by decide)
    grind
  exact ⟨_, toNat_ok .valueerr (truncInt_nonneg h8)⟩

theorem hashFuncs_ok {y : Rat} (hy : 0 ≤ y) : ∃ k, hashFuncs y = .ok k :=
  ⟨_, toNat_ok outOfModel (truncInt_nonneg (min_nonneg hy (show (0 : Rat) ≤ ((MAX_HASH_FUNCS : Nat) : Rat) by decide)))⟩

theorem create_eq_ok {x : Res Rat} {y : Nat → Res Rat} {t fl : Nat} {f : Filter} :
    create x y t fl = .ok f ↔ ∃ xv n yv k, x = .ok xv ∧ sizeBytes xv = .ok n ∧ y n = .ok yv ∧
      hashFuncs yv = .ok k ∧ f = { vData := List.replicate n 0, nHashFuncs := k, nTweak := t, nFlags := fl } := by
  constructor
  · intro h
    obtain ⟨xv, hx, h⟩ := Codec.bind_ok_inv (x := x) h
    obtain ⟨n, hn, h⟩ := Codec.bind_ok_inv h
    obtain ⟨yv, hy, h⟩ := Codec.bind_ok_inv h
    obtain ⟨k, hk, h⟩ := Codec.bind_ok_inv h
    exact ⟨xv, n, yv, k, hx, hn, hy, hk, (Except.ok.inj h).symm⟩
  · rintro ⟨xv, n, yv, k, rfl, hn, hy, hk, rfl⟩
    unfold create
    rw [Codec.ok_bind, hn, Codec.ok_bind, hy, Codec.ok_bind, hk]
    rfl

theorem create_y_error {xv : Rat} {y : Nat → Res Rat} {n : Nat} {e : Exc} (t fl : Nat) (hn : sizeBytes xv = .ok n)
    (hy : y n = .error e) : create (.ok xv) y t fl = .error e := by
  unfold create
  rw [Codec.ok_bind, hn, Codec.ok_bind, hy]
  rfl

/-! ### reload and histories -/

theorem reload_ok (f : Filter) (hl : f.vData.length ≤ Wire.MAX_SIZE) (hp : Packs f) : reload f = .ok f := by
  have henc := ser_eq f hl hp
  unfold reload
  rw [henc, Codec.ok_bind, deserialize_ser f _ henc hl]
  rfl

theorem reload_eq (f g : Filter) (hlen : f.vData.length ≤ Wire.MAX_SIZE) (h : reload f = .ok g) : g = f := by
  obtain ⟨enc, he, h⟩ := Codec.bind_ok_inv (x := ser f) h
  rw [deserialize_ser f enc he hlen] at h
  exact (Except.ok.inj h).symm

/-- `g` has the shape of `f` and at least its bits -/
def Sub (f g : Filter) : Prop :=
  g.vData.length = f.vData.length ∧ g.nHashFuncs = f.nHashFuncs ∧ g.nTweak = f.nTweak ∧
    ∀ j, Spec.Bloom.bitSet f.vData j → Spec.Bloom.bitSet g.vData j

theorem Sub.refl (f : Filter) : Sub f f := ⟨rfl, rfl, rfl, fun _ h => h⟩

theorem Sub.trans {f g h : Filter} (a : Sub f g) (b : Sub g h) : Sub f h :=
  ⟨b.1.trans a.1, b.2.1.trans a.2.1, b.2.2.1.trans a.2.2.1, fun j hj => b.2.2.2 j (a.2.2.2 j hj)⟩

theorem Sub.matches {f g : Filter} (s : Sub f g) (e : Bytes)
    (h : Spec.Bloom.specMatches f.vData f.nHashFuncs (UInt32.ofNat f.nTweak) e) :
    Spec.Bloom.specMatches g.vData g.nHashFuncs (UInt32.ofNat g.nTweak) e := by
  obtain ⟨hl, hk, ht, hb⟩ := s
  unfold Spec.Bloom.specMatches at *
  rw [hl, hk, ht]
  rcases h with h | h
  · left; rw [← List.length_eq_zero_iff] at *; omega
  · right; intro j hj; exact hb j (h j hj)

theorem insertElem_ok {x : Elem} {e : Bytes} (f : Filter) (he : x.toBytes = .ok e) :
    insertElem f x = Model.Bloom.insert f e := by
  unfold insertElem; rw [he]; rfl

theorem containsElem_ok {x : Elem} {e : Bytes} (f : Filter) (he : x.toBytes = .ok e) :
    containsElem f x = Model.Bloom.contains f e := by
  unfold containsElem; rw [he]; rfl

theorem step_spec (f g : Filter) (op : Op) (hlen : f.vData.length ≤ Wire.MAX_SIZE) (h : step f op = .ok g) :
    Sub f g ∧ (∀ x, Op.insert x = op → ∃ e, x.toBytes = .ok e) ∧
    ∀ j, bitSet g.vData j ↔ (bitSet f.vData j ∨ ∃ x e, Op.insert x = op ∧ x.toBytes = .ok e ∧ f.vData ≠ [] ∧
      j ∈ bitsOf (f.vData.length * 8) f.nHashFuncs (UInt32.ofNat f.nTweak) e) := by
  cases op with
  | insert x =>
    obtain ⟨e, he, h⟩ := Codec.bind_ok_inv (x := x.toBytes) (f := Model.Bloom.insert f) h
    obtain ⟨g', hg, hl, hk, ht, _, hb⟩ := insert_spec f e
    cases hg.symm.trans h
    refine ⟨⟨hl, hk, ht, fun j hj => (hb j).2 (Or.inl hj)⟩, fun _ hx => Op.insert.inj hx ▸ ⟨e, he⟩, fun j => ?_⟩
    rw [hb j]
    refine or_congr_right ⟨fun h => ⟨x, e, rfl, he, h⟩, fun ⟨x', e', hx, he', h⟩ => ?_⟩
    cases hx
    cases he.symm.trans he'
    exact h
  | reload =>
    cases reload_eq f g hlen h
    exact ⟨Sub.refl f, nofun, fun j => ⟨Or.inl, fun h => h.elim id fun ⟨_, _, hx, _⟩ => nomatch hx⟩⟩

theorem run_cons_ok {f g : Filter} {op : Op} (ops : List Op) (h : step f op = .ok g) :
    run f (op :: ops) = run g ops := by
  rw [run, h]; rfl

theorem run_spec : ∀ (ops : List Op) (f0 f : Filter), f0.vData.length ≤ Wire.MAX_SIZE → run f0 ops = .ok f →
    Sub f0 f ∧ (∀ x, Op.insert x ∈ ops → ∃ e, x.toBytes = .ok e) ∧
    ∀ j, bitSet f.vData j ↔ (bitSet f0.vData j ∨ ∃ x e, Op.insert x ∈ ops ∧ x.toBytes = .ok e ∧ f0.vData ≠ [] ∧
      j ∈ bitsOf (f0.vData.length * 8) f0.nHashFuncs (UInt32.ofNat f0.nTweak) e)
  | [], f0, f, _, h => by
    cases h
    exact ⟨Sub.refl _, nofun, fun j => ⟨Or.inl, fun h => h.elim id fun ⟨_, _, hm, _⟩ => nomatch hm⟩⟩
  | op :: ops, f0, f, hlen, h => by
    obtain ⟨g, h1, h2⟩ := Codec.bind_ok_inv (x := step f0 op) h
    obtain ⟨s1, t1, b1⟩ := step_spec f0 g op hlen h1
    obtain ⟨s2, t2, b2⟩ := run_spec ops g f (s1.1 ▸ hlen) h2
    refine ⟨s1.trans s2, fun x hx => (List.mem_cons.1 hx).elim (t1 x) (t2 x), fun j => ?_⟩
    have hne : g.vData ≠ [] ↔ f0.vData ≠ [] := by
      rw [Ne, Ne, ← List.length_eq_zero_iff, ← List.length_eq_zero_iff, s1.1]
    rw [b2 j, b1 j, s1.1, s1.2.1, s1.2.2.1, hne, or_assoc]
    simp only [List.mem_cons, or_and_right, exists_or]

end BtcVerif.Bloom

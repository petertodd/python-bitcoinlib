/-
  Lemmas behind Props/Coherence.lean: the legacy sigop loop as a sum of weights, the two `GetTxid` models,
  the two FindAndDelete folds step by step, the two `_bignum` length functions, C12's `recodeOp` against
  C08's builder, and removal of OP_CODESEPARATOR as Core's FindAndDelete (`fad_codesep`).
-/
import BtcVerif.Props.C01
import BtcVerif.Props.C02
import BtcVerif.Props.C03
import BtcVerif.Props.C06
import BtcVerif.Props.C08
import BtcVerif.Props.C10
import BtcVerif.Props.C12
import BtcVerif.Props.C13
import BtcVerif.Props.C14
import BtcVerif.Props.C15
import BtcVerif.Props.C16
import BtcVerif.Props.C17
import BtcVerif.Props.C18
import BtcVerif.Spec.ValueSem

namespace BtcVerif.CoherenceProofs
open BtcVerif

theorem sigOpsLoop_legacy (ops : List Model.Script.RawOp) : ∀ (n last : Nat),
    Model.Script.sigOpsLoop false ops n last = .ok (n + (ops.map BlockCheckProofs.opWeight).sum) := by
  induction ops with
  | nil => intro n last; simp [Model.Script.sigOpsLoop]
  | cons o r ih =>
    intro n last
    have hstep : Model.Script.sigOpsStep false n last o.opcode = .ok (n + BlockCheckProofs.opWeight o) := by
      unfold Model.Script.sigOpsStep BlockCheckProofs.opWeight
      by_cases h1 : o.opcode = 0xac ∨ o.opcode = 0xad
      · simp [h1]
      · by_cases h2 : o.opcode = 0xae ∨ o.opcode = 0xaf
        · simp [h1, h2]
        · simp [h1, h2]
    simp only [Model.Script.sigOpsLoop, hstep, ih, List.map_cons, List.sum_cons]
    congr 1; omega

theorem ident_getTxid_eq_merkle_all (t : Tx) : Model.Ident.getTxid t = Model.Merkle.getTxid t := by
  have hcv : Model.Ident.ctorValid t = Model.Merkle.ctorValid t := rfl
  unfold Model.Ident.getTxid Model.Ident.getTxidWith Model.Ident.witNeDefault Model.Merkle.getTxid
  cases hw : Model.Wire.serWitness t.wit with
  | error e => rfl
  | ok w =>
    have h0 : Model.Wire.serWitness [] = .ok [] := rfl
    simp only [bind, Except.bind, h0, pure, Except.pure, hcv]
    by_cases hne : w = []
    · subst hne
      simp
      cases Model.Wire.serTx t <;> rfl
    · have : (w != []) = true := by simpa using hne
      simp only [this, if_true, ne_eq, hne, not_false_eq_true]
      cases hc : Model.Merkle.ctorValid t with
      | false => simp [throw, throwThe, MonadExceptOf.throw]
      | true =>
        simp only [Bool.not_true, Bool.false_eq_true, if_false, if_true]
        unfold Tx.strip
        cases Model.Wire.serTx { t with wit := [] } <;> rfl

theorem ident_getTxid_eq_merkle (t : Tx) (_h : t.vin.all Spec.ValueSem.validTxIn = true) :
    Model.Ident.getTxid t = Model.Merkle.getTxid t := ident_getTxid_eq_merkle_all t

theorem fad_fold (script sig : Bytes) (ops : List Model.Script.RawOp) :
    ∀ (a : Model.Sighash.FadState) (b : Model.ScriptEval.FadAcc),
      a.r = b.r → a.last = b.last → a.skip = b.skip →
      let a' := ops.foldl (Model.Sighash.fadStep script sig) a
      let b' := ops.foldl (Model.ScriptEval.fadStep script sig) b
      a'.r = b'.r ∧ a'.last = b'.last ∧ a'.skip = b'.skip := by
  induction ops with
  | nil => intro a b h1 h2 h3; exact ⟨h1, h2, h3⟩
  | cons o r ih =>
    intro a b h1 h2 h3
    simp only [List.foldl_cons]
    apply ih
    · simp only [Model.Sighash.fadStep, Model.ScriptEval.fadStep, Model.Sighash.pySlice,
        Model.ScriptEval.slice, h1, h2, h3]
    · rfl
    · rfl

theorem bitLength_same (n : Nat) : Model.ScriptEval.bitLength n = Model.Script.bitLength n := by
  induction n using Nat.strongRecOn with
  | _ n ih =>
    rw [Model.ScriptEval.bitLength, Model.Script.bitLength]
    by_cases h : n = 0
    · simp [h]
    · simp only [h, dite_false]
      rw [ih (n / 2) (by omega)]

theorem bnBytes_same (n : Nat) (e : Bool) : Model.ScriptEval.bnBytes n e = Model.Script.bnBytes n e := by
  simp [Model.ScriptEval.bnBytes, Model.Script.bnBytes, bitLength_same]

theorem leMinimal_byteLen (m : Nat) : Spec.Script.Ref.leMinimal m = leBytes (Spec.Script.byteLen m) m := by
  rw [Model.ScriptEval.leMinimal_eq, bnBytes_same]
  unfold Model.Script.bnBytes
  simp only [Bool.false_eq_true, if_false, Nat.add_zero]
  rw [bnBytes_eq]

open Model.Script in
theorem recodeOp_eq_coerce (o : RawOp) (hw : o.wf) :
    coerceInstance (cookTok o) = (Model.Addr.recodeOp o).map some := by
  obtain ⟨h256, hd⟩ := hw
  unfold Model.Addr.recodeOp cookTok
  by_cases h0 : o.opcode = 0
  · simp [h0, coerceInstance, encodeOpN, Except.map]
  · simp only [h0, if_false]
    rcases hdd : o.data with _ | d
    · have hgt : ¬ o.opcode ≤ 0x4e := by
        intro hle; have := hd.mpr hle; rw [hdd] at this; simp at this
      simp only
      by_cases hs : 0x51 ≤ o.opcode ∧ o.opcode ≤ 0x60
      · simp only [hs, and_self, if_true, coerceInstance]
        have h1 : (0 : Int) ≤ ((o.opcode - 0x50 : Nat) : Int) ∧ ((o.opcode - 0x50 : Nat) : Int) ≤ 16 := by omega
        have h2 : ¬ ((o.opcode - 0x50 : Nat) : Int) = 0 := by omega
        simp only [h1, and_self, if_true, encodeOpN, not_true_eq_false, if_false, h2, Except.map]
        congr 3
        have e : (81 + (((o.opcode - 80 : Nat) : Int)).toNat - 1) = o.opcode := by simp; omega
        rw [e]
      · simp only [hs, if_false, coerceInstance, h256, if_true, Except.map]
    · simp only [coerceInstance]
      rfl

open Model.Script in
theorem joinBytes_somes (l : List Bytes) : joinBytes (l.map some) = .ok l.flatten := by
  induction l with
  | nil => rfl
  | cons a r ih => simp [joinBytes, ih]

open Model.Script in
theorem coerceAll_recode (ops : List RawOp) (hw : ∀ o ∈ ops, o.wf) :
    coerceAll (ops.map cookTok) = (ops.mapM Model.Addr.recodeOp).map (fun l => l.map some) := by
  induction ops with
  | nil => rfl
  | cons o r ih =>
    have ih' := ih (fun x hx => hw x (by simp [hx]))
    rw [List.mapM_cons, List.map_cons, coerceAll, recodeOp_eq_coerce o (hw o (by simp)), ih']
    cases Model.Addr.recodeOp o with
    | error e => rfl
    | ok a =>
      cases r.mapM Model.Addr.recodeOp with
      | error e => rfl
      | ok bs => rfl

open Model.Script in
theorem recode_build (ops : List RawOp) (hw : ∀ o ∈ ops, o.wf) :
    (ops.mapM Model.Addr.recodeOp).map List.flatten = build (ops.map cookTok) := by
  unfold build
  rw [coerceAll_recode ops hw]
  cases ops.mapM Model.Addr.recodeOp with
  | error e => rfl
  | ok l => simp [Except.map, joinBytes_somes]

open Spec.Script in
theorem skipMatches_ab_cons (t : Bytes) : Ref.skipMatches [0xab] (0xab :: t) = Ref.skipMatches [0xab] t :=
  Model.ScriptEval.skipMatches_prefix (by simp) ⟨t, rfl⟩

open Spec.Script in
theorem skipMatches_ab_other (s : Bytes) (h : s.head? ≠ some 0xab) : Ref.skipMatches [0xab] s = s := by
  refine Model.ScriptEval.skipMatches_noprefix ?_
  rintro ⟨t, rfl⟩
  exact h rfl

open Spec.Script in
theorem fad_codesep : ∀ (n : Nat) (s : Bytes), s.length = n →
    Ref.findAndDelete s [0xab] = Spec.Sighash.scriptCodeNoSep s := by
  intro n
  induction n using Nat.strongRecOn with
  | _ n ih =>
    intro s hn
    have hne : ¬ (([0xab] : Bytes) = []) := by simp
    have ihf : ∀ t : Bytes, t.length < n → Ref.fadLoop [0xab] t = Spec.Sighash.scriptCodeNoSep t := by
      intro t ht
      have := ih t.length ht t rfl
      unfold Ref.findAndDelete at this
      simpa only [hne, if_false] using this
    unfold Ref.findAndDelete
    simp only [hne, if_false]
    cases s with
    | nil =>
      rw [Model.ScriptEval.fadLoop_unfold, SighashProofs.scriptCodeNoSep_eq, skipMatches_ab_other [] (by simp)]
      simp [Ref.getOp, Spec.Sighash.getOp]
    | cons b r =>
      by_cases hb : b = 0xab
      · subst hb
        have hg : Spec.Sighash.getOp (0xab :: r) = some (0xab, 1) := by
          simp [Spec.Sighash.getOp]
        rw [SighashProofs.scriptCodeNoSep_eq, hg]
        simp only [Spec.Sighash.OP_CODESEPARATOR, if_true, List.nil_append, List.drop_succ_cons, List.drop_zero]
        rw [← ihf r (by simp at hn; omega), Model.ScriptEval.fadLoop_unfold, Model.ScriptEval.fadLoop_unfold [0xab] r, skipMatches_ab_cons]
      · have hs : Ref.skipMatches [0xab] (b :: r) = b :: r := skipMatches_ab_other _ (by simp [hb])
        have hget := sighash_getOp_script b r
        rw [getOp_script_ref] at hget
        rw [Model.ScriptEval.fadLoop_unfold, SighashProofs.scriptCodeNoSep_eq, hs]
        cases hq : Ref.getOp (b :: r) with
        | none =>
          rw [hq] at hget
          simp only at hget
          rw [hget]
        | some x =>
          obtain ⟨o, d, rest⟩ := x
          rw [hq] at hget
          simp only at hget
          obtain ⟨k, hk, hk1, hk2, hrest, _⟩ := hget
          have hlen : (b :: r).length - rest.length = k := by
            rw [hrest, List.length_drop]; omega
          have hb' : ¬ (b = Spec.Sighash.OP_CODESEPARATOR) := by
            simpa [Spec.Sighash.OP_CODESEPARATOR] using hb
          rw [hk]
          simp only [hb', if_false, hlen]
          rw [ihf rest (by rw [hrest, List.length_drop, ← hn]; omega), hrest]

end BtcVerif.CoherenceProofs

/-
  Merkle trees and weights (C15): the loops of build_merkle_tree_from_txids against the recursive reference
  root; this model's `GetTxid` / `GetHash` against C02's; the witness tree; `CBlock.__init__`; `GetWeight`.
  `hash256` is never unfolded.
-/
import BtcVerif.Model.Merkle
import BtcVerif.Spec.Merkle
import BtcVerif.Proofs.Ident

namespace BtcVerif.MerkleProofs
open BtcVerif BtcVerif.Crypto BtcVerif.Model.Merkle BtcVerif.Model.Wire BtcVerif.Codec
open BtcVerif.Spec.Merkle (TxRange BlockRange)

theorem levelLoop_done {j size i : Nat} (tree : List Bytes) (h : size ≤ i) :
    levelLoop j size i tree = .ok tree := by
  unfold levelLoop
  simp [Nat.not_lt.mpr h]

theorem getElem?_mid {α : Type} (pre level acc : List α) (k : Nat) (hk : k < level.length) :
    (pre ++ level ++ acc)[pre.length + k]? = level[k]? := by
  rw [List.append_assoc, List.getElem?_append_right (by omega)]
  simp only [Nat.add_sub_cancel_left]
  rw [List.getElem?_append_left hk]

theorem getElem?_of_drop {α : Type} {l : List α} {i : Nat} {a : α} {r : List α}
    (h : l.drop i = a :: r) : l[i]? = some a := by
  have : (l.drop i)[0]? = some a := by rw [h]; rfl
  simpa [List.getElem?_drop] using this

/-- loop invariant of the inner `for`: with the slice `[j, j+size)` holding the current level
    and `acc` the nodes appended so far, the loop appends the pairing of the rest of the level -/
theorem levelLoop_spec (pre level : List Bytes) :
    ∀ (d : List Bytes) (i : Nat) (acc : List Bytes), level.drop i = d →
      levelLoop pre.length level.length i (pre ++ level ++ acc)
        = .ok (pre ++ level ++ (acc ++ Spec.Merkle.pairUp d)) := by
  intro d
  induction d using Spec.Merkle.pairUp.induct with
  | case1 =>
    intro i acc hd
    have hi : level.length ≤ i := by
      have := congrArg List.length hd
      simp at this; omega
    rw [levelLoop_done _ hi]; simp [Spec.Merkle.pairUp]
  | case2 a =>
    intro i acc hd
    have hlen : level.length - i = 1 := by
      have := congrArg List.length hd
      simpa using this
    have hi : i < level.length := by omega
    have ha : level[i]? = some a := getElem?_of_drop hd
    unfold levelLoop
    have hmin : min (i + 1) (level.length - 1) = i := by omega
    simp only [hi, if_true, hmin, getElem?_mid pre level acc i hi, ha]
    rw [levelLoop_done _ (by omega)]
    simp [Spec.Merkle.pairUp]
  | case3 a b rest ih =>
    intro i acc hd
    have hlen : level.length - i = rest.length + 2 := by
      have := congrArg List.length hd
      simpa using this
    have hi : i < level.length := by omega
    have hi1 : i + 1 < level.length := by omega
    have ha : level[i]? = some a := getElem?_of_drop hd
    have hd1 : level.drop (i + 1) = b :: rest := by
      have : level.drop (i + 1) = (level.drop i).drop 1 := by rw [List.drop_drop]
      rw [this, hd]; rfl
    have hb : level[i + 1]? = some b := getElem?_of_drop hd1
    have hd2 : level.drop (i + 2) = rest := by
      have : level.drop (i + 2) = (level.drop i).drop 2 := by rw [List.drop_drop]
      rw [this, hd]; rfl
    unfold levelLoop
    have hmin : min (i + 1) (level.length - 1) = i + 1 := by omega
    simp only [hi, if_true, hmin, getElem?_mid pre level acc i hi, ha]
    rw [getElem?_mid pre level acc (i + 1) hi1, hb]
    dsimp only
    have := ih (i + 2) (acc ++ [hash256 (a ++ b)]) hd2
    rw [show pre ++ level ++ acc ++ [hash256 (a ++ b)] = pre ++ level ++ (acc ++ [hash256 (a ++ b)]) by
      simp [List.append_assoc]]
    rw [this]
    simp [Spec.Merkle.pairUp, List.append_assoc]

/-- on an odd level the last node is paired with itself, so repeating it changes nothing one level up
    (the root of CVE-2012-2459) -/
theorem pairUp_repeat_last : ∀ (l : List Bytes) (x : Bytes), (l ++ [x]).length % 2 = 1 →
    Spec.Merkle.pairUp (l ++ [x] ++ [x]) = Spec.Merkle.pairUp (l ++ [x]) := by
  intro l
  induction l using Spec.Merkle.pairUp.induct with
  | case1 => intro x _; simp [Spec.Merkle.pairUp]
  | case2 a => intro x h; simp at h
  | case3 a b rest ih =>
    intro x h
    have h' : (rest ++ [x]).length % 2 = 1 := by simp at h ⊢; omega
    simp only [List.cons_append, Spec.Merkle.pairUp]
    rw [← ih x h']

theorem root_pairUp (l : List Bytes) (h : 2 ≤ l.length) :
    Spec.Merkle.root l = Spec.Merkle.root (Spec.Merkle.pairUp l) := by
  match l, h with
  | a :: b :: rest, _ => rw [Spec.Merkle.root]

/-- loop invariant of the outer `while`: the slice `[j, j+size)` is the current level; the last
    element of the finished tree is the root of that level -/
theorem treeLoop_spec : ∀ (n : Nat) (pre level : List Bytes), level.length = n → 1 ≤ n →
    ∃ tree, treeLoop pre.length level.length (pre ++ level) = .ok tree ∧
      tree.getLast? = Spec.Merkle.root level := by
  intro n
  induction n using Nat.strongRecOn with
  | _ n ih =>
    intro pre level hn h1
    by_cases h2 : n = 1
    · subst h2
      match level, hn with
      | [h], _ =>
        refine ⟨pre ++ [h], ?_, ?_⟩
        · unfold treeLoop; simp
        · simp [Spec.Merkle.root]
    · have hgt : level.length > 1 := by omega
      unfold treeLoop
      simp only [hgt, if_true]
      have hl := levelLoop_spec pre level level 0 [] (by simp)
      simp only [List.append_nil, List.nil_append] at hl
      rw [hl]
      dsimp only
      have hlen : (Spec.Merkle.pairUp level).length = (level.length + 1) / 2 := Spec.Merkle.pairUp_length level
      have := ih ((level.length + 1) / 2) (by omega) (pre ++ level) (Spec.Merkle.pairUp level) hlen (by omega)
      obtain ⟨tree, ht, hr⟩ := this
      refine ⟨tree, ?_, ?_⟩
      · rw [← ht, hlen]; simp
      · rw [hr, root_pairUp level (by omega)]

theorem buildTree_spec (hs : List Bytes) (hne : hs ≠ []) :
    ∃ tree, buildTreeFromTxids hs = .ok tree ∧ tree.getLast? = Spec.Merkle.root hs := by
  have h1 : 1 ≤ hs.length := by
    cases hs with
    | nil => exact absurd rfl hne
    | cons _ _ => simp
  have := treeLoop_spec hs.length [] hs rfl h1
  simpa [buildTreeFromTxids] using this

theorem root_eq_some (hs : List Bytes) : hs ≠ [] → ∃ r, Spec.Merkle.root hs = some r := by
  induction hs using Spec.Merkle.root.induct with
  | case1 => intro h; exact absurd rfl h
  | case2 h => intro _; exact ⟨h, by rw [Spec.Merkle.root]⟩
  | case3 a b rest ih =>
    intro _
    rw [Spec.Merkle.root]
    exact ih (by simp [Spec.Merkle.pairUp])

theorem pairUp_all {P : Bytes → Prop} (hP : ∀ x, P (hash256 x)) (l : List Bytes) :
    ∀ h ∈ Spec.Merkle.pairUp l, P h := by
  induction l using Spec.Merkle.pairUp.induct with
  | case1 => intro h hh; cases hh
  | case2 a =>
    intro h hh
    rw [Spec.Merkle.pairUp, List.mem_singleton] at hh
    rw [hh]; exact hP _
  | case3 a b rest ih =>
    intro h hh
    rw [Spec.Merkle.pairUp, List.mem_cons] at hh
    rcases hh with rfl | hh
    · exact hP _
    · exact ih h hh

theorem root_all {P : Bytes → Prop} (hP : ∀ x, P (hash256 x)) (hs : List Bytes) :
    (∀ h ∈ hs, P h) → ∀ r, Spec.Merkle.root hs = some r → P r := by
  induction hs using Spec.Merkle.root.induct with
  | case1 => intro _ r hr; rw [Spec.Merkle.root] at hr; cases hr
  | case2 h =>
    intro hall r hr
    rw [Spec.Merkle.root] at hr
    cases hr
    exact hall _ List.mem_cons_self
  | case3 a b rest ih =>
    intro _ r hr
    rw [Spec.Merkle.root] at hr
    exact ih (pairUp_all hP _) r hr

theorem root_spec (hs : List Bytes) (hne : hs ≠ []) :
    ∃ tree r, buildTreeFromTxids hs = .ok tree ∧ lastOf tree = .ok r ∧ Spec.Merkle.root hs = some r := by
  obtain ⟨tree, ht, hl⟩ := buildTree_spec hs hne
  obtain ⟨r, hr⟩ := root_eq_some hs hne
  exact ⟨tree, r, ht, by simp [lastOf, hl, hr], hr⟩

theorem ctorValid_of_range (t : Tx) (h : TxRange t) : ctorValid t = true := Codec.ctorValid_of_range h

/-- a transaction whose (stripped) serialisation exists passes the validating constructor: the
    serialiser's own `struct.pack` ranges and 32-byte assert are at least as strict -/
theorem ctorValid_of_ser (t : Tx) (inc : Bool) (s : Bytes) (h : serTx t inc = .ok s) : ctorValid t = true := by
  have key : (∃ v, serVector serTxIn t.vin = .ok v) ∧ (∃ l, packU 4 t.nLockTime = .ok l) := by
    unfold serTx at h
    obtain ⟨ver, _, h⟩ := bind_ok_inv h
    dsimp only at h
    split at h
    · split at h
      · obtain ⟨_, hthrow, _⟩ := bind_ok_inv h
        cases hthrow
      · obtain ⟨vin, hvin, h⟩ := bind_ok_inv h
        obtain ⟨vout, _, h⟩ := bind_ok_inv h
        obtain ⟨w, _, h⟩ := bind_ok_inv h
        obtain ⟨body, _, h⟩ := bind_ok_inv h
        obtain ⟨l, hl, _⟩ := bind_ok_inv h
        exact ⟨⟨vin, hvin⟩, ⟨l, hl⟩⟩
    · obtain ⟨vin, hvin, h⟩ := bind_ok_inv h
      obtain ⟨vout, _, h⟩ := bind_ok_inv h
      obtain ⟨body, _, h⟩ := bind_ok_inv h
      obtain ⟨l, hl, _⟩ := bind_ok_inv h
      exact ⟨⟨vin, hvin⟩, ⟨l, hl⟩⟩
  obtain ⟨⟨v, hv⟩, ⟨l, hl⟩⟩ := key
  have hl' := packU_ok_inv hl
  unfold ctorValid
  simp only [Bool.and_eq_true, decide_eq_true_eq, List.all_eq_true, beq_iff_eq]
  refine ⟨by omega, ?_⟩
  intro i hi
  obtain ⟨y, hy⟩ := serVector_ok_inv hv i hi
  obtain ⟨h1, h2, h3⟩ := serTxIn_ok_inv hy
  exact ⟨⟨h1, by omega⟩, by omega⟩

/-- the two mirrors of `CTransaction.GetTxid` (C02's, with the hash a parameter, and this one) are the same function -/
theorem getTxid_eq_ident (t : Tx) : getTxid t = Model.Ident.getTxidWith hash256 t := by
  unfold getTxid Model.Ident.getTxidWith Model.Ident.witNeDefault
  cases serWitness t.wit with
  | error e => rfl
  | ok w =>
    have hb : (w != []) = decide (w ≠ []) := by cases w <;> rfl
    show _ = (if (w != []) = true then _ else _)
    rw [hb]
    by_cases hw : w = []
    · simp only [hw, ne_eq, not_true_eq_false, if_false, decide_false, Bool.false_eq_true]
      cases serTx t <;> rfl
    · simp only [hw, ne_eq, not_false_eq_true, if_true, decide_true]
      rw [show Model.Ident.ctorValid t = ctorValid t from rfl]
      cases ctorValid t
      · rfl
      · unfold Tx.strip
        generalize serTx { t with wit := [] } = r
        cases r <;> rfl

theorem getTxid_ok (t : Tx) (h : TxRange t) : getTxid t = .ok (Spec.Merkle.txid t) :=
  (getTxid_eq_ident t).trans (getTxidWith_ok hash256 h)

theorem getHash_ok (t : Tx) (h : TxRange t) : getHash t = .ok (Spec.Merkle.wtxid t) :=
  congrArg (Except.map hash256) (serTx_ok h)

theorem calcMerkleRoot_spec (vtx : List Tx) (hne : vtx ≠ []) (hr : ∀ t ∈ vtx, TxRange t) :
    ∃ tree r, buildTreeFromTxs vtx = .ok tree ∧ lastOf tree = .ok r ∧
      calcMerkleRoot vtx = .ok r ∧ Spec.Merkle.merkleRoot vtx = some r := by
  have hm := mapM_ok (f := getTxid) (g := Spec.Merkle.txid) vtx (fun t ht => getTxid_ok t (hr t ht))
  have hne' : vtx.map Spec.Merkle.txid ≠ [] := by simpa using hne
  obtain ⟨tree, r, ht, hl, hs⟩ := root_spec _ hne'
  have hlen : vtx.length ≠ 0 := mt List.length_eq_zero_iff.mp hne
  have hb : buildTreeFromTxs vtx = .ok tree := by simp [buildTreeFromTxs, hm, ht]
  exact ⟨tree, r, hb, hl, by simp [calcMerkleRoot, hlen, hb, hl], hs⟩

theorem any_hasWitness (vtx : List Tx) :
    vtx.any (fun t => !witIsNull t.wit) = vtx.any (·.hasWitness) := by
  congr 1; funext t; exact (Tx.hasWitness_eq_not_witIsNull t).symm

theorem buildWitnessTree_spec (vtx : List Tx) (hr : ∀ t ∈ vtx, TxRange t) :
    (vtx.any (·.hasWitness) = false → buildWitnessTree vtx = .ok none) ∧
    (vtx.any (·.hasWitness) = true →
      ∃ tree r, buildWitnessTree vtx = .ok (some tree) ∧ lastOf tree = .ok r ∧
        Spec.Merkle.witnessRoot vtx = some r) := by
  have hm := mapM_ok (f := getHash) (g := Spec.Merkle.wtxid) vtx (fun t ht => getHash_ok t (hr t ht))
  constructor
  · intro hw
    rw [← any_hasWitness] at hw
    simp [buildWitnessTree, hm, hw]
  · intro hw
    rw [← any_hasWitness] at hw
    match vtx, hw, hm with
    | cb :: rest, hw, hm =>
      obtain ⟨tree, r, ht, hl, hs⟩ := root_spec (zero32 :: rest.map Spec.Merkle.wtxid) (by simp)
      refine ⟨tree, r, ?_, hl, ?_⟩
      · simp [buildWitnessTree, hm, hw, ht, Except.map]
      · simpa [Spec.Merkle.witnessRoot, Spec.Merkle.zero32, zero32] using hs

theorem buildWitnessTree_ok (vtx : List Tx) (hr : ∀ t ∈ vtx, TxRange t) : ∃ o, buildWitnessTree vtx = .ok o := by
  obtain ⟨hnone, hsome⟩ := buildWitnessTree_spec vtx hr
  cases hany : vtx.any (·.hasWitness) with
  | false => exact ⟨none, hnone hany⟩
  | true => obtain ⟨t, _, h, _⟩ := hsome hany; exact ⟨some t, h⟩

theorem blockCtor_eq (hdr : Header) (vtx : List Tx) (hne : vtx ≠ []) (hr : ∀ t ∈ vtx, TxRange t) (r : Bytes)
    (hroot : Spec.Merkle.merkleRoot vtx = some r) :
    blockCtor hdr vtx =
      if hdr.hashMerkleRoot ≠ zero32 ∧ hdr.hashMerkleRoot ≠ r then .error .validation
      else if hdr.hashPrevBlock.length ≠ 32 then .error assertionError
      else if r.length ≠ 32 then .error assertionError
      else .ok { hdr := { hdr with hashMerkleRoot := r }, vtx := vtx } := by
  obtain ⟨tree, r', hb, hl, _, hs⟩ := calcMerkleRoot_spec vtx hne hr
  obtain rfl : r' = r := Option.some.inj (hs.symm.trans hroot)
  obtain ⟨o, ho⟩ := buildWitnessTree_ok vtx hr
  have hlen : vtx.length ≠ 0 := mt List.length_eq_zero_iff.mp hne
  unfold blockCtor
  simp only [hlen, ne_eq, not_false_eq_true, if_true, hb, hl, ho]
  by_cases hz : hdr.hashMerkleRoot = zero32
  · simp only [hz, not_true_eq_false, false_and, if_false, if_true]
  · by_cases hd : hdr.hashMerkleRoot = r'
    · rw [hd] at hz
      simp only [hd, hz, not_true_eq_false, and_false, if_false]
    · simp only [hz, hd, not_false_eq_true, and_self, if_true, if_false]

theorem getWeight_ok (b : Block) (h : BlockRange b) : getWeight b = .ok (Spec.Merkle.blockWeight b) := by
  simp [getWeight, serBlock_noWitness_ok h, serBlock_ok h, Spec.Merkle.blockWeight,
    Spec.Merkle.blockStripped, Except.map]
  omega

end BtcVerif.MerkleProofs

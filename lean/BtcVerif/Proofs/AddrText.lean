/-
  Addresses (C12), text forms: the Base58Check text of a table version byte and a 20-byte payload starts with
  '1', '3', 'm', 'n' or '2' (`b58text_head`), so no chain's bech32 reader accepts it; what the four chain rows have
  in common (`chain_facts`); the parser on prescribed texts (`parse_checkEnc`, `segwit_text_roundtrip`) and on a
  segwit address of another prefix (`bech32New_other_chain`).
-/
import BtcVerif.Proofs.AddrStd

namespace BtcVerif.AddrProofs
open BtcVerif BtcVerif.Spec
open BtcVerif.Spec.Addr (AddrClass Addr ValidFor stdScript prescribedAddr prescribedVer prescribedText)
open BtcVerif.Spec.Base58 (numeral58 digitChar enc checkEnc leadingZeros)
open BtcVerif.Model.Addr
open BtcVerif.Base58Proofs

/-! ### the leading character of a Base58Check text -/

/-- a leading character that no bech32 prefix of the four chains starts with (in either case) -/
def NotBechHead (s : List Char) : Prop :=
  ∃ c, s.head? = some c ∧ c.toLower ≠ 'b' ∧ c.toLower ≠ 't'

theorem enc_head_of_range (v : UInt8) (rest : Bytes) (hv : v ≠ 0) (k lo hi : Nat) (hlo : 1 ≤ lo)
    (hhi : hi ≤ 58) (h1 : lo * 58 ^ k ≤ v.toNat * 256 ^ rest.length)
    (h2 : (v.toNat + 1) * 256 ^ rest.length ≤ hi * 58 ^ k) :
    ∃ d, lo ≤ d ∧ d < hi ∧ (enc (v :: rest)).head? = some (digitChar d) := by
  have hN : beNat (v :: rest) = v.toNat * 256 ^ rest.length + beNat rest := by
    have := beNat_append [v] rest
    simpa [beNat] using this
  have hlt := beNat_lt rest
  unfold enc
  rw [leadingZeros_cons_ne v rest hv, List.replicate_zero, List.nil_append]
  apply numeral58_head_range k lo hi _ hlo hhi
  · omega
  · have : (v.toNat + 1) * 256 ^ rest.length = v.toNat * 256 ^ rest.length + 256 ^ rest.length := by ring
    omega

theorem b58text_head (v : UInt8) (rest : Bytes) (hr : rest.length = 24)
    (hv : v = 0 ∨ v = 5 ∨ v = 111 ∨ v = 196) : NotBechHead (enc (v :: rest)) := by
  rcases hv with rfl | rfl | rfl | rfl
  · refine ⟨'1', ?_, by decide, by decide⟩
    have : leadingZeros ((0 : UInt8) :: rest) = leadingZeros rest + 1 := by
      simp [leadingZeros, List.takeWhile_cons]
    simp [enc, this, List.replicate_succ]
  · obtain ⟨d, hd1, hd2, hd⟩ := enc_head_of_range 5 rest (by decide) 33 2 3 (by decide) (by decide)
      (by rw [hr]; decide) (by rw [hr]; decide)
    have : d = 2 := by omega
    subst this
    exact ⟨_, hd, by decide, by decide⟩
  · obtain ⟨d, hd1, hd2, hd⟩ := enc_head_of_range 111 rest (by decide) 33 44 46 (by decide) (by decide)
      (by rw [hr]; decide) (by rw [hr]; decide)
    have : d = 44 ∨ d = 45 := by omega
    rcases this with rfl | rfl
    · exact ⟨_, hd, by decide, by decide⟩
    · exact ⟨_, hd, by decide, by decide⟩
  · obtain ⟨d, hd1, hd2, hd⟩ := enc_head_of_range 196 rest (by decide) 34 1 2 (by decide) (by decide)
      (by rw [hr]; decide) (by rw [hr]; decide)
    have : d = 1 := by omega
    subst this
    exact ⟨_, hd, by decide, by decide⟩

/-! ### such a text is refused by the bech32 reader of every chain -/

theorem chain_facts : ∀ c ∈ chainTable,
    ((c.pubkeyAddr = 0 ∨ c.pubkeyAddr = 111) ∧ (c.scriptAddr = 5 ∨ c.scriptAddr = 196) ∧
      c.pubkeyAddr ≠ c.scriptAddr) ∧
    (c.bech32Hrp.toList.head? = some 'b' ∨ c.bech32Hrp.toList.head? = some 't') ∧
    (1 ≤ c.bech32Hrp.toList.length ∧ c.bech32Hrp.toList.length ≤ 83 ∧
      ∀ ch ∈ c.bech32Hrp.toList, 33 ≤ ch.toNat ∧ ch.toNat ≤ 126 ∧ ch.isUpper = false) ∧
    c.bech32Hrp.toList.length ≤ 4 := by decide +kernel

theorem not_decodes_of_head (chain : ChainParams) (hc : chain ∈ chainTable) (s : List Char)
    (hs : NotBechHead s) (v : Nat) (p : List Nat) : ¬ Bech32.Decodes chain.bech32Hrp.toList s v p := by
  intro hd
  obtain ⟨_, _, _, hne, rest, ck, dchars, _, _, hlow, _⟩ := hd
  obtain ⟨c, hc1, hb, ht⟩ := hs
  have h1 : (Bech32.lowerStr s).head? = some c.toLower := by
    cases s with
    | nil => simp at hc1
    | cons x xs =>
      simp only [List.head?_cons, Option.some.injEq] at hc1
      subst hc1
      simp [Bech32.lowerStr]
  have h2 : (chain.bech32Hrp.toList ++ '1' :: dchars).head? = chain.bech32Hrp.toList.head? :=
    head?_append_ne_nil _ _ hne
  rw [hlow, h2] at h1
  rcases (chain_facts chain hc).2.1 with h | h <;> rw [h] at h1 <;> simp only [Option.some.injEq] at h1
  · exact hb h1.symm
  · exact ht h1.symm

theorem bech32New_refuses (chain : ChainParams) (hc : chain ∈ chainTable) (s : List Char)
    (hs : NotBechHead s) : bech32New chain s = .error .bech32err :=
  bech32New_of_not_valid chain s fun ⟨v, p, hd⟩ => not_decodes_of_head chain hc s hs v p hd

/-! ### Base58Check texts through the parser -/

theorem str_eq_checkEnc (H : Bytes → Bytes) (v : UInt8) (p : Bytes) :
    Model.Base58.str H ⟨v, p⟩ = checkEnc H v p := by
  simp [Model.Base58.str, checkEnc, C10.encode_eq_spec]

theorem new_checkEnc (H : Bytes → Bytes) (hH : ∀ x, 4 ≤ (H x).length) (v : UInt8) (p : Bytes) :
    Model.Base58.new H (checkEnc H v p) = .ok ⟨v, p⟩ := by
  obtain ⟨d, _, hd, h⟩ := C10.check_roundtrip H hH v p
  subst hd
  rw [str_eq_checkEnc] at h
  exact h

theorem checkEnc_head (H : Bytes → Bytes) (hH : ∀ x, 4 ≤ (H x).length) (v : UInt8) (p : Bytes)
    (hp : p.length = 20) (hv : v = 0 ∨ v = 5 ∨ v = 111 ∨ v = 196) : NotBechHead (checkEnc H v p) := by
  unfold checkEnc
  rw [List.cons_append]
  apply b58text_head v _ _ hv
  have := hH (v :: p)
  simp only [List.length_append, List.length_take, hp]
  omega

theorem chain_versions (chain : ChainParams) (hc : chain ∈ chainTable) :
    (chain.pubkeyAddr = 0 ∨ chain.pubkeyAddr = 111) ∧ (chain.scriptAddr = 5 ∨ chain.scriptAddr = 196) ∧
    chain.pubkeyAddr ≠ chain.scriptAddr := (chain_facts chain hc).1

theorem tableVersion_cases (chain : ChainParams) (hc : chain ∈ chainTable) (t : AddrClass)
    (ht : t = .p2pkh ∨ t = .p2sh) :
    let v := UInt8.ofNat (prescribedVer chain t)
    (v = 0 ∨ v = 5 ∨ v = 111 ∨ v = 196) ∧ v.toNat = prescribedVer chain t := by
  obtain ⟨h1, h2, _⟩ := chain_versions chain hc
  rcases ht with rfl | rfl <;> simp only [prescribedVer]
  · rcases h1 with h | h <;> rw [h] <;> decide
  · rcases h2 with h | h <;> rw [h] <;> decide

theorem parse_checkEnc (H : Bytes → Bytes) (hH : ∀ x, 4 ≤ (H x).length) (B : ChainParams)
    (hB : B ∈ chainTable) (v : UInt8) (p : Bytes) (hp : p.length = 20)
    (hv : v = 0 ∨ v = 5 ∨ v = 111 ∨ v = 196) :
    parse H B (checkEnc H v p) =
      match classify B ⟨v, p⟩ with
      | .ok a => .ok a
      | .error e => .error e := by
  unfold parse
  rw [bech32New_refuses B hB _ (checkEnc_head H hH v p hp hv)]
  simp only [base58New, new_checkEnc H hH]
  cases hcl : classify B ⟨v, p⟩ with
  | ok a => rfl
  | error e =>
    have : e = .addrerr := by
      unfold classify at hcl
      split at hcl
      · cases hcl
      · split at hcl
        · cases hcl
        · cases hcl; rfl
    subst this
    rfl

/-! ### segwit texts through the parser -/

theorem parse_of_decodes0 (H : Bytes → Bytes) (chain : ChainParams) (s : List Char) (payload : Bytes)
    (hd : Bech32.Decodes chain.bech32Hrp.toList s 0 (payload.map UInt8.toNat)) (a : Addr)
    (ha : bech32FromBytes 0 (payload.map UInt8.toNat) = .ok a) : parse H chain s = .ok a := by
  have := (BtcVerif.Bech32.decodeR_iff _ _ _ _).2 hd
  unfold parse bech32New
  rw [this]
  simp only [ha]

theorem segwit_text_roundtrip (H : Bytes → Bytes) (chain : ChainParams) (hc : chain ∈ chainTable)
    (t : AddrClass) (ht : t = .p2wpkh ∨ t = .p2wsh) (payload : Bytes) (hlen : payload.length = t.payloadLen) :
    ∃ text, toText H chain (prescribedAddr chain t payload) = .ok text ∧
      prescribedText H chain t payload = some text ∧
      parse H chain text = .ok (prescribedAddr chain t payload) := by
  obtain ⟨hh, hl4⟩ : Bech32.validHrp chain.bech32Hrp.toList ∧ chain.bech32Hrp.toList.length ≤ 4 :=
    (chain_facts chain hc).2.2
  have hp : payload.length = 20 ∨ payload.length = 32 := by
    rcases ht with rfl | rfl <;> simp [AddrClass.payloadLen] at hlen <;> omega
  have hlen90 : chain.bech32Hrp.toList.length + 1 + (1 + (8 * payload.length + 4) / 5 + 6) ≤ 90 := by
    rcases hp with h | h <;> rw [h] <;> omega
  obtain ⟨a, h1, h2, h3, _⟩ := BtcVerif.Bech32.encode_spec chain.bech32Hrp.toList 0 payload hh
    (by omega) (by omega) (by omega) (fun _ => hp) hlen90
  refine ⟨a, ?_, ?_, ?_⟩
  · rcases ht with rfl | rfl <;>
      simp [toText, prescribedAddr, prescribedVer, Model.Bech32.cbech32Str, h1]
  · rcases ht with rfl | rfl <;> simp [prescribedText, h2]
  · apply parse_of_decodes0 H chain a payload h3
    rcases ht with rfl | rfl
    · simp only [AddrClass.payloadLen] at hlen
      rw [bech32FromBytes_20 payload hlen]; rfl
    · simp only [AddrClass.payloadLen] at hlen
      rw [bech32FromBytes_32 payload hlen]; rfl

theorem bech32New_other_chain (A B : ChainParams) (hne : A.bech32Hrp ≠ B.bech32Hrp) (s : List Char) (v : Nat)
    (p : List Nat) (hd : Bech32.Decodes A.bech32Hrp.toList s v p) : bech32New B s = .error .bech32err :=
  bech32New_of_not_valid B s fun ⟨_, _, hd'⟩ =>
    hne (String.toList_injective (BtcVerif.Bech32.decodes_prefix_unique hd hd'))

end BtcVerif.AddrProofs

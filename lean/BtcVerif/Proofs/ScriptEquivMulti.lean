/-
  C06 — simulation lemma for OP_CHECKMULTISIG(VERIFY): the index arithmetic of `_CheckMultiSig`
  against the reference's take / drop formulation.
-/
import BtcVerif.Proofs.ScriptEquivSig
import BtcVerif.Proofs.ScriptEvalInv4

namespace BtcVerif.Model.ScriptEval
open BtcVerif BtcVerif.Spec BtcVerif.Spec.Script BtcVerif.Model.Script

theorem take_drop_cons {α} (s : List α) (i n : Nat) (hi : i < s.length) (hn : 1 ≤ n) :
    (s.drop i).take n = s[i] :: (s.drop (i + 1)).take (n - 1) := by
  obtain ⟨m, rfl⟩ : ∃ m, n = m + 1 := ⟨n - 1, by omega⟩
  rw [List.drop_eq_getElem_cons hi, List.take_succ_cons]
  rfl

theorem getTop?_getElem {α} (l : List α) (k : Int) (h1 : 1 ≤ k) (h2 : k ≤ l.length) :
    getTop? l k = some (l[(k - 1).toNat]'(by omega)) := by
  simp [getTop?, h1]

/-- `for k in range(sigs_count): … FindAndDelete(script, CScript([sig]))` against the reference's
    fold over the signatures, for a subscript that tokenises -/
theorem msDropSigs_sim (st : St) (isig : Int) (hel : ∀ x ∈ st.stack, x.length < 2 ^ 32) :
    ∀ (n k : Nat) (m r : Bytes), SubRel m r → (rawIter m).2 = none → 1 ≤ isig + k →
      isig + k + n ≤ st.stack.length + 1 →
      ∃ m', msDropSigs st isig n k m = .ok m' ∧ (rawIter m').2 = none ∧ m'.length ≤ m.length ∧
        SubRel m' (((st.stack.drop (isig + k - 1).toNat).take n).foldl
          (fun sc sig => Ref.findAndDelete sc (Ref.pushEnc sig)) r) := by
  intro n
  induction n with
  | zero => intro k m r hrel hp _ _; exact ⟨m, rfl, hp, Nat.le_refl _, by simpa using hrel⟩
  | succ n ih =>
    intro k m r hrel hp h1 h2
    have hlt : (isig + k - 1).toNat < st.stack.length := by omega
    have hget := getTop?_getElem st.stack (isig + k) h1 (by omega)
    have hxl : (st.stack[(isig + k - 1).toNat]).length < 2 ^ 32 := hel _ (List.getElem_mem hlt)
    have hpat := pushEnc_pat _ hxl
    have hfad := findAndDelete_eq st.cap m (Ref.pushEnc st.stack[(isig + k - 1).toNat]) hpat
    simp only [hp, Option.isSome_none, Bool.false_eq_true, if_false] at hfad
    have hnext := ih (k + 1) (Ref.findAndDelete m (Ref.pushEnc st.stack[(isig + k - 1).toNat]))
      (Ref.findAndDelete r (Ref.pushEnc st.stack[(isig + k - 1).toNat])) (subRel_fad hpat hrel)
      (findAndDelete_parses m _ hpat hp) (by omega) (by omega)
    obtain ⟨m', hm1, hm2, hml, hm3⟩ := hnext
    refine ⟨m', ?_, hm2, ?_, ?_⟩
    · simp only [msDropSigs, hget, pyIdx, encodeOpPushdata_eq _ hxl, hfad, bind, Except.bind]
      exact hm1
    · have := ref_findAndDelete_length_le m (Ref.pushEnc st.stack[(isig + k - 1).toNat]); omega
    · rw [take_drop_cons st.stack _ (n + 1) hlt (by omega)]
      simp only [List.foldl_cons, Nat.add_sub_cancel]
      have hsh : (isig + ((k + 1 : Nat) : Int) - 1).toNat = (isig + k - 1).toNat + 1 := by omega
      rw [hsh] at hm3
      exact hm3

theorem length_take_drop {α} (s : List α) (i n : Nat) (h : i + n ≤ s.length) :
    ((s.drop i).take n).length = n := by
  simp only [List.length_take, List.length_drop]; omega

/-- the `while success and sigs_count > 0` loop, on the signatures from position `i` and the keys
    from position `j` of the stack, against the reference's list recursion -/
theorem msLoop_sim (c : Ctx) (sop : Nat) (script' code' : Bytes) (st : St) (hsh : SigHashOK c)
    (hcs : CodesepInsensitive c.env) (hrel : SubRel script' code') (hparse : (rawIter script').2 = none)
    (hlen' : script'.length ≤ MAX_SCRIPT_SIZE) (nk : Nat) :
    ∀ (i j ns : Nat), 1 ≤ ns → ns ≤ nk → i + ns ≤ st.stack.length → j + nk ≤ st.stack.length →
      msLoop c sop script' st (i + 1) ns (j + 1) nk =
        if Ref.multiSigLoop (fun sig key => Ref.checkSig c.env sig key code')
            ((st.stack.drop i).take ns) ((st.stack.drop j).take nk)
        then .ok true else (if sop = 0xaf then raiseNamed sop st else .ok false) := by
  induction nk with
  | zero => intro i j ns h1 h2; omega
  | succ nk ih =>
    intro i j ns hs1 hs2 hi hj
    have hil : i < st.stack.length := by omega
    have hjl : j < st.stack.length := by omega
    obtain ⟨ns', rfl⟩ : ∃ ns', ns = ns' + 1 := ⟨ns - 1, by omega⟩
    have hck := checkSig_sim c st.cap st.stack[i] st.stack[j] script' code' hsh hcs hrel hparse hlen'
    rw [msLoop, getTop?_succ _ _ (Int.natCast_nonneg i), getTop?_succ _ _ (Int.natCast_nonneg j),
      Int.toNat_natCast, Int.toNat_natCast, List.getElem?_eq_getElem hil, List.getElem?_eq_getElem hjl]
    simp only [pyIdx_some, ok_bind, hck]
    rw [take_drop_cons st.stack i (ns' + 1) hil (by omega), take_drop_cons st.stack j (nk + 1) hjl (by omega),
      Ref.multiSigLoop]
    simp only [List.length_cons, Nat.add_sub_cancel,
      length_take_drop st.stack (i + 1) ns' (by omega), length_take_drop st.stack (j + 1) nk (by omega)]
    have ek : ((nk + 1 : Nat) : Int) - 1 = (nk : Int) := by omega
    have ej : ((j : Nat) : Int) + 1 + 1 = ((j + 1 : Nat) : Int) + 1 := by omega
    rw [ek, ej]
    cases Ref.checkSig c.env st.stack[i] st.stack[j] code'
    · -- the signature does not match this key: next key
      simp only [Bool.false_eq_true, if_false]
      by_cases hgt : ns' + 1 > nk
      · have : ((ns' + 1 : Nat) : Int) > nk := by omega
        simp only [hgt, this, if_true, Bool.false_eq_true, if_false]
      · have h1 : ¬ ((ns' + 1 : Nat) : Int) > nk := by omega
        have h2 : ((ns' + 1 : Nat) : Int) > 0 := by omega
        simp only [hgt, h1, if_false, h2, dif_pos]
        rw [ih i (j + 1) (ns' + 1) (by omega) (by omega) hi (by omega),
          take_drop_cons st.stack i (ns' + 1) hil (by omega)]
        rfl
    · -- match: next signature, next key
      simp only [if_true]
      have es : ((ns' + 1 : Nat) : Int) - 1 = (ns' : Int) := by omega
      have ei : ((i : Nat) : Int) + 1 + 1 = ((i + 1 : Nat) : Int) + 1 := by omega
      rw [es, ei]
      by_cases hgt : ns' > nk
      · have : (ns' : Int) > nk := by omega
        simp only [hgt, this, if_true, Bool.false_eq_true, if_false]
      · have h1 : ¬ (ns' : Int) > nk := by omega
        simp only [hgt, h1, if_false]
        by_cases hpos : ns' > 0
        · have h2 : (ns' : Int) > 0 := by omega
          simp only [h2, dif_pos]
          rw [ih (i + 1) (j + 1) ns' (by omega) (by omega) (by omega) (by omega)]
        · obtain rfl : ns' = 0 := by omega
          simp only [List.take_zero, Ref.multiSigLoop, if_true]
          rfl

theorem msDropSigs_invalid (st : St) (isig : Int) (n k : Nat) (m : Bytes)
    (hel : ∀ x ∈ st.stack, x.length < 2 ^ 32) (htail : (rawIter m).2.isSome) (h1 : 1 ≤ isig + k)
    (h2 : isig + k + (n + 1) ≤ st.stack.length + 1) :
    msDropSigs st isig (n + 1) k m = .error (.invalid st.cap) := by
  have hlt : (isig + k - 1).toNat < st.stack.length := by omega
  have hget := getTop?_getElem st.stack (isig + k) h1 (by omega)
  have hxl : (st.stack[(isig + k - 1).toNat]).length < 2 ^ 32 := hel _ (List.getElem_mem hlt)
  have hfad := findAndDelete_eq st.cap m (Ref.pushEnc st.stack[(isig + k - 1).toNat]) (pushEnc_pat _ hxl)
  simp only [htail, if_true] at hfad
  simp only [msDropSigs, hget, pyIdx, encodeOpPushdata_eq _ hxl, hfad, bind, Except.bind]

theorem multisig_sim (c : Ctx) (fl : Flags) (script code : Bytes) (st : St) (sop : Nat)
    (hs : sop = 0xae ∨ sop = 0xaf) (hsh : SigHashOK c) (hcs : CodesepInsensitive c.env)
    (hel : ∀ x ∈ st.stack, x.length < 2 ^ 32) (hcode : CodeRel script st.pbegin code)
    (hnop : st.nOpCount ≤ MAX_OPS_PER_SCRIPT) (hsl : script.length ≤ MAX_SCRIPT_SIZE) :
    ArmT ((rawIter (script.drop st.pbegin)).2.isSome) code st
      (checkMultiSig c fl sop (script.drop st.pbegin) st)
      (Ref.opCheckMultiSig c.env fl (decide (sop = 0xaf)) (toRef st code)) := by
  rw [checkMultiSig_eq]
  obtain ⟨s, al, vf, pb, n⟩ := st
  dsimp only at hel hcode hnop ⊢
  unfold Ref.opCheckMultiSig
  dsimp only [toRef]
  rcases s with _ | ⟨kv, s1⟩
  · rw [raiseNamed_eq]; exact Or.inl rfl
  simp only [castToBigNum_ref, raiseNamed_eq, MAX_PUBKEYS_PER_MULTISIG, Nat.cast_ofNat]
  cases Ref.scriptNum? kv with
  | none => exact Or.inl rfl
  | some keys =>
    rw [ok_bind]
    dsimp only
    by_cases hk : keys < 0 ∨ keys > 20
    · rw [if_pos hk]; simp only [hk, if_true]; exact Or.inl rfl
    rw [if_neg hk]
    simp only [hk, if_false]
    by_cases hop : n + keys.toNat > MAX_OPS_PER_SCRIPT
    · rw [if_pos hop, if_pos hop]; exact Or.inl rfl
    rw [if_neg hop, if_neg hop]
    by_cases hl1 : s1.length < keys.toNat + 1
    · rw [if_pos hl1, if_pos hl1]; exact Or.inl rfl
    rw [if_neg hl1, if_neg hl1]
    have hnop' : n + keys.toNat ≤ MAX_OPS_PER_SCRIPT := by omega
    have hdrop := List.drop_eq_getElem_cons (show keys.toNat < s1.length by omega)
    have hsv : s1[keys.toNat]'(by omega) ∈ kv :: s1 := List.mem_cons_of_mem _ (List.getElem_mem _)
    generalize s1[keys.toNat]'(by omega) = sv at hdrop hsv
    generalize hs2 : s1.drop (keys.toNat + 1) = s2 at hdrop
    rw [hdrop]
    dsimp only
    cases Ref.scriptNum? sv with
    | none => exact Or.inl rfl
    | some sigs =>
      rw [ok_bind]
      dsimp only
      by_cases hsr : sigs < 0 ∨ sigs > keys
      · rw [if_pos hsr, if_pos hsr]; exact Or.inl rfl
      rw [if_neg hsr, if_neg hsr]
      by_cases hl2 : s2.length < sigs.toNat + 1
      · rw [if_pos hl2, if_pos hl2]; exact Or.inl rfl
      rw [if_neg hl2, if_neg hl2]
      have hlen1 : s2.length + 1 + keys.toNat = s1.length := by
        have := congrArg List.length hdrop
        simp only [List.length_drop, List.length_cons] at this; omega
      have hdr := List.drop_eq_getElem_cons (show sigs.toNat < s2.length by omega)
      generalize s2[sigs.toNat]'(by omega) = dummy at hdr
      generalize s2.drop (sigs.toNat + 1) = rest at hdr
      rw [hdr]
      dsimp only
      by_cases hpos : sigs > 0
      · simp only [hpos, if_true]
        have hst : (⟨kv :: s1, al, vf, pb, n + keys.toNat⟩ : St).stack = kv :: s1 := rfl
        cases htl : (rawIter (script.drop pb)).2 with
        | some e =>
          obtain ⟨k', hk'⟩ : ∃ k', sigs.toNat = k' + 1 := ⟨sigs.toNat - 1, by omega⟩
          rw [hk', msDropSigs_invalid ⟨kv :: s1, al, vf, pb, n + keys.toNat⟩ (2 + keys + 1) k' 0 (script.drop pb) hel
            (by rw [htl]; rfl) (by omega) (by simp only [hst, List.length_cons]; omega)]
          exact Or.inr ⟨rfl, _, rfl⟩
        | none =>
          obtain ⟨m', hm1, hm2, hml, hm3⟩ := msDropSigs_sim ⟨kv :: s1, al, vf, pb, n + keys.toNat⟩ (2 + keys + 1) hel
            sigs.toNat 0 (script.drop pb) code hcode.subRel htl (by omega) (by simp only [hst, List.length_cons]; omega)
          have hml' : m'.length ≤ MAX_SCRIPT_SIZE := by
            simp only [List.length_drop] at hml; omega
          have e1 : (2 + keys + 1 + ((0 : Nat) : Int) - 1).toNat = keys.toNat + 2 := by omega
          have e4 : (kv :: s1).drop (keys.toNat + 2) = s2 := by
            rw [show keys.toNat + 2 = (keys.toNat + 1) + 1 by omega, List.drop_succ_cons, hs2]
          simp only [hst, e1, e4] at hm3
          have hloop := msLoop_sim c sop m' _ ⟨kv :: s1, al, vf, pb, n + keys.toNat⟩ hsh hcs hm3 hm2 hml' keys.toNat
            (keys.toNat + 2) 1 sigs.toNat (by omega) (by omega)
            (by simp only [hst, List.length_cons]; omega) (by simp only [hst, List.length_cons]; omega)
          rw [show ((keys.toNat + 2 : Nat) : Int) + 1 = 2 + keys + 1 by omega,
            show ((sigs.toNat : Nat) : Int) = sigs by omega, show ((1 : Nat) : Int) + 1 = 2 by rfl,
            show ((keys.toNat : Nat) : Int) = keys by omega] at hloop
          simp only [hst, e4, List.drop_succ_cons, List.drop_zero] at hloop
          rw [hm1, ok_bind, hloop, raiseNamed_eq]
          -- the loop's verdict `b`, CHECKMULTISIG / CHECKMULTISIGVERIFY, NULLDUMMY off / on, dummy empty / not:
          -- both sides compute in each of the sixteen cases
          generalize Ref.multiSigLoop _ _ _ = b
          cases b <;> rcases hs with rfl | rfl <;> cases fl.nullDummy <;> rcases dummy with _ | ⟨d0, dr⟩ <;>
            first | exact ⟨rfl, rfl, hnop'⟩ | exact Or.inl rfl
      · -- no signatures: nothing is dropped, nothing is checked
        have hz : sigs.toNat = 0 := by omega
        simp only [hpos, if_false]
        rw [hz]
        simp only [msDropSigs, ok_bind, List.take_zero, List.foldl_nil, Ref.multiSigLoop]
        rcases hs with rfl | rfl <;> cases fl.nullDummy <;> rcases dummy with _ | ⟨d0, dr⟩ <;>
          first | exact ⟨rfl, rfl, hnop'⟩ | exact Or.inl rfl

end BtcVerif.Model.ScriptEval

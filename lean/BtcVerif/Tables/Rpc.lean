/-  T1 obligation: the RPC error-class table and COIN regenerated from /repo equal the reference.  -/
import BtcVerif.Generated.Rpc
import BtcVerif.Spec.Rpc

namespace BtcVerif.Tables.Rpc
open BtcVerif

theorem rpcErrorClasses_eq : Generated.rpcErrorClasses = Spec.Rpc.errorClasses := by decide +kernel

theorem rpcBaseClass_eq : Generated.rpcBaseClass = Spec.Rpc.baseClass := by decide +kernel

theorem rpcCoin_eq : Generated.rpcCoin = Spec.Rpc.COIN := by decide +kernel

end BtcVerif.Tables.Rpc

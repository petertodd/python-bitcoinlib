/-  T1 obligation: the base58 alphabet regenerated from /repo equals the reference alphabet.  -/
import BtcVerif.Generated.Base58
import BtcVerif.Spec.Base58

namespace BtcVerif.Tables.Base58
open BtcVerif

theorem alphabet_eq : Generated.b58Alphabet = Spec.Base58.alphabet := by decide +kernel

end BtcVerif.Tables.Base58

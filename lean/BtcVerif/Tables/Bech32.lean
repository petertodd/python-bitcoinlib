/-  T1 obligations: the bech32 tables regenerated from /repo equal the BIP173 reference tables.  -/
import BtcVerif.Generated.Bech32
import BtcVerif.Spec.Bech32

namespace BtcVerif.Tables.Bech32
open BtcVerif

theorem charset_eq : Generated.Bech32.charset = Spec.Bech32.charset := by decide +kernel

theorem generator_eq : Generated.Bech32.generator = Spec.Bech32.generator := by decide +kernel

end BtcVerif.Tables.Bech32

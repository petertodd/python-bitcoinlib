/-  T1 obligation: the signature-hash constants regenerated from /repo (SIGHASH_NONE / SINGLE / ANYONECANPAY,
    OP_CODESEPARATOR, the function-local HASH_ONE of RawSignatureHash) equal the reference values.  -/
import BtcVerif.Generated.Sighash

namespace BtcVerif.Tables.Sighash
open BtcVerif

theorem sighashTable_eq : Generated.sighashTable = Spec.Sighash.table := by decide +kernel

end BtcVerif.Tables.Sighash

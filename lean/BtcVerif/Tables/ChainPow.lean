/-  T1 obligation: the per-chain work limit and money supply regenerated from /repo equal the reference table.  -/
import BtcVerif.Generated.Chain

namespace BtcVerif.Tables.ChainPow
open BtcVerif

theorem chain_eq :
    Generated.chainTable.map (fun p => (p.name, p.powLimit, p.maxMoney)) =
      Spec.chainTable.map (fun p => (p.name, p.powLimit, p.maxMoney)) := by decide +kernel

end BtcVerif.Tables.ChainPow

/-  T1 obligation: the opcode VALUES and interpreter limits regenerated from /repo agree with the
    reference tables: every opcode constant the reference knows has the reference's value in the working
    tree (`OP_*` module constants / OPCODES_BY_NAME — the working tree may define more names), DISABLED_OPCODES,
    the unary / binary numeric opcode sets, and the five limits.
    Display NAMES (OPCODE_NAMES: what `repr` and error messages print) are NOT an obligation:
    no property names them; `Generated.opcodeTables.names` is listed in the generated file as evidence only.  -/
import BtcVerif.Generated.Opcodes

namespace BtcVerif.Tables.Opcodes
open BtcVerif

/-- the value the working tree gives to each opcode constant of the reference, in the reference's order
    (`none` = the constant is missing) — the working tree's table may contain more names -/
def valuesOfReferenceNames : List (String × Option Nat) :=
  Spec.opcodesByName.map fun p => (p.1, (Generated.opcodeTables.byName.find? fun q => q.1 == p.1).map (·.2))

/-- every opcode constant the reference knows has the reference's value in the working tree -/
theorem values_eq : valuesOfReferenceNames = Spec.opcodesByName.map fun p => (p.1, some p.2) := by decide +kernel
theorem disabled_eq : Generated.opcodeTables.disabled = Spec.disabledOpcodes := by decide +kernel
theorem numeric_sets_eq : Generated.opcodeTables.unary = Spec.unaryNumOps ∧
    Generated.opcodeTables.binary = Spec.binaryNumOps := by decide +kernel
theorem limits_eq :
    Generated.opcodeTables.maxScriptSize = Spec.MAX_SCRIPT_SIZE ∧
    Generated.opcodeTables.maxElementSize = Spec.MAX_SCRIPT_ELEMENT_SIZE ∧
    Generated.opcodeTables.maxOps = Spec.MAX_OPS_PER_SCRIPT ∧
    Generated.opcodeTables.maxStackItems = Spec.MAX_STACK_SIZE ∧
    Generated.opcodeTables.maxNumSize = Spec.MAX_NUM_SIZE := by decide +kernel

end BtcVerif.Tables.Opcodes

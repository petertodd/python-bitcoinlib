/-  T1 obligation: the consensus limits regenerated from /repo equal the reference table.  -/
import BtcVerif.Generated.Limits

namespace BtcVerif.Tables.Limits
open BtcVerif

theorem limits_eq : Generated.limits = Spec.limits := by decide +kernel

end BtcVerif.Tables.Limits

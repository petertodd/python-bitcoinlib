/-  T1 obligation of C18: each of the seventeen message types the property speaks about exists in the
    working tree with its protocol command string.  Nothing else is compared: class names, the way the
    library organises its classes, additional message types and the library's own constants are not
    named by the property (dispatch to the right type, the size limit and the protocol-version gates
    are observed by the correspondence run).  -/
import BtcVerif.Generated.Messages

namespace BtcVerif.Tables.Messages
open BtcVerif

/-- every command of the reference table is carried by some message class of the working tree -/
theorem commands_cover :
    (Spec.Msg.commandTable.map Prod.fst).all (fun c => Generated.Messages.commands.contains c) = true := by
  decide +kernel

end BtcVerif.Tables.Messages

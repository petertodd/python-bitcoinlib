/-  T1 obligation: the Bloom filter constants regenerated from /repo equal the BIP37 reference values.  -/
import BtcVerif.Generated.Bloom
import BtcVerif.Spec.Bloom

namespace BtcVerif.Tables.Bloom
open BtcVerif

theorem bloomConsts_eq : Generated.bloomConsts = Spec.Bloom.consts := by decide +kernel

/-- the two caps the reference names are the entries of its constant table -/
theorem caps_eq : Spec.Bloom.consts.lookup "MAX_BLOOM_FILTER_SIZE" = some Spec.Bloom.MAX_BLOOM_FILTER_SIZE ∧
    Spec.Bloom.consts.lookup "MAX_HASH_FUNCS" = some Spec.Bloom.MAX_HASH_FUNCS := by decide +kernel

end BtcVerif.Tables.Bloom

/-  T1 obligation: the per-chain WIF secret-key version byte regenerated from /repo equals the reference table.  -/
import BtcVerif.Generated.Chain

namespace BtcVerif.Tables.ChainSecret
open BtcVerif

theorem chain_eq :
    Generated.chainTable.map (fun p => (p.name, p.secretKey)) =
      Spec.chainTable.map (fun p => (p.name, p.secretKey)) := by decide +kernel

end BtcVerif.Tables.ChainSecret

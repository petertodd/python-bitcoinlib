/-  T1 obligation: `MAX_SIZE` of the working tree (bitcoin/core/serialize.py) is the wire format's limit
    used by Spec.Wire (`WF*` predicates) and by Model.Wire (`ser_read` guard).  -/
import BtcVerif.Generated.Wire
import BtcVerif.Spec.Wire
import BtcVerif.Model.Wire

namespace BtcVerif.Tables.Wire
open BtcVerif

theorem maxSize_eq : Generated.Wire.maxSize = (Spec.Wire.maxSize : Int) := by decide +kernel

theorem model_maxSize_eq : Model.Wire.MAX_SIZE = Spec.Wire.maxSize := by decide +kernel

end BtcVerif.Tables.Wire

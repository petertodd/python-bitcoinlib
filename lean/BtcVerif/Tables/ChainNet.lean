/-  T1 obligation: the per-chain P2P magic regenerated from /repo equal the reference table.  -/
import BtcVerif.Generated.Chain

namespace BtcVerif.Tables.ChainNet
open BtcVerif

theorem chain_eq :
    Generated.chainTable.map (fun p => (p.name, p.messageStart)) =
      Spec.chainTable.map (fun p => (p.name, p.messageStart)) := by decide +kernel

end BtcVerif.Tables.ChainNet

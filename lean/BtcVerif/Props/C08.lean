/-
  C08 — script building, tokenising, number codec and classification predicates: property theorems.
  Statements use only Model.Script.* (mirror of bitcoin/core/script.py and _bignum.py) and
  Spec.Script.* (Bitcoin Core's definitions).  Helper lemmas live in Proofs/C08*.lean.

  Every theorem quantifies over ALL integers / byte strings / token lists.  The only size side
  conditions are the ones the Python code itself has: `struct.pack(">I", n)` needs n < 2³² and
  `encode_op_pushdata` refuses more than 2³²−1 bytes.
-/
import BtcVerif.Proofs.C08Char

namespace BtcVerif.C08
open BtcVerif
open BtcVerif.Spec.Script (Token)

/-! ### script-number codec -/

/-- decoding the reference encoding of any integer gives the integer back -/
theorem numDecode_numEncode (z : Int) : Spec.Script.numDecode (Spec.Script.numEncode z) = z :=
  BtcVerif.numDecode_numEncode z

/-- the reference encoding of any integer passes Core's minimality test -/
theorem numEncode_minimal (z : Int) : Spec.Script.minimal (Spec.Script.numEncode z) :=
  BtcVerif.numEncode_minimal z

/-- every minimal string is the encoding of the integer it decodes to: with the two theorems above,
    numEncode / numDecode are a bijection between Int and the minimal strings -/
theorem numEncode_numDecode_of_minimal (b : Bytes) (h : Spec.Script.minimal b) :
    Spec.Script.numEncode (Spec.Script.numDecode b) = b :=
  BtcVerif.numEncode_numDecode b h

/-- `bn2vch` (through bn2mpi: bit_length, have_ext, sign-bit juggling, reversal) computes the
    reference encoding for every integer; its IndexError sites are dead and the only failure is
    `struct.pack(">I", size)` for an encoding of 2³² bytes or more -/
theorem bn2vch_eq_spec (z : Int) :
    Model.Script.bn2vch z =
      if (Spec.Script.numEncode z).length < 2 ^ 32 then .ok (Spec.Script.numEncode z)
      else .error structError :=
  bn2vch_eq z

/-- `vch2bn` (through vch2mpi / mpi2bn) computes the reference decoding of every byte string, minimal
    or not; it never returns None and never raises IndexError; the only failure is `struct.pack`
    on a length of 2³² or more -/
theorem vch2bn_eq_spec (b : Bytes) :
    Model.Script.vch2bn b =
      if b.length < 2 ^ 32 then .ok (some (Spec.Script.numDecode b)) else .error structError :=
  vch2bn_eq b

/-- `bn2vch` succeeds on every integer of magnitude below 128·256ⁿ for n + 1 < 2³² -/
theorem bn2vch_defined (z : Int) (n : Nat) (hz : z.natAbs < 128 * 256 ^ n) (hn : n + 1 < 2 ^ 32) :
    Model.Script.bn2vch z = .ok (Spec.Script.numEncode z) := by
  rw [bn2vch_eq_spec, if_pos]
  rw [numEncode_length]
  exact Nat.lt_of_le_of_lt (numLen_le_of_lt hz) hn

/-- vch2bn ∘ bn2vch = id on every integer on which bn2vch is defined -/
theorem vch2bn_bn2vch (z : Int) (b : Bytes) (h : Model.Script.bn2vch z = .ok b) :
    Model.Script.vch2bn b = .ok (some z) := by
  obtain ⟨rfl, hl⟩ := (bn2vch_ok_iff z b).mp h
  rw [vch2bn_eq_spec, if_pos hl, numDecode_numEncode]

/-- whatever bn2vch returns is minimal -/
theorem bn2vch_minimal (z : Int) (b : Bytes) (h : Model.Script.bn2vch z = .ok b) :
    Spec.Script.minimal b := by
  obtain ⟨rfl, _⟩ := (bn2vch_ok_iff z b).mp h
  exact numEncode_minimal z

/-- every minimal string (shorter than 2³² bytes) is what bn2vch returns for the integer vch2bn
    reads from it: bn2vch / vch2bn are a bijection between integers and minimal strings -/
theorem bn2vch_vch2bn_of_minimal (b : Bytes) (hm : Spec.Script.minimal b) (hl : b.length < 2 ^ 32) :
    ∃ z, Model.Script.vch2bn b = .ok (some z) ∧ Model.Script.bn2vch z = .ok b := by
  refine ⟨Spec.Script.numDecode b, by rw [vch2bn_eq_spec, if_pos hl], ?_⟩
  rw [bn2vch_eq_spec, numEncode_numDecode_of_minimal b hm, if_pos hl]

/-- bn2vch is injective -/
theorem bn2vch_injective (z z' : Int) (b : Bytes) (h : Model.Script.bn2vch z = .ok b)
    (h' : Model.Script.bn2vch z' = .ok b) : z = z' := by
  have a := vch2bn_bn2vch z b h
  have a' := vch2bn_bn2vch z' b h'
  rw [a] at a'
  simpa using a'

/-! ### building -/

/-- `CScript(iterable)` produces exactly the bytes of the reference builder, and fails exactly when
    the reference builder has no encoding (an element of 2³² bytes or more) -/
theorem build_eq_spec (ts : List Token) (b : Bytes) :
    Model.Script.build ts = .ok b ↔ Spec.Script.build ts = some b :=
  build_ok_iff ts b

theorem build_fails_iff (ts : List Token) :
    (∃ e, Model.Script.build ts = .error e) ↔ Spec.Script.build ts = none := by
  rw [← build_toOption]
  rcases Model.Script.build ts with e | r <;> simp [Except.toOption]

/-- `script + other` appends the reference bytes of the token; an element that is not a script
    element raises TypeError -/
theorem add_eq_spec (s : Bytes) (t : Token) (b : Bytes) :
    Model.Script.add s t = .ok b ↔ ∃ a, Spec.Script.tokenBytes t = some a ∧ b = s ++ a := by
  unfold Model.Script.add
  rw [coerceInstance_eq]
  by_cases ho : t = .other
  · subst ho; simp [Spec.Script.tokenBytes]
  · simp only [ho, if_false]
    rcases Spec.Script.tokenBytes t with _ | a
    · simp
    · simp [eq_comm]

theorem add_other_typeerror (s : Bytes) : Model.Script.add s .other = .error (.py "TypeError") := rfl

/-- building concatenates: `CScript(xs + ys) = CScript(xs) + CScript(ys)` as bytes -/
theorem build_append (xs ys : List Token) (a b : Bytes) (ha : Model.Script.build xs = .ok a)
    (hb : Model.Script.build ys = .ok b) : Model.Script.build (xs ++ ys) = .ok (a ++ b) := by
  rw [build_eq_spec] at ha hb ⊢
  rw [specBuild_append, ha, hb]

/-- … and a concatenation builds only if both parts build -/
theorem build_append_inv (xs ys : List Token) (s : Bytes) (h : Model.Script.build (xs ++ ys) = .ok s) :
    ∃ a b, Model.Script.build xs = .ok a ∧ Model.Script.build ys = .ok b ∧ s = a ++ b := by
  rw [build_eq_spec, specBuild_append] at h
  rcases ha : Spec.Script.build xs with _ | a <;> rcases hb : Spec.Script.build ys with _ | b <;>
    rw [ha, hb] at h <;> simp at h
  exact ⟨a, b, (build_eq_spec _ _).mpr ha, (build_eq_spec _ _).mpr hb, h.symm⟩

/-- a list containing an element that is neither a script element nor bytes-like (str, None, float, …)
    never builds (TypeError from the join, or another element's own error); bool elements build as the
    integers 1 / 0; a bytes-like element of another type (memoryview, array) is spliced in raw -/
theorem build_other_fails (xs ys : List Token) : ∃ e, Model.Script.build (xs ++ .other :: ys) = .error e := by
  rw [build_fails_iff, specBuild_append]
  rcases Spec.Script.build xs with _ | a <;> simp [Spec.Script.build, Spec.Script.tokenBytes]

/-- a buffer-protocol element contributes its bytes without a push opcode (so `[memoryview(b'\x51')]`
    builds like `[OP_1]`, not like `[b'\x51']`) -/
theorem build_buffer_raw (xs ys : List Token) (u a b : Bytes) (ha : Model.Script.build xs = .ok a)
    (hb : Model.Script.build ys = .ok b) :
    Model.Script.build (xs ++ .buffer u :: ys) = .ok (a ++ u ++ b) := by
  rw [build_eq_spec] at ha hb ⊢
  rw [specBuild_append, ha]
  simp [Spec.Script.build, Spec.Script.tokenBytes, hb]

theorem build_bool (b : Bool) :
    Model.Script.build [.bool b] = Model.Script.build [.int (if b then 1 else 0)] := by
  rcases b <;> rfl

/-- integers 0..16 become the single opcode OP_0 / OP_1..OP_16, −1 becomes OP_1NEGATE -/
theorem build_minimal_small_int (z : Int) :
    (z = 0 → Model.Script.build [.int z] = .ok [0x00]) ∧
    (1 ≤ z ∧ z ≤ 16 → Model.Script.build [.int z] = .ok [UInt8.ofNat (0x50 + z.toNat)]) ∧
    (z = -1 → Model.Script.build [.int z] = .ok [0x4f]) := by
  refine ⟨?_, ?_, ?_⟩
  · intro h; subst h; rw [build_eq_spec]; simp [Spec.Script.build, Spec.Script.tokenBytes]
  · intro h
    have : ¬ z = 0 := by omega
    rw [build_eq_spec]; simp [Spec.Script.build, Spec.Script.tokenBytes, h, this]
  · intro h; subst h; rw [build_eq_spec]; simp [Spec.Script.build, Spec.Script.tokenBytes]

/-- every other integer becomes one push whose payload is its minimal number encoding, and no
    other single-push encoding of that payload is shorter -/
theorem build_minimal_int (z : Int) (hz : ¬ (-1 ≤ z ∧ z ≤ 16)) (s : Bytes)
    (h : Model.Script.build [.int z] = .ok s) :
    ∃ o, Spec.Script.getOp s = some (o, Spec.Script.numEncode z, []) ∧ o ≤ 0x4e ∧
      Spec.Script.minimal (Spec.Script.numEncode z) ∧
      ∀ s' o', Spec.Script.getOp s' = some (o', Spec.Script.numEncode z, []) → o' ≤ 0x4e →
        s.length ≤ s'.length := by
  rw [build_eq_spec] at h
  have h0 : ¬ z = 0 := by omega
  have h1 : ¬ (1 ≤ z ∧ z ≤ 16) := by omega
  have h2 : ¬ z = -1 := by omega
  rw [specBuild_singleton] at h
  simp only [Spec.Script.tokenBytes, h0, h1, h2, if_false] at h
  obtain ⟨o, hg, ho, hmin⟩ := pushEncode_single_push h
  exact ⟨o, hg, ho, numEncode_minimal z, hmin⟩

/-- a byte string becomes one push of exactly those bytes under the shortest push form: no other
    single-push encoding of the same payload is shorter -/
theorem build_minimal_data (d : Bytes) (s : Bytes) (h : Model.Script.build [.data d] = .ok s) :
    ∃ o, Spec.Script.getOp s = some (o, d, []) ∧ o ≤ 0x4e ∧
      ∀ s' o', Spec.Script.getOp s' = some (o', d, []) → o' ≤ 0x4e → s.length ≤ s'.length := by
  rw [build_eq_spec, specBuild_singleton] at h
  exact pushEncode_single_push h

/-- the push form chosen for each length below 2³²: direct, PUSHDATA1, PUSHDATA2, PUSHDATA4 -/
theorem build_data_form (d : Bytes) (hl : d.length < 2 ^ 32) :
    Model.Script.build [.data d] = .ok
      (if d.length < 0x4c then UInt8.ofNat d.length :: d
       else if d.length ≤ 0xff then 0x4c :: UInt8.ofNat d.length :: d
       else if d.length ≤ 0xffff then 0x4d :: (leBytes 2 d.length ++ d)
       else 0x4e :: (leBytes 4 d.length ++ d)) := by
  rw [build_eq_spec]
  have h4 : d.length ≤ 0xffffffff := by omega
  simp only [Spec.Script.build, Spec.Script.tokenBytes, Spec.Script.pushEncode]
  by_cases h1 : d.length < 0x4c
  · simp [h1]
  · by_cases h2 : d.length ≤ 0xff
    · simp [h1, h2]
    · by_cases h3 : d.length ≤ 0xffff
      · simp [h1, h2, h3]
      · simp [h1, h2, h3, h4]

/-- building is defined for every token list whose byte strings are shorter than 2³² bytes, whose
    integers are below 128·256^(2³²−2) in magnitude and whose opcodes are bytes -/
theorem build_defined (ts : List Token)
    (h : ∀ t ∈ ts, match t with
      | .op n => n < 256
      | .int z => z.natAbs < 128 * 256 ^ (2 ^ 32 - 2)
      | .data d => d.length < 2 ^ 32
      | .bool _ => True
      | .buffer _ => True
      | .other => False) :
    ∃ s, Model.Script.build ts = .ok s := by
  induction ts with
  | nil => exact ⟨[], rfl⟩
  | cons t ts ih =>
    obtain ⟨r, hr⟩ := ih (fun x hx => h x (by simp [hx]))
    have ht := h t (by simp)
    have : ∃ a, Spec.Script.tokenBytes t = some a := by
      rcases t with n | z | d | b | u | _
      · simp only at ht; simp [Spec.Script.tokenBytes, ht]
      · exact tokenBytes_int_isSome ht (by decide)
      · simp only at ht
        simp only [Spec.Script.tokenBytes]
        rcases hp : Spec.Script.pushEncode d with _ | e
        · rw [pushEncode_none_iff] at hp; omega
        · exact ⟨e, rfl⟩
      · exact ⟨_, rfl⟩
      · exact ⟨_, rfl⟩
      · exact absurd ht (by simp)
    obtain ⟨a, ha⟩ := this
    refine ⟨a ++ r, ?_⟩
    rw [build_eq_spec] at hr ⊢
    simp [Spec.Script.build, ha, hr]

/-! ### iteration over a built script -/

/-- cooked iteration over a built script yields the canonical form of the tokens it was built from
    (opcodes as opcodes, OP_1..OP_16 and 0..16 as integers, the empty string as 0, −1 as OP_1NEGATE,
    every other integer or byte string as its pushed bytes) and raises nothing -/
theorem iter_build (ts : List Token) (s : Bytes) (h : Model.Script.build ts = .ok s)
    (hd : ∀ t ∈ ts, t.inDomain) :
    Model.Script.cooked s = (Spec.Script.canon ts, none) := by
  rw [build_eq_spec] at h
  obtain ⟨h1, h2⟩ := readback ts s 0 h hd
  rw [cooked_eq, Model.Script.rawIter, h1, h2]; rfl

/-- rebuilding from the tokens that iteration yields reproduces the same bytes -/
theorem build_iter_build (ts : List Token) (s : Bytes) (h : Model.Script.build ts = .ok s)
    (hd : ∀ t ∈ ts, t.inDomain) :
    Model.Script.build (Model.Script.cooked s).1 = .ok s := by
  rw [iter_build ts s h hd]
  rw [build_eq_spec] at h ⊢
  rw [build_canon ts hd]; exact h

/-! ### raw iteration -/

/-- raw iteration splits ANY byte string into consecutive operations: the concatenation of the
    operations' bytes (opcode, length field, payload) is a prefix of the script, each reported
    `sop_idx` is the offset of that operation, the prefix is the whole script when no error is
    raised, and when an error is raised the remainder `b :: t` begins with a truncated push and the
    error is the one for that push: CScriptInvalidError if the length field is incomplete, else
    CScriptTruncatedPushDataError carrying exactly the payload bytes that are present -/
theorem raw_iter_partition (s : Bytes) :
    ∃ rest, s = ((Model.Script.rawIter s).1.map Model.Script.RawOp.enc).flatten ++ rest ∧
      ((Model.Script.rawIter s).2 = none → rest = []) ∧
      (∀ e, (Model.Script.rawIter s).2 = some e →
        ∃ b t, rest = b :: t ∧ e = Model.Script.truncErr b t ∧ Spec.Script.TruncatedPush rest) ∧
      (∀ i (h : i < (Model.Script.rawIter s).1.length),
        ((Model.Script.rawIter s).1[i]).sopIdx =
          (((Model.Script.rawIter s).1.take i).map Model.Script.RawOp.enc).flatten.length) := by
  unfold Model.Script.rawIter
  obtain ⟨rest, h1, h2, h3, h4⟩ := rawIterFrom_partition s 0
  refine ⟨rest, h1, h2, h3, fun i hi => ?_⟩
  rw [h4 i hi, Nat.zero_add]

/-- no error: the operations' byte ranges concatenate back to the script -/
theorem raw_iter_concat (s : Bytes) (ops : List Model.Script.RawOp)
    (h : Model.Script.rawIter s = (ops, none)) :
    (ops.map Model.Script.RawOp.enc).flatten = s := by
  obtain ⟨rest, h1, h2, _, _⟩ := raw_iter_partition s
  rw [h] at h1 h2
  have := h2 rfl
  subst this
  simpa using h1.symm

/-- error: what was yielded is a parsed prefix and the rest starts a truncated push (never mis-parsed) -/
theorem raw_iter_error (s : Bytes) (ops : List Model.Script.RawOp) (e : Model.Script.IterErr)
    (h : Model.Script.rawIter s = (ops, some e)) :
    ∃ rest, s = (ops.map Model.Script.RawOp.enc).flatten ++ rest ∧ Spec.Script.TruncatedPush rest := by
  obtain ⟨rest, h1, _, h3, _⟩ := raw_iter_partition s
  rw [h] at h1 h3
  obtain ⟨_, _, _, _, ht⟩ := h3 e rfl
  exact ⟨rest, h1, ht⟩

/-- the data carried by CScriptTruncatedPushDataError is everything after the length field of the
    offending push, and it is shorter than the declared size -/
theorem raw_iter_error_data (s : Bytes) (ops : List Model.Script.RawOp) (d : Bytes)
    (h : Model.Script.rawIter s = (ops, some (.truncated d))) :
    ∃ b t, s = (ops.map Model.Script.RawOp.enc).flatten ++ b :: t ∧
      Spec.Script.lenBytes b.toNat ≤ t.length ∧ d = t.drop (Spec.Script.lenBytes b.toNat) ∧
      d.length < Spec.Script.declaredSize b.toNat t := by
  obtain ⟨rest, h1, _, h3, _⟩ := raw_iter_partition s
  rw [h] at h1 h3
  obtain ⟨b, t, hr, he, ⟨b', t', hbt, _, hlen⟩⟩ := h3 _ rfl
  subst hr
  simp only [List.cons.injEq] at hbt
  obtain ⟨rfl, rfl⟩ := hbt
  unfold Model.Script.truncErr at he
  by_cases hw : t.length < Spec.Script.lenBytes b.toNat
  · simp [hw] at he
  · simp only [hw, if_false, Model.Script.IterErr.truncated.injEq] at he
    refine ⟨b, t, h1, by omega, he, ?_⟩
    rcases hlen with hl | hl
    · exact absurd hl hw
    · rw [he, List.length_drop]; exact hl

/-- raw iteration reads exactly the operations Core's GetScriptOp loop reads, ends without error
    exactly when that loop reaches the end, and reports data for push opcodes only -/
theorem raw_iter_eq_spec (s : Bytes) :
    (Model.Script.rawIter s).1.map Model.Script.RawOp.pair = (Spec.Script.parse s).1 ∧
    ((Model.Script.rawIter s).2.isNone = (Spec.Script.parse s).2) ∧
    (∀ o ∈ (Model.Script.rawIter s).1, o.wf) :=
  rawIter_parse s

/-- cooked iteration raises nothing but the tokeniser's CScriptInvalidError, for every byte string
    (the ValueError site of decode_op_n is dead) -/
theorem cooked_error_is_invalidscript (s : Bytes) (e : Exc) :
    (Model.Script.cooked s).2 ≠ some (.py e) := by
  rw [cooked_eq]
  rcases (Model.Script.rawIter s).2 with _ | x <;> simp

/-! ### predicates = reference definitions, for every byte string -/

theorem pred_eq_spec_p2sh (s : Bytes) :
    Model.Script.isP2sh s = Spec.Script.isPayToScriptHash s := isP2sh_eq s

/-- `is_witness_scriptpubkey` (signed '<bb' unpack, `_opcode_instances[negative]`) is Core's
    IsWitnessProgram for every byte string; its assert / struct.error sites are dead -/
theorem pred_eq_spec_witness_program (s : Bytes) :
    Model.Script.isWitnessScriptPubKey s = .ok (Spec.Script.isWitnessProgram s).isSome :=
  isWitnessScriptPubKey_eq s

/-- on a witness program `witness_version` returns the version as an integer 0..16 -/
theorem pred_eq_spec_witness_version (s : Bytes) (v : Nat) (p : Bytes)
    (h : Spec.Script.isWitnessProgram s = some (v, p)) :
    Model.Script.witnessVersion s = .ok (.int v) ∧ v ≤ 16 := by
  refine ⟨witnessVersion_of_program h, ?_⟩
  obtain ⟨a, _, _, ha, rfl, _⟩ := isWitnessProgram_eq_some_iff.mp h
  unfold Spec.Script.decodeOPN; split <;> omega

theorem pred_eq_spec_v0_keyhash (s : Bytes) :
    Model.Script.isWitnessV0Keyhash s = Spec.Script.isP2WPKH s := isWitnessV0Keyhash_eq s

theorem pred_eq_spec_v0_scripthash (s : Bytes) :
    Model.Script.isWitnessV0Scripthash s = Spec.Script.isP2WSH s := isWitnessV0Scripthash_eq s

theorem pred_eq_spec_v0_nested_keyhash (s : Bytes) :
    Model.Script.isWitnessV0NestedKeyhash s = Spec.Script.isNestedP2WPKH s :=
  isWitnessV0NestedKeyhash_eq s

theorem pred_eq_spec_v0_nested_scripthash (s : Bytes) :
    Model.Script.isWitnessV0NestedScripthash s = Spec.Script.isNestedP2WSH s :=
  isWitnessV0NestedScripthash_eq s

theorem pred_eq_spec_push_only (s : Bytes) :
    Model.Script.isPushOnly s = Spec.Script.isPushOnly s := by
  obtain ⟨h1, h2, _⟩ := raw_iter_eq_spec s
  simp only [Model.Script.isPushOnly, Spec.Script.isPushOnly, pushOnlyLoop_eq, ← h1, ← h2, List.all_map]
  rfl

/-- `has_canonical_pushes` is Core's HasCanonicalPushes; its `len(None)` site is dead -/
theorem pred_eq_spec_canonical_pushes (s : Bytes) :
    Model.Script.hasCanonicalPushes s = .ok (Spec.Script.hasCanonicalPushes s) := by
  obtain ⟨h1, h2, h3⟩ := raw_iter_eq_spec s
  simp only [Model.Script.hasCanonicalPushes, Spec.Script.hasCanonicalPushes, canonicalLoop_eq _ _ h3,
    ← h1, ← h2, List.all_map]
  rfl

/-- `is_valid` is "every push is well formed" -/
theorem pred_eq_spec_valid (s : Bytes) :
    Model.Script.isValid s = .ok (Spec.Script.isValid s) := isValid_eq s

theorem pred_eq_spec_unspendable (s : Bytes) :
    Model.Script.isUnspendable s = Spec.Script.startsWithReturn s := isUnspendable_eq s

/-! ### signature-operation counts -/

/-- the (repaired) GetSigOpCount equals Core's count in both modes for every byte string: it
    counts up to the first malformed push and never raises (the assert of CScriptOp.__new__ and
    the ValueError of decode_op_n are dead) -/
theorem sigops_eq_spec (s : Bytes) (accurate : Bool) :
    Model.Script.getSigOpCount s accurate = .ok (Spec.Script.sigOpCount accurate s) := by
  obtain ⟨h1, _, h3⟩ := raw_iter_eq_spec s
  unfold Model.Script.getSigOpCount Spec.Script.sigOpCount
  rw [sigOpsLoop_eq accurate _ h3 0 0xff (by omega), h1, Nat.zero_add]

/-- the accurate count never exceeds the legacy count (OP_n ≤ 16 < 20 keys per CHECKMULTISIG) -/
theorem sigops_accurate_le_legacy (s : Bytes) :
    Spec.Script.sigOpCount true s ≤ Spec.Script.sigOpCount false s := by
  unfold Spec.Script.sigOpCount
  generalize (Spec.Script.parse s).1 = ops
  generalize (0xff : Nat) = last
  induction ops generalizing last with
  | nil => simp [Spec.Script.sigOpsFrom]
  | cons o r ih =>
    obtain ⟨oc, d⟩ := o
    simp only [Spec.Script.sigOpsFrom]
    have := ih oc
    split
    · omega
    · split
      · simp only [Bool.false_eq_true, false_and, if_false]
        split
        · rename_i hh; unfold Spec.Script.decodeOPN; split <;> omega
        · omega
      · omega

/-! ### independent characterisations (not transcriptions of the code)

  The `pred_eq_spec_*` / `sigops_eq_spec` theorems above compare the code with Core's definitions,
  several of which have the same shape as the code.  The theorems below pin the same functions by
  what they mean: scripts as concatenations of operation encodings, fixed byte layouts, and
  compositional laws. -/

open BtcVerif.Spec.Script (ValidOp opEnc encOps opN)

/-- P2SH: exactly HASH160, a direct push of 20 bytes, EQUAL -/
theorem isP2sh_iff (s : Bytes) :
    Model.Script.isP2sh s = true ↔ ∃ h : Bytes, h.length = 20 ∧ s = [0xa9, 0x14] ++ h ++ [0x87] :=
  isP2sh_shape s

/-- witness program: OP_0 / OP_1..OP_16 for a version ≤ 16, then one direct push of 2..40 bytes -/
theorem isWitnessProgram_iff (s : Bytes) :
    Model.Script.isWitnessScriptPubKey s = .ok true ↔
      ∃ v : Nat, ∃ prog : Bytes, v ≤ 16 ∧ 2 ≤ prog.length ∧ prog.length ≤ 40 ∧
        s = [UInt8.ofNat (opN v), UInt8.ofNat prog.length] ++ prog := by
  rw [pred_eq_spec_witness_program, ← isWitnessProgram_shape]
  simp

theorem isWitnessV0Keyhash_iff (s : Bytes) :
    Model.Script.isWitnessV0Keyhash s = true ↔ ∃ h : Bytes, h.length = 20 ∧ s = [0x00, 0x14] ++ h :=
  shape_prefix s [0x00, 0x14] 20

theorem isWitnessV0Scripthash_iff (s : Bytes) :
    Model.Script.isWitnessV0Scripthash s = true ↔ ∃ h : Bytes, h.length = 32 ∧ s = [0x00, 0x20] ++ h :=
  shape_prefix s [0x00, 0x20] 32

theorem isWitnessV0NestedKeyhash_iff (s : Bytes) :
    Model.Script.isWitnessV0NestedKeyhash s = true ↔
      ∃ h : Bytes, h.length = 20 ∧ s = [0x16, 0x00, 0x14] ++ h :=
  shape_prefix s [0x16, 0x00, 0x14] 20

theorem isWitnessV0NestedScripthash_iff (s : Bytes) :
    Model.Script.isWitnessV0NestedScripthash s = true ↔
      ∃ h : Bytes, h.length = 32 ∧ s = [0x22, 0x00, 0x20] ++ h :=
  shape_prefix s [0x22, 0x00, 0x20] 32

theorem isUnspendable_iff (s : Bytes) :
    Model.Script.isUnspendable s = true ↔ ∃ t : Bytes, s = 0x6a :: t := by
  rcases s with _ | ⟨b, t⟩ <;> simp [Model.Script.isUnspendable]

/-- valid ⇔ every byte belongs to a complete operation: the script is a concatenation of
    operation encodings (opcode byte, length field, payload of the declared length) -/
theorem isValid_iff (s : Bytes) :
    Model.Script.isValid s = .ok true ↔
      ∃ ops : List (Nat × Bytes), (∀ p ∈ ops, ValidOp p.1 p.2) ∧ s = encOps ops := by
  rw [pred_eq_spec_valid, Except.ok.injEq, Spec.Script.isValid]
  simpa using parse_complete_iff s (fun _ => True)

/-- push-only ⇔ a concatenation of complete operations each with opcode ≤ OP_16 -/
theorem isPushOnly_iff (s : Bytes) :
    Model.Script.isPushOnly s = true ↔
      ∃ ops : List (Nat × Bytes), (∀ p ∈ ops, ValidOp p.1 p.2 ∧ p.1 ≤ 0x60) ∧ s = encOps ops := by
  rw [pred_eq_spec_push_only]
  simp only [Spec.Script.isPushOnly, Bool.and_eq_true, List.all_eq_true, decide_eq_true_eq]
  exact parse_complete_iff s (fun p => p.1 ≤ 0x60)

/-- canonical pushes ⇔ a concatenation of complete operations in which every push is the
    builder's (shortest) encoding of its payload and no payload is a single byte 0..16 -/
theorem hasCanonicalPushes_iff (s : Bytes) :
    Model.Script.hasCanonicalPushes s = .ok true ↔
      ∃ ops : List (Nat × Bytes),
        (∀ p ∈ ops, ValidOp p.1 p.2 ∧
          (p.1 ≤ 0x4e → Spec.Script.pushEncode p.2 = some (opEnc p.1 p.2) ∧
            ¬ ∃ x : UInt8, p.2 = [x] ∧ x.toNat ≤ 16)) ∧
        s = encOps ops := by
  rw [pred_eq_spec_canonical_pushes]
  simp only [Except.ok.injEq, Spec.Script.hasCanonicalPushes, Bool.and_eq_true, List.all_eq_true]
  rw [parse_complete_iff s (fun p => Spec.Script.canonicalPush p = true)]
  exact exists_congr fun ops => and_congr_left' (forall_congr' fun p => forall_congr' fun _ =>
    and_congr_right fun hv => canonicalPush_iff hv)

/-- every script is a complete part followed by nothing or by a truncated push -/
theorem script_decomposition (s : Bytes) :
    ∃ a b, s = a ++ b ∧ Model.Script.isValid a = .ok true ∧ (b = [] ∨ Spec.Script.TruncatedPush b) := by
  obtain ⟨rest, h1, h2, h3⟩ := parse_decomp s
  refine ⟨encOps (Spec.Script.parse s).1, rest, h1, (isValid_iff _).mpr ⟨_, h2, rfl⟩, ?_⟩
  split at h3
  · exact Or.inl h3
  · exact Or.inr h3

/-! signature-operation counting, by laws.  The individual laws below are consequences; the
    complete set is `SigOpLaws`, which `sigops_laws_hold` proves of the (repaired) GetSigOpCount and
    `sigops_laws_unique` proves to determine the count of EVERY byte string in both modes. -/

/-- a single non-push opcode: 1 for CHECKSIG(VERIFY), 20 for CHECKMULTISIG(VERIFY), else 0; a single
    complete push: 0 — in both modes -/
theorem sigops_single (o : Nat) (d : Bytes) (hv : ValidOp o d) (acc : Bool) :
    Model.Script.getSigOpCount (opEnc o d) acc =
      .ok (if o = 0xac ∨ o = 0xad then 1 else if o = 0xae ∨ o = 0xaf then 20 else 0) := by
  rw [sigops_eq_spec, sigOpCount_single acc hv]

/-- `OP_k CHECKMULTISIG(VERIFY)` counts k in accurate mode -/
theorem sigops_opn_multisig (k m : Nat) (hk : 1 ≤ k ∧ k ≤ 16) (hm : m = 0xae ∨ m = 0xaf) :
    Model.Script.getSigOpCount [UInt8.ofNat (0x50 + k), UInt8.ofNat m] true = .ok k := by
  rw [sigops_eq_spec, sigOpCount_opn_multisig k m hk hm]

/-- the count is additive over a complete prefix: always in legacy mode, and in accurate mode
    whenever the second part does not begin with CHECKMULTISIG(VERIFY) -/
theorem sigops_append (a b : Bytes) (acc : Bool) (ha : Model.Script.isValid a = .ok true)
    (h : acc = false ∨ ∀ x, b.head? = some x → x.toNat ≠ 0xae ∧ x.toNat ≠ 0xaf) (na nb : Nat)
    (hna : Model.Script.getSigOpCount a acc = .ok na) (hnb : Model.Script.getSigOpCount b acc = .ok nb) :
    Model.Script.getSigOpCount (a ++ b) acc = .ok (na + nb) := by
  rw [isValid_ok_true_iff] at ha
  rw [sigops_eq_spec] at hna hnb ⊢
  simp only [Except.ok.injEq] at hna hnb
  rw [sigOpCount_append_add acc a b ha h, hna, hnb]

/-- the general accurate-mode law: the second part is counted starting from the last opcode of the first -/
theorem sigops_append_general (a b : Bytes) (acc : Bool) (ha : Model.Script.isValid a = .ok true) :
    Model.Script.getSigOpCount (a ++ b) acc =
      .ok (Spec.Script.sigOpCount acc a +
        Spec.Script.sigOpsFrom acc (Spec.Script.lastOpcodeFrom 0xff (Spec.Script.parse a).1)
          (Spec.Script.parse b).1) := by
  rw [isValid_ok_true_iff] at ha
  rw [sigops_eq_spec, sigOpCount_append acc a b ha]

/-- counting stops at the first malformed push: a truncated tail contributes nothing and hides
    nothing that precedes it -/
theorem sigops_truncated_tail (a b : Bytes) (acc : Bool) (ha : Model.Script.isValid a = .ok true)
    (hb : Spec.Script.TruncatedPush b) :
    Model.Script.getSigOpCount (a ++ b) acc = Model.Script.getSigOpCount a acc := by
  rw [isValid_ok_true_iff] at ha
  rw [sigops_eq_spec, sigops_eq_spec, sigOpCount_truncated acc a b ha hb]

/-- the laws of signature-operation counting, stated over scripts given as sequences of operations
    (no reference to a parser): nothing counts nothing; one more operation adds its weight, which
    depends only on the operation before it (`Spec.sigWeight`: CHECKSIG 1; CHECKMULTISIG n right
    after OP_n in accurate mode, otherwise 20 — legacy mode, start of script, after OP_0, OP_1NEGATE,
    a push or any other opcode); a truncated push ends the count -/
structure SigOpLaws (f : Bytes → Bool → Nat) : Prop where
  empty : ∀ acc, f [] acc = 0
  snoc : ∀ acc (ops : List (Nat × Bytes)) o d, (∀ q ∈ ops, ValidOp q.1 q.2) → ValidOp o d →
    f (encOps ops ++ opEnc o d) acc =
      f (encOps ops) acc + Spec.Script.sigWeight acc (ops.getLast?.map (·.1)) o
  truncated : ∀ acc (ops : List (Nat × Bytes)) b, (∀ q ∈ ops, ValidOp q.1 q.2) →
    Spec.Script.TruncatedPush b → f (encOps ops ++ b) acc = f (encOps ops) acc

/-- GetSigOpCount obeys the laws -/
theorem sigops_laws_hold :
    ∃ f, SigOpLaws f ∧ ∀ s acc, Model.Script.getSigOpCount s acc = .ok (f s acc) := by
  refine ⟨fun s acc => Spec.Script.sigOpCount acc s, ⟨?_, ?_, ?_⟩, fun s acc => sigops_eq_spec s acc⟩
  · intro acc; simp [Spec.Script.sigOpCount, parse_nil, Spec.Script.sigOpsFrom]
  · intro acc ops o d hv ho; exact sigOpCount_snoc acc ops o d hv ho
  · intro acc ops b hv hb
    exact sigOpCount_truncated acc _ b (by rw [parse_encOps hv]) hb

/-- … and the laws leave no freedom: any function obeying them is GetSigOpCount, on every byte
    string and in both modes (so e.g. `OP_0 CHECKMULTISIG`, `<push> CHECKMULTISIG`,
    `NOP CHECKMULTISIG`, `OP_1NEGATE CHECKMULTISIG` and a leading CHECKMULTISIG are all forced to 20) -/
theorem sigops_laws_unique (f : Bytes → Bool → Nat) (hf : SigOpLaws f) (s : Bytes) (acc : Bool) :
    Model.Script.getSigOpCount s acc = .ok (f s acc) := by
  rw [sigops_eq_spec]
  congr 1
  -- complete scripts, by induction on the operations from the right
  have hcomplete : ∀ ops : List (Nat × Bytes), (∀ q ∈ ops, ValidOp q.1 q.2) →
      Spec.Script.sigOpCount acc (encOps ops) = f (encOps ops) acc := by
    intro ops
    induction ops using List.reverseRecOn with
    | nil =>
      intro _
      simp [encOps, hf.empty, Spec.Script.sigOpCount, parse_nil, Spec.Script.sigOpsFrom]
    | append_singleton ops p ih =>
      intro hv
      have hv' : ∀ q ∈ ops, ValidOp q.1 q.2 := fun q hq => hv q (by simp [hq])
      have hp : ValidOp p.1 p.2 := hv p (by simp)
      rw [encOps_snoc, sigOpCount_snoc acc ops p.1 p.2 hv' hp, hf.snoc acc ops p.1 p.2 hv' hp, ih hv']
  obtain ⟨a, b, rfl, ha, hb⟩ := script_decomposition s
  obtain ⟨ops, hv, rfl⟩ := (isValid_iff a).mp ha
  rcases hb with rfl | hb
  · rw [List.append_nil]; exact hcomplete ops hv
  · rw [hf.truncated acc ops b hv hb,
      sigOpCount_truncated acc _ b (by rw [parse_encOps hv]) hb]
    exact hcomplete ops hv

/-- instances: in accurate mode CHECKMULTISIG counts 20 at the start of
    a script and after anything that is not OP_1..OP_16 -/
theorem sigops_multisig_20 (ops : List (Nat × Bytes)) (m : Nat) (hv : ∀ q ∈ ops, ValidOp q.1 q.2)
    (hm : m = 0xae ∨ m = 0xaf)
    (hprev : ∀ q, ops.getLast? = some q → ¬ (0x51 ≤ q.1 ∧ q.1 ≤ 0x60)) (n : Nat)
    (hn : Model.Script.getSigOpCount (encOps ops) true = .ok n) :
    Model.Script.getSigOpCount (encOps ops ++ [UInt8.ofNat m]) true = .ok (n + 20) := by
  have hmv : ValidOp m [] := ⟨by omega, by rcases hm with rfl | rfl <;> simp⟩
  have he : opEnc m [] = [UInt8.ofNat m] := by
    have : m > 0x4e := by omega
    simp [opEnc, this]
  rw [sigops_eq_spec] at hn ⊢
  simp only [Except.ok.injEq] at hn
  rw [← he, sigOpCount_snoc true ops m [] hv hmv, hn]
  congr 2
  have c1 : ¬ (m = 0xac ∨ m = 0xad) := by omega
  simp only [Spec.Script.sigWeight, c1, hm, if_false, if_true]
  rcases hl : ops.getLast? with _ | q
  · rfl
  · have := hprev q hl
    simp [this]

/-! ### the opcode-instance table -/

/-- both call sites of `CScriptOp(n)` stay inside the 256-entry table (so the `n = 256` append path
    and the assert are unreachable) and get the instance of the byte they meant: the signed
    `'<bb'` byte of is_witness_scriptpubkey (−128..127, negative indices wrap to the same entry) and
    the opcode byte of GetSigOpCount -/
theorem opcode_lookup_in_table :
    (∀ b : UInt8, Model.Script.cscriptOpNew (Model.Script.signedByte b) = .ok b.toNat) ∧
    (∀ n : Nat, n < 256 → Model.Script.cscriptOpNew (n : Int) = .ok n) :=
  ⟨cscriptOpNew_signedByte, cscriptOpNew_nat⟩

/-! ### non-vacuity: concrete values meeting the hypotheses -/

example : (Token.op 0xac).inDomain := by simp [Token.inDomain]
example : (Token.int (-7)).inDomain := trivial
example : ∀ t ∈ [Token.op 0x76, .op 0xa9, .data [1, 2, 3], .int 1000, .int (-1), .op 0x88],
    t.inDomain := by
  intro t ht; simp at ht; rcases ht with rfl | rfl | rfl | rfl | rfl | rfl <;> simp [Token.inDomain]

/-- 128 needs a second byte for the sign; −128 carries the sign in it -/
example : Spec.Script.numEncode 128 = [0x80, 0x00] := by
  have := numLen_128
  simp [Spec.Script.numEncode, this, leBytes]
example : Spec.Script.numEncode (-128) = [0x80, 0x80] := by
  have := numLen_128
  simp [Spec.Script.numEncode, this, leBytes]
example : Model.Script.bn2vch (-128) = .ok [0x80, 0x80] := by
  have := numLen_128
  rw [bn2vch_eq_spec]; simp [Spec.Script.numEncode, this, leBytes]
example : Spec.Script.minimal [0x80, 0x80] := by simp [Spec.Script.minimal]
/-- non-minimal strings exist and still decode (negative zero, padded one) -/
example : ¬ Spec.Script.minimal [0x80] := by simp [Spec.Script.minimal]
example : ¬ Spec.Script.minimal [0x01, 0x00] := by simp [Spec.Script.minimal]
example : Spec.Script.numDecode [0x80] = 0 := by simp [Spec.Script.numDecode, leNat]
example : Spec.Script.numDecode [0x01, 0x00] = 1 := by simp [Spec.Script.numDecode, leNat]
/-- a truncated push: PUSHDATA1 announcing 5 bytes with 2 present -/
example : Spec.Script.TruncatedPush [0x4c, 0x05, 0x61, 0x62] :=
  ⟨0x4c, [0x05, 0x61, 0x62], rfl, by decide, Or.inr (by simp [Spec.Script.lenBytes, Spec.Script.declaredSize, leNat])⟩
/-- D3's script: CHECKSIG followed by a 5-byte push with 2 bytes present counts 1 in both modes -/
example (acc : Bool) : Model.Script.getSigOpCount [0xac, 0x05, 0x61, 0x62] acc = .ok 1 := by
  rw [sigops_eq_spec]
  have h1 : Spec.Script.getOp [0xac, 0x05, 0x61, 0x62] = some (0xac, [], [0x05, 0x61, 0x62]) := by
    simp [Spec.Script.getOp]
  have h2 : Spec.Script.getOp [0x05, 0x61, 0x62] = none := by
    simp [Spec.Script.getOp, Spec.Script.lenBytes, Spec.Script.declaredSize]
  simp [Spec.Script.sigOpCount, parse_cons, h1, h2, Spec.Script.sigOpsFrom]
/-- D2's shape: `2 CHECKMULTISIG` counts 2 in accurate mode and 20 in legacy mode -/
example : Model.Script.getSigOpCount [0x52, 0xae] true = .ok 2 ∧
    Model.Script.getSigOpCount [0x52, 0xae] false = .ok 20 := by
  rw [sigops_eq_spec, sigops_eq_spec]
  have h1 : Spec.Script.getOp [0x52, 0xae] = some (0x52, [], [0xae]) := by simp [Spec.Script.getOp]
  have h2 : Spec.Script.getOp [0xae] = some (0xae, [], []) := by simp [Spec.Script.getOp]
  simp [Spec.Script.sigOpCount, parse_cons, parse_nil, h1, h2, Spec.Script.sigOpsFrom, Spec.Script.decodeOPN]
/-- the opcode table grows only through `CScriptOp(256)`, after which `CScriptOp(-1)` is that new entry -/
example : Model.Script.cscriptOpNewSeq 256 [-1, 256, -1, 256, 258] =
    [.ok 255, .ok 256, .ok 256, .ok 256, .error assertionError] := by decide
/-- a first byte ≥ 0x80 (negative under the signed unpack) is never a witness program -/
example : Model.Script.isWitnessScriptPubKey [0xd1, 0x02, 0x61, 0x62] = .ok false := by
  rw [pred_eq_spec_witness_program]; simp [Spec.Script.isWitnessProgram]

end BtcVerif.C08

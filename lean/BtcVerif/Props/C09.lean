/-
  C09 — value semantics: immutables never change, mutables never serve stale identity.

  `Model.Heap` is the reference-semantics model of the classes (object graph on a heap, `from_*`
  constructors, cache slots, `RawSignatureHash` executed on the heap); `Spec.ValueSem` is the
  value-semantics reference (a store of plain values, no sharing, no cache).  The invariant and all
  helper lemmas live in Proofs/Heap*.lean; this file states the property theorems.

  `Inv s` (Proofs/HeapInv.lean) is the conjunction of
    (i)   `immClosed` — an immutable object refers to immutable objects only, hence (`immutable_reach`)
          everything reachable from an immutable-class object is immutable-class;
    (ii)  `cacheOK`   — every filled `_cached_GetHash` / `_cached__hash__` slot of an immutable object
          equals the identifier recomputed from the current serialisation;
    (iii) `sep`       — no mutable object is reachable from two named roots (nor twice from one);
    and well-formedness: `kindOK` (classes without mutable variant are immutable), `roots` (every name
    denotes a well-typed object graph whose flags are the ones the value level predicts), `defaults`
    (the shared default-argument objects are intact).

  **What the refinement theorems do and do not say.**  `Model.Heap` and `Spec.ValueSem`
  deliberately share the following terms, so that a refinement statement is about *state* only:
    `serVal` (= `Model.Wire.ser*`), `identOf` (GetHash = SHA-256d of the serialisation / of the header),
    `txidOf` (GetTxid), `pyHashOf`/`pyHashBytes` (Python `hash()` as an opaque function of the bytes,
    here the identity), `eqVals` (`__eq__`: class relation, reflected order), `validTx`/`validCtor`
    (constructor range checks), `newBlockHdr`/`newBlockVal`/`merkleRoot` (the checks of
    `CBlock.__init__`), `Field.apply` vs `applySc` (same field table), and — for the aliasing
    catalogue — `Scalars`/`assemble`.
  Consequently `refines_value_spec` (and `refines_alias_spec`, stated below as UNPROVED and tied by T2) can
  only rule out aliasing, caching and mutability-class errors: "the heap, with its sharing, its cache slots and its two class variants,
  always answers as if every object were recomputed from its current field values".  The *content* of
  serialisation, identifiers and `==` is the business of C01/C02 (`Model.Wire`, `Model.Ident`), the
  constructor checks of C16, the merkle root of C15; the digest of `RawSignatureHash` of C03.
  The bridge to C02's class clause is `heap_ident_eq_value` below; the bridge of the heap `rawSigHash`
  digest to `Model.Sighash` is `rawSigHash_eq_sighash_model` (UNPROVED, `…_partial` + T2 tie, at the end of
  the file).

  **Finding D23.**  The first sentence of C09 has no catalogue restriction: an object of an
  immutable class whose content can change violates it.  The model is therefore property-conforming for the
  constructors of the immutable classes — `CTxWitness(vtxinwit)` / `CScriptWitness(stack)` hold tuples,
  `CTxIn(prevout, …)` an immutable copy of the outpoint — and `InvX` has no exception: everything reachable
  from an immutable-class object is immutable (`immutable_reach_ext`, `immutable_reach_reachable_ext`,
  `witness_list_edit_rejected_ext`, `witness_stack_edit_rejected_ext`).  /repo without
  fixes/D23-immutables-freeze-constructor-arguments.patch stores the caller's list / mutable outpoint; the check
  reports it (signature `D23-immutable-holds-mutable-part`, corpus/C09/D23-immutable-holds-mutable-part.json).
-/
import BtcVerif.Proofs.HeapAll
import BtcVerif.Proofs.ValueFrame
import BtcVerif.Proofs.HeapAliasSighash
import BtcVerif.Model.Sighash

namespace BtcVerif.C09
open BtcVerif BtcVerif.Model.Heap BtcVerif.Spec.ValueSem BtcVerif.Spec.AliasSem

/-- the initial heap (only the shared default arguments) satisfies the invariant -/
theorem inv_init : Inv Model.Heap.init := inv_init'

/-- every operation of the catalogue preserves the invariant -/
theorem inv_step {s : St} (hinv : Inv s) (op : Op) : Inv (Model.Heap.step s op).1 :=
  (sim_all hinv (rel_denote hinv) op).1

/-- the invariant holds after every history -/
theorem inv_reachable (ops : List Op) : Inv (Model.Heap.run Model.Heap.init ops).1 :=
  (run_sim ops inv_init' rel_init').1

/-- **refinement**: whatever a history lets the caller observe — returned bytes (serialisation,
    `GetHash`, `GetTxid`, `hash()`), results of `==`, exceptions, created/not created — is what the
    same history yields on plain values without sharing and without caches -/
theorem refines_value_spec (ops : List Op) :
    (Model.Heap.run Model.Heap.init ops).2 = (Spec.ValueSem.run Spec.ValueSem.init ops).2 :=
  (run_sim ops inv_init' rel_init').2.2

/-- the same from any state satisfying the invariant, against any related store -/
theorem refines_from {s : St} {sp : Store} (hinv : Inv s) (hrel : Rel s sp) (ops : List Op) :
    (Model.Heap.run s ops).2 = (Spec.ValueSem.run sp ops).2 :=
  (run_sim ops hinv hrel).2.2

/-- one step: outputs agree and the states stay related -/
theorem step_refines {s : St} {sp : Store} (hinv : Inv s) (hrel : Rel s sp) (op : Op) :
    Rel (Model.Heap.step s op).1 (Spec.ValueSem.step sp op).1 ∧
      (Model.Heap.step s op).2 = (Spec.ValueSem.step sp op).2 :=
  (sim_all hinv hrel op).2

/-- (i) everything reachable from an immutable-class object is immutable-class -/
theorem immutable_reach {s : St} (hinv : Inv s) {f : Nat} {a : Addr} {t : ATree}
    (hu : unfoldA f s.heap a = some t) (hm : t.isMut = false) :
    ∀ x ∈ addrs t, ∃ ox : Obj, s.heap[x]? = some ox ∧ ox.isMut = false :=
  imm_reach hinv.immClosed hu hm

/-- (ii) a filled `_cached_GetHash` equals the identifier recomputed from the current field values,
    and a filled `_cached__hash__` the hash of the current serialisation -/
theorem cache_correct {s : St} (hinv : Inv s) {a : Addr} {o : Obj} (ho : s.heap[a]? = some o)
    (hm : o.isMut = false) :
    (∀ c, o.cHash = some c → ∃ v, absVal s.heap a = some v ∧ identOf v = .ok c) ∧
    (∀ c, o.cPy = some c → ∃ v, absVal s.heap a = some v ∧ pyHashOf v = .ok c) :=
  hinv.cacheOK a o ho hm

/-- (iii) a mutable object in the mutable part of one named root does not occur below another name -/
theorem no_shared_mutable {s : St} (hinv : Inv s) {r r' : Nat} {a b : Addr} {ta tb : ATree} (hrr : r ≠ r')
    (hr : s.root r = some a) (hr' : s.root r' = some b) (ha : unfoldA D s.heap a = some ta)
    (hb : unfoldA D s.heap b = some tb) {x : Addr} {ox : Obj} (hox : s.heap[x]? = some ox)
    (hmx : ox.isMut = true) (hx : 1 ≤ cnt x ta) : x ∉ addrs tb := by
  have h2 := total_two (h := s.heap) (y := x) hrr (root_mem hr) (root_mem hr')
  have e1 : nameCnt s.heap x (some a) = cnt x ta := by simp [nameCnt, cntAt, ha]
  have e2 : nameCnt s.heap x (some b) = cnt x tb := by simp [nameCnt, cntAt, hb]
  rw [e1, e2] at h2
  have := hinv.sep x
  exact not_mem_of_cnt_zero hinv.immClosed hox hmx hb (by omega)

/-- **bridge to C02**: in a state satisfying the invariant, `GetHash()` of the object
    at any address — instance of a mutable or of an immutable class, cache slot filled or empty —
    returns the identifier of the value the object currently has -/
theorem heap_ident_eq_value {s : St} (hinv : Inv s) {a : Addr} {v : Val} (h : absVal s.heap a = some v) :
    ∃ h', getHashAt s.heap a = some (h', identOf v) :=
  getHashAt_ident hinv.cacheOK h

/-- the same for Python `hash()` -/
theorem heap_pyhash_eq_value {s : St} (hinv : Inv s) {a : Addr} {v : Val} (h : absVal s.heap a = some v) :
    ∃ h', pyHashAt s.heap a = some (h', pyHashOf v) :=
  pyHashAt_hash hinv.cacheOK h

/-- assigning an attribute of an instance of an immutable class raises `AttributeError` and
    changes nothing -/
theorem immutable_setattr_rejected (s : St) (t : Target) (f : Field) {x : Addr} {o : Obj}
    (ht : s.target t = some x) (ho : s.heap[x]? = some o) (hm : o.isMut = false) (hs : o.sc.isSeq = false) :
    Model.Heap.step s (.assign t f) = (s.skip, .err attributeError) := by
  simp [Model.Heap.step, ht, ho, hs, assignAt, hm]

/-- deleting an attribute of an instance of an immutable class raises `AttributeError` -/
theorem immutable_delattr_rejected (s : St) (t : Target) {x : Addr} {o : Obj}
    (ht : s.target t = some x) (ho : s.heap[x]? = some o) (hm : o.isMut = false) (hs : o.sc.isSeq = false) :
    Model.Heap.step s (.delAttr t) = (s.skip, .err attributeError) := by
  simp [Model.Heap.step, ht, ho, hs, hm]

/-- `RawSignatureHash(script, tx, inIdx, hashtype)` leaves every existing object exactly as it was
    (slots, references and caches): the heap only grows by the private copy and what the surgery
    allocates, and no name is bound -/
theorem sighash_preserves_heap {s : St} (hinv : Inv s) (r : Nat) (sub : Bytes) (i ht : Nat) :
    ∃ e, (Model.Heap.step s (.sighash r sub i ht)).1.heap = s.heap ++ e ∧
      (Model.Heap.step s (.sighash r sub i ht)).1.names = s.names ++ [none] :=
  (step_sighash_grows hinv.immClosed hinv.kindOK hinv.defaults r sub i ht).imp
    fun _ he => ⟨he, step_sighash_names s r sub i ht⟩

/-- `VerifyScript(scriptSig, scriptPubKey, tx, inIdx, flags)` — which touches `tx` only through
    `RawSignatureHash`, any number of times, with any scripts and hash types — leaves every existing
    object exactly as it was -/
theorem verify_preserves_heap {s : St} (hinv : Inv s) (r i : Nat) (calls : List (Bytes × Nat)) :
    ∃ e, (Model.Heap.step s (.verify r i calls)).1.heap = s.heap ++ e ∧
      (Model.Heap.step s (.verify r i calls)).1.names = s.names ++ [none] :=
  (step_verify_grows hinv.immClosed hinv.kindOK hinv.defaults r i calls).imp
    fun _ he => ⟨he, step_verify_names s r i calls⟩

/-- … in particular the value, the class and the cache slots of every object are the same after
    the call as before -/
theorem sighash_keeps_objects {s : St} (hinv : Inv s) (r : Nat) (sub : Bytes) (i ht : Nat) {x : Addr} {o : Obj}
    (ho : s.heap[x]? = some o) : (Model.Heap.step s (.sighash r sub i ht)).1.heap[x]? = some o := by
  obtain ⟨e, he, _⟩ := sighash_preserves_heap hinv r sub i ht
  rw [he]; exact getElem?_append_of_some e ho

theorem verify_keeps_objects {s : St} (hinv : Inv s) (r i : Nat) (calls : List (Bytes × Nat)) {x : Addr} {o : Obj}
    (ho : s.heap[x]? = some o) : (Model.Heap.step s (.verify r i calls)).1.heap[x]? = some o := by
  obtain ⟨e, he, _⟩ := verify_preserves_heap hinv r i calls
  rw [he]; exact getElem?_append_of_some e ho

/-- the class (mutable / immutable variant) and the current value of the object at any target are
    the ones the value store predicts -/
theorem target_refines {s : St} {sp : Store} (hinv : Inv s) (hrel : Rel s sp) {t : Target} {x : Addr}
    (ht : s.target t = some x) :
    ∃ (o : Obj) (v : Val), s.heap[x]? = some o ∧ absVal s.heap x = some v ∧ lookup sp t = some (o.isMut, v) := by
  obtain ⟨I⟩ := target_some hinv hrel ht
  exact ⟨I.o, I.vx, I.ho, I.habs, by rw [← I.hom]; exact I.hlook⟩

/-- a target that does not resolve on the heap does not exist on the value store either -/
theorem target_refines_none {s : St} {sp : Store} (hinv : Inv s) (hrel : Rel s sp) {t : Target}
    (ht : s.target t = none) : lookup sp t = none := target_none hinv hrel ht

/-! ### what the refinement means for copies -/

/-- on plain values, one step changes the entry of a name only if it is the mutable root the
    operation edits (`Op.edits`): immutable entries never change, and an edit of one object never
    changes another -/
theorem value_frame (sp : Store) (op : Op) {r : Nat} {e : Entry} (h : (sp[r]?).join = some e) :
    (((Spec.ValueSem.step sp op).1[r]?).join = some e) ∨ (op.edits = some r ∧ e.isMut = true) :=
  step_frame sp op h

theorem value_frame_run : ∀ (ops : List Op) (sp : Store) {r : Nat} {e : Entry}, (sp[r]?).join = some e →
    (∀ op ∈ ops, op.edits = some r → e.isMut = false) → (((Spec.ValueSem.run sp ops).1[r]?).join = some e)
  | [], sp, r, e, h, _ => h
  | op :: ops, sp, r, e, h, hops => by
    simp only [Spec.ValueSem.run]
    rcases step_frame sp op h with h1 | ⟨h1, h2⟩
    · exact value_frame_run ops _ h1 (fun op' hop' => hops op' (by simp [hop']))
    · have := hops op (by simp) h1
      rw [h2] at this; cases this

theorem spec_run_append (sp : Store) (a b : List Op) :
    Spec.ValueSem.run sp (a ++ b) =
      ((Spec.ValueSem.run (Spec.ValueSem.run sp a).1 b).1,
        (Spec.ValueSem.run sp a).2 ++ (Spec.ValueSem.run (Spec.ValueSem.run sp a).1 b).2) := by
  induction a generalizing sp with
  | nil => simp [Spec.ValueSem.run]
  | cons op a ih => simp [Spec.ValueSem.run, ih]

/-- **copies are independent** (heap model, any history): let name `r` denote, after the history
    `pre`, an object with value `v` (immutable snapshot, or mutable copy).  Whatever `post` does —
    edits of the object it was copied from, of other copies, signature hashing, script verification —
    as long as `post` does not edit `r` itself (an immutable `r` cannot be edited at all), serialising
    `r` afterwards yields the serialisation of `v`. -/
theorem copy_unaffected (pre post : List Op) {r : Nat} {e : Entry}
    (h : (((Spec.ValueSem.run Spec.ValueSem.init pre).1)[r]?).join = some e)
    (hpost : ∀ op ∈ post, op.edits = some r → e.isMut = false) (hs : e.val.isSeq = false) :
    (Model.Heap.run Model.Heap.init (pre ++ post ++ [.ser ⟨r, []⟩])).2.getLast? = some (.bytes (serVal e.val)) := by
  rw [refines_value_spec, List.append_assoc, spec_run_append, spec_run_append]
  have h2 := value_frame_run post _ h hpost
  simp only [Spec.ValueSem.run, Spec.ValueSem.step, observe, lookup, h2, Option.bind_eq_bind, Option.bind_some,
    Val.getM, hs]
  simp

/-! ### the extended catalogue: arguments may be REFERENCES to existing objects

  `Spec.AliasSem.OpX` adds to the catalogue `obj.attr = <existing object>`, `lst.append(<existing object>)`,
  `lst[i] = <existing object>`, `CMutableTransaction(<existing vin>, <existing vout>, …)`,
  `CMutableTxIn(<existing outpoint>, …)`, the `witness=None` constructor path, `CTxIn(<existing outpoint>, …)`
  and the edits of a witness's `vtxinwit` / `scriptWitness.stack` sequences.  After such steps objects
  legitimately share state, so separation is not a state invariant of this catalogue.  `InvX` (Proofs/HeapAliasInv.lean)
  keeps what stays true of every reachable heap: (i') closure of immutability WITHOUT EXCEPTION — an
  immutable-class object refers to immutable objects only, never to a mutable object or a Python list
  (D23: the model is property-conforming, the constructors of the immutable classes freeze what they are
  given; /repo without the D23 repair stores the caller's list / mutable outpoint, which the check reports
  as a violation), (ii) correctness of every filled cache, classes, one-step typing of
  references, the shared default objects.
  Clause (iii) takes the form of DESIGN §6 — a property of the copy operations: `copy_fresh_ext`. -/

theorem inv_init_ext : InvX Model.Heap.init.heap := invx_init

/-- every operation of the extended catalogue preserves the invariant -/
theorem inv_step_ext {s : St} (hinv : InvX s.heap) (op : OpX) : InvX (Model.HeapX.stepX s op).1.heap :=
  invx_step hinv op

theorem inv_reachable_ext (ops : List OpX) : InvX (Model.HeapX.runX Model.Heap.init ops).1.heap :=
  invx_run ops invx_init

/-- (ii) under arbitrary user-made aliasing: a filled cache slot of an immutable object (outpoint,
    input, output, witness, transaction, header, block) equals the identifier recomputed from the
    object's current serialisation -/
theorem cache_correct_ext {h : Heap} (hinv : InvX h) {a : Addr} {o : Obj} (ho : h[a]? = some o)
    (hm : o.isMut = false) :
    (∀ c, o.cHash = some c → ∃ v, absVal h a = some v ∧ identOf v = .ok c) ∧
    (∀ c, o.cPy = some c → ∃ v, absVal h a = some v ∧ pyHashOf v = .ok c) :=
  hinv.cacheOK a o ho hm

/-- (i') everything reachable from an immutable object is immutable (no exception) -/
theorem immutable_reach_ext {h : Heap} (hinv : InvX h) {f : Nat} {a : Addr} {t : ATree} {o : Obj}
    (hu : unfoldA f h a = some t) (ho : h[a]? = some o) (hm : o.isMut = false) :
    ∀ x ∈ addrs t, ∃ ox : Obj, h[x]? = some ox ∧ ox.isMut = false :=
  imm_reachX hinv.immClosed hinv.kindOK hinv.typed hu (fun o' ho' => by rw [ho] at ho'; cases ho'; exact hm)

/-- **(iii) as in DESIGN §6**: no mutable object is reachable from two roots where one was created by
    a copy operation from the other.  After `CMutableX.from_x(src)` every writable object reachable
    from the copy was allocated by the copy operation (address beyond the old heap), and the old heap
    is untouched — whatever sharing the caller had set up before.  (For `CX.from_x`, the immutable
    snapshot, `immutable_reach_ext` says that nothing writable is reachable at all.) -/
theorem copy_fresh_ext {h : Heap} (hinv : InvX h) {a : Addr} {ta : ATree} {p : Plan}
    (hu : unfoldA D h a = some ta) (hp : planClone true D h a = some p) :
    InvX (allocPlan h p).1 ∧ (∃ e, (allocPlan h p).1 = h ++ e) ∧
    ∃ t', unfoldA D (allocPlan h p).1 (allocPlan h p).2 = some t' ∧
      ∀ (x : Addr) (ox : Obj), x ∈ addrs t' → (allocPlan h p).1[x]? = some ox → ox.isMut = true →
        h.length ≤ x :=
  copy_fresh hinv hu hp

/-- `RawSignatureHash` under arbitrary aliasing: every existing object is left exactly as it was -/
theorem sighash_preserves_heap_ext {s : St} (hinv : InvX s.heap) (r : Nat) (sub : Bytes) (i ht : Nat) :
    ∃ e, (Model.HeapX.stepX s (.base (.sighash r sub i ht))).1.heap = s.heap ++ e :=
  step_sighash_grows hinv.immClosed hinv.kindOK hinv.defaults r sub i ht

/-- `VerifyScript` (any number of `RawSignatureHash` calls) under arbitrary aliasing -/
theorem verify_preserves_heap_ext {s : St} (hinv : InvX s.heap) (r i : Nat) (calls : List (Bytes × Nat)) :
    ∃ e, (Model.HeapX.stepX s (.base (.verify r i calls))).1.heap = s.heap ++ e :=
  step_verify_grows hinv.immClosed hinv.kindOK hinv.defaults r i calls

/-- `GetHash()` at any address of a heap satisfying `InvX` — mutable or immutable class, cache filled
    or not, shared or not — is the identifier of the object's current value -/
theorem heap_ident_eq_value_ext {h : Heap} (hinv : InvX h) {a : Addr} {o : Obj} {v : Val}
    (ho : h[a]? = some o) (hv : absVal h a = some v) : ∃ h', getHashAt h a = some (h', identOf v) :=
  getHashAt_ident hinv.cacheOK hv

/-- storing a reference into an attribute of an instance of an immutable class raises `AttributeError` -/
theorem immutable_setref_rejected_ext (s : St) (t src : Target) (slot : Nat) {x y cur : Addr} {o : Obj}
    (ht : s.target t = some x) (hs : s.target src = some y) (ho : s.heap[x]? = some o)
    (hseq : o.sc.isSeq = false) (hcur : o.refs[slot]? = some cur)
    (hk : Model.HeapX.kindAt s.heap cur = Model.HeapX.kindAt s.heap y) (hm : o.isMut = false) :
    Model.HeapX.stepX s (.assignRef t slot src) = (s.skip, .err attributeError) := by
  simp [Model.HeapX.stepX, ht, hs, ho, hseq, hcur, hk, hm]

/-- **immutables never change** (extended catalogue, any aliasing): no operation changes the class,
    the value slots or the references of an immutable object — only its cache slots may be filled -/
theorem immutable_slots_stable_ext {s : St} (hinv : InvX s.heap) (op : OpX) {a : Addr} {o : Obj}
    (ho : s.heap[a]? = some o) (hm : o.isMut = false) :
    ∃ o' : Obj, (Model.HeapX.stepX s op).1.heap[a]? = some o' ∧ o'.isMut = false ∧ o'.sc = o.sc ∧ o'.refs = o.refs := by
  obtain ⟨o', ho', e1, e2, e3⟩ := (trx_step hinv op).keep a o ho hm
  exact ⟨o', ho', by rw [e1, hm], e2, e3⟩

/-- … hence **a snapshot is never affected**: the value (and so the serialisation, identifiers, hash,
    equality) of an immutable object is the same after any operation — edits through any alias of the
    object it was taken from, signature hashing, script verification, further copies … -/
theorem immutable_value_stable_ext {s : St} (hinv : InvX s.heap) (op : OpX) {a : Addr} {o : Obj} {v : Val}
    (ho : s.heap[a]? = some o) (hm : o.isMut = false) (hv : absVal s.heap a = some v) :
    absVal (Model.HeapX.stepX s op).1.heap a = some v :=
  absVal_keep hinv (trx_step hinv op).keep ho hm hv

/-- the same over any history -/
theorem immutable_value_stable_run_ext {s : St} (hinv : InvX s.heap) (ops : List OpX) {a : Addr} {o : Obj} {v : Val}
    (ho : s.heap[a]? = some o) (hm : o.isMut = false) (hv : absVal s.heap a = some v) :
    absVal (Model.HeapX.runX s ops).1.heap a = some v :=
  absVal_keep hinv (trx_run ops hinv).keep ho hm hv

/-- **identifiers reflect the current field values, shared ones included**: `GetHash()` on any target
    returns the identifier of the value obtained by walking the object graph as it is at the time of the call -/
theorem getHash_reflects_value_ext {s : St} (hinv : InvX s.heap) (t : Target) {x : Addr} {o : Obj} {v : Val}
    (ht : s.target t = some x) (ho : s.heap[x]? = some o) (hv : absVal s.heap x = some v) (hs : o.sc.isSeq = false) :
    (Model.HeapX.stepX s (.base (.getHash t))).2 = .bytes (identOf v) := by
  obtain ⟨h', hg⟩ := heap_ident_eq_value_ext hinv ho hv
  show (Model.Heap.step s (.getHash t)).2 = _
  simp [Model.Heap.step, observeAt, ht, ho, hv, hs, hg]

/-- `serialize()` likewise (no cache is involved: this is the definition of the model) -/
theorem ser_reflects_value_ext (s : St) (t : Target) {x : Addr} {o : Obj} {v : Val}
    (ht : s.target t = some x) (ho : s.heap[x]? = some o) (hv : absVal s.heap x = some v) (hs : o.sc.isSeq = false) :
    (Model.HeapX.stepX s (.base (.ser t))).2 = .bytes (serVal v) := by
  show (Model.Heap.step s (.ser t)).2 = _
  simp [Model.Heap.step, observeAt, ht, ho, hv, hs]

/-- … in every heap the extended catalogue can reach: whatever the history (default witnesses, `CTxIn` built
    over a caller's mutable outpoint, user-made sharing of lists and objects), nothing mutable — no object of a
    mutable class, no Python list — is reachable from an object of an immutable class -/
theorem immutable_reach_reachable_ext (ops : List OpX) {f : Nat} {a : Addr} {t : ATree} {o : Obj}
    (hu : unfoldA f (Model.HeapX.runX Model.Heap.init ops).1.heap a = some t)
    (ho : (Model.HeapX.runX Model.Heap.init ops).1.heap[a]? = some o) (hm : o.isMut = false) :
    ∀ x ∈ addrs t, ∃ ox : Obj, (Model.HeapX.runX Model.Heap.init ops).1.heap[x]? = some ox ∧ ox.isMut = false :=
  immutable_reach_ext (inv_reachable_ext ops) hu ho hm

/-- `w.vtxinwit[i] = …` raises TypeError and `w.vtxinwit.append(…)` AttributeError for every `CTxWitness`
    object `w` (also the default one of `CMutableTransaction(vin, vout)`, also one built from a list): the
    sequence inside an immutable-class object is a tuple -/
theorem witness_list_edit_rejected_ext (s : St) (t : Target) (i : Option Nat) (st : WitStack) {x : Addr}
    (ht : s.target t = some x) (hk : Model.HeapX.kindAt s.heap x = some 4) :
    Model.HeapX.stepX s (.witListEdit t i st) =
      (s.skip, .err (if i.isSome then typeError else attributeError)) := by
  simp [Model.HeapX.stepX, ht, hk]

/-- likewise `iw.scriptWitness.stack[j] = b` / `.append(b)` for every `CTxInWitness` object -/
theorem witness_stack_edit_rejected_ext (s : St) (t : Target) (j : Option Nat) (b : Bytes) {x : Addr}
    (ht : s.target t = some x) (hk : Model.HeapX.kindAt s.heap x = some 3) :
    Model.HeapX.stepX s (.stackEdit t j b) =
      (s.skip, .err (if j.isSome then typeError else attributeError)) := by
  simp [Model.HeapX.stepX, ht, hk]

theorem runX_base (s : St) : ∀ ops : List Op,
    Model.HeapX.runX s (ops.map OpX.base) = Model.Heap.run s ops
  | [] => rfl
  | op :: ops => by
    simp only [List.map_cons, Model.HeapX.runX, Model.Heap.run, Model.HeapX.stepX]
    rw [runX_base _ ops]

/-- the proved part of `refines_alias_spec` (below): on histories WITHOUT by-reference operations — all
    arguments are fresh values, so no sharing can arise and a cell store is not needed — the heap model
    of the extended catalogue yields, observation by observation, what the value store `Spec.ValueSem`
    yields.  Missing for the full statement: the 12 operations of `OpX` that are not `.base`, and the
    reference side `Spec.AliasSem` in place of `Spec.ValueSem` (that `Spec.AliasSem.stepBase` agrees with
    `Spec.ValueSem.step` on such histories is not proved either; both are compared with the heap model
    on every generated case by `c09.runc`). -/
theorem refines_alias_spec_partial (ops : List Op) :
    (Model.HeapX.runX Model.Heap.init (ops.map OpX.base)).2 = (Spec.ValueSem.run Spec.ValueSem.init ops).2 := by
  rw [runX_base, refines_value_spec]

-- UNPROVED (full statement): the heap model of the extended catalogue refines the store of cells with
-- explicit aliasing (`Spec.AliasSem`), on every observable, for every history:
--
--   theorem refines_alias_spec (ops : List OpX) :
--       (Model.HeapX.runX Model.Heap.init ops).2 = (Spec.AliasSem.runX Spec.AliasSem.init ops).2
--
-- together with its corollary `copy_unaffected_ext` (serialising a name after any later history that
-- does not write a cell reachable from it yields the serialisation it had).  What is proved instead
-- (`…_ext` above): the invariant `InvX` for every operation and history (`inv_step_ext`,
-- `inv_reachable_ext`), hence correctness of every cache under arbitrary aliasing (`cache_correct_ext`,
-- `heap_ident_eq_value_ext`, `getHash_reflects_value_ext`); immutability of every immutable object and
-- stability of its value — snapshots are never affected — under every operation and history
-- (`immutable_slots_stable_ext`, `immutable_value_stable_ext`, `immutable_value_stable_run_ext`);
-- freshness of everything writable in a mutable copy at the time it is made (`copy_fresh_ext`);
-- `RawSignatureHash`/`VerifyScript` leave every existing object as it is (`sighash_preserves_heap_ext`,
-- `verify_preserves_heap_ext`).  Missing for the full statement: the simulation relation between
-- addresses of mutable objects and cells (an injection extended by every allocation) and its
-- preservation by the 37 operations (25 of `Op`, 12 more of `OpX`); in particular that a mutable copy stays unaffected by LATER edits
-- of other objects (it follows from `copy_fresh_ext` plus a frame argument per operation).  The
-- statement is tied by T2 instead: `c09.runc` runs every generated history on `Model.HeapX` and on
-- `Spec.AliasSem` and compares all observations (harness: every case of both tiers).
-- Proved part: `refines_alias_spec_partial` (histories without by-reference operations).

/-! ### `==`, `!=` and `hash()` cohere (both catalogues: they are computed by `eqVals` / `pyHashOf` on current values) -/

/-- `a == b` is true only for objects of related classes with the same serialisation — for a `CBlock` that is
    header AND transactions, so a block never equals its bare header nor a block with the same header and
    another `vtx` — and then `hash(a) == hash(b)` (`!=` is `not ==`, `Serializable.__ne__`) -/
theorem eq_true_ser_hash (ma mb : Bool) (va vb : Val) (h : eqVals ma va mb vb = .ok true) :
    va.family = vb.family ∧ serVal va = serVal vb ∧ pyHashOf va = pyHashOf vb := by
  unfold eqVals at h
  by_cases hf : va.family = vb.family
  · simp only [hf, ne_eq, not_true_eq_false, if_false] at h
    refine ⟨hf, ?_⟩
    have aux : ∀ (r : Bool) (x y : Res Bytes),
        (if r then (do let b ← y; let a ← x; pure (a == b)) else (do let a ← x; let b ← y; pure (a == b)))
          = (.ok true : Res Bool) → x = y := by
      intro r x y hr
      cases x <;> cases y <;> cases r <;>
        simp [Bind.bind, Except.bind, Pure.pure, Except.pure] at hr ⊢ <;> first | exact hr | exact hr.symm
    have key : serVal va = serVal vb := aux _ _ _ h
    exact ⟨key, by simp only [pyHashOf, key]⟩
  · simp [hf] at h

/-- a block and its header differ in serialisation whenever the block serialises: `==` is false -/
example : eqVals false (.block ⟨⟨2, List.replicate 32 0, List.replicate 32 1, 1, 2, 3⟩, []⟩) false
    (.header ⟨2, List.replicate 32 0, List.replicate 32 1, 1, 2, 3⟩) = .ok false := by
  rfl

/-! ### the digest of the heap `RawSignatureHash` and `Model.Sighash` -/

theorem validTx_eq_fromTxOk (t : Tx) :
    validTx t = (t.vin.all Model.Sighash.fromTxInOk && decide (t.nLockTime ≤ 0xffffffff)) := by
  rw [Bool.eq_iff_iff]
  simp only [validTx, validTxIn, validOutPoint, Model.Sighash.fromTxInOk, Bool.and_eq_true, List.all_eq_true,
    decide_eq_true_eq, beq_iff_eq]
  constructor
  · rintro ⟨h1, h2⟩; exact ⟨fun i hi => ⟨⟨(h2 i hi).1.1, (h2 i hi).1.2⟩, (h2 i hi).2⟩, h1⟩
  · rintro ⟨h1, h2⟩; exact ⟨h2, fun i hi => ⟨⟨(h1 i hi).1.1, (h1 i hi).1.2⟩, (h1 i hi).2⟩⟩

/-- the proved part of the bridge `rawSigHash_eq_sighash_model` (below): on the two exits taken before the
    private copy is edited — input index out of range (`HASH_ONE`), `CMutableTransaction.from_tx` raising
    ValueError — the heap execution leaves the heap as it is and yields what `Model.Sighash.rawSignatureHash`
    yields on the value at that address, for every script.  Missing: the main path (the value of the private
    copy after each surgery step); it is compared on every generated `sighash` step by `c09.runc`. -/
theorem rawSigHash_eq_sighash_model_partial {h : Heap} {a : Addr} {t : Tx} (script sub : Bytes) (inIdx ht : Nat)
    (habs : absVal h a = some (.tx t)) (hexit : inIdx ≥ t.vin.length ∨ validTx t = false) :
    rawSigHash h a sub inIdx ht =
      some (h, (Model.Sighash.rawSignatureHash script t inIdx (ht : Int)).map (·.1)) := by
  simp only [rawSigHash, habs, Model.Sighash.rawSignatureHash]
  by_cases hi : inIdx ≥ t.vin.length
  · simp only [hi, if_true]
    rfl
  · have hv : validTx t = false := hexit.resolve_left hi
    simp only [hi, if_false, hv, Bool.not_false, if_true]
    have hf : Model.Sighash.fromTx t = .error .valueerr := by
      simp only [Model.Sighash.fromTx]
      rw [validTx_eq_fromTxOk] at hv
      simp only [hv]
      rfl
    simp only [hf]
    rfl

-- UNPROVED (full statement): the digest the heap execution of `RawSignatureHash` computes is the digest
-- `Model.Sighash.rawSignatureHash` (the model C03/C05/C06 are about) computes on the VALUE of the transaction
-- object at that address — whatever sharing the caller has set up:
--
--   theorem rawSigHash_eq_sighash_model {h h' : Heap} (hinv : InvX h) {a : Addr} {t : Tx} {script sub : Bytes}
--       {inIdx ht : Nat} {d : Res Bytes} (habs : absVal h a = some (.tx t))
--       (hfad : Model.Sighash.findAndDelete script [0xab] = .ok sub)
--       (hr : rawSigHash h a sub inIdx ht = some (h', d)) :
--       d = (Model.Sighash.rawSignatureHash script t inIdx (ht : Int)).map (·.1)
--
-- Proved: `rawSigHash_eq_sighash_model_partial` (the exits before the surgery), `rawSigHash_ext` /
-- `sighash_preserves_heap_ext` (the execution is not stuck on a heap satisfying `InvX` and leaves every existing
-- object as it is), `copy_fresh_ext` (the private copy shares nothing writable).  Missing: the value of the
-- private copy after each step of the surgery (`sigScripts`, `sigNone`, `sigSingle`, `sigAnyone`, `sigWit`)
-- equals `pruneOutputs`/`pruneInputs`/… of `Model.Sighash` applied to `t`.  T2 tie: `c09.runc` computes both
-- digests on every `sighash` step of every generated history and reports a difference as `@@diff@k`; the
-- harness in addition compares the heap digest with Python's `RawSignatureHash`.

/-! ### non-vacuity: concrete histories -/

def tx0 : Tx :=
  { nVersion := 1, vin := [⟨⟨List.replicate 32 0x11, 0⟩, [0x51], 0xffffffff⟩], vout := [⟨5, [0x76]⟩],
    wit := [], nLockTime := 0 }

/-- snapshot, then mutate an outpoint of the source: the snapshot is no longer equal to the source,
    and assigning to the snapshot raises `AttributeError` -/
example :
    (Model.Heap.run Model.Heap.init
      [.newTx tx0, .snapshot ⟨0, []⟩, .eq ⟨0, []⟩ ⟨1, []⟩, .assign ⟨0, [0, 0, 0]⟩ (.n 7), .eq ⟨0, []⟩ ⟨1, []⟩,
       .assign ⟨1, []⟩ (.nLockTime 3), .delAttr ⟨1, [0, 0]⟩]).2 =
    [.created, .created, .bool (.ok true), .done, .bool (.ok false), .err attributeError, .err attributeError] := by
  rw [refines_value_spec]; rfl

set_option maxHeartbeats 4000000 in
/-- mutable copy, edits of the copy's lists, signature hash of the source: all run (nothing is stuck) -/
example :
    (Model.Heap.run Model.Heap.init
      [.newTx tx0, .mutCopy ⟨0, []⟩, .appendIn 1 ⟨⟨List.replicate 32 0x22, 1⟩, [], 5⟩, .removeOut 1 0,
       .sighash 0 [0x51] 0 3, .verify 0 0 [([0xac], 1)], .eq ⟨0, []⟩ ⟨1, []⟩]).2 =
    [.created, .created, .done, .done, .done, .done, .bool (.ok false)] := by
  -- evaluated on the value store: there `sighash`/`verify` are no-ops, on the heap they clone and edit
  rw [refines_value_spec]; rfl

/-- the hypotheses of `immutable_setattr_rejected` are met by the snapshot of the first example -/
example : ∃ (s : St) (x : Addr) (o : Obj), s.target ⟨1, [0, 0]⟩ = some x ∧ s.heap[x]? = some o ∧
    o.isMut = false ∧ o.sc.isSeq = false ∧ Inv s :=
  ⟨(Model.Heap.run Model.Heap.init [.newTx tx0, .snapshot ⟨0, []⟩]).1, _, _, rfl, rfl, rfl, rfl,
    inv_reachable _⟩

/-- the hypotheses of `copy_unaffected` are met: name 1 is the snapshot of `tx0`; the later history
    edits only name 0 -/
example :
    (((Spec.ValueSem.run Spec.ValueSem.init [.newTx tx0, .snapshot ⟨0, []⟩]).1)[1]?).join = some ⟨false, .tx tx0⟩ ∧
    (∀ op ∈ [Op.assign ⟨0, [0, 0, 0]⟩ (.n 7), .appendOut 0 ⟨1, []⟩, .sighash 0 [0x51] 0 1],
      op.edits = some 1 → (⟨false, .tx tx0⟩ : Entry).isMut = false) :=
  ⟨rfl, fun _ _ _ => rfl⟩

/-- aliasing through the extended catalogue: `tx1.vin = tx0.vin`, snapshot of `tx1`, edit through
    `tx0`: the two mutable transactions change together, the snapshot does not; the default witness is an
    immutable object over a tuple: its list edits are rejected, its cached hash stays right; `CTxIn` over a
    caller's mutable outpoint keeps a copy: editing the outpoint afterwards does not reach it -/
example :
    (Model.HeapX.runX Model.Heap.init
      [.base (.newTx tx0), .newTxDefault tx0, .assignRef ⟨1, []⟩ 0 ⟨0, [0]⟩, .base (.snapshot ⟨1, []⟩),
       .base (.eq ⟨0, []⟩ ⟨1, []⟩), .base (.assign ⟨0, [0, 0, 0]⟩ (.n 7)), .base (.eq ⟨0, []⟩ ⟨1, []⟩),
       .base (.eq ⟨1, []⟩ ⟨3, []⟩), .base (.getHash ⟨1, [2]⟩), .base (.setWit 1 [[[1]]]),
       .base (.eq ⟨1, [2]⟩ ⟨3, [2]⟩), .witListEdit ⟨3, [2]⟩ (some 0) [[7]], .witListEdit ⟨1, [2]⟩ none [],
       .stackEdit ⟨1, [2, 0, 0]⟩ (some 0) [7], .newCTxInFrom (some ⟨0, [0, 0, 0]⟩) [0x51] 5,
       .base (.getHash ⟨14, []⟩), .base (.assign ⟨0, [0, 0, 0]⟩ (.n 9)), .base (.getHash ⟨14, []⟩),
       .base (.ser ⟨14, [0]⟩)]).2 =
    [.created, .created, .done, .created, .bool (.ok true), .done, .bool (.ok true), .bool (.ok false),
     .bytes (identOf (.wit [[]])), .done, .bool (.ok false), .err typeError, .err attributeError, .err typeError,
     .created, .bytes (identOf (.txin ⟨⟨List.replicate 32 0x11, 7⟩, [0x51], 5⟩)), .done,
     .bytes (identOf (.txin ⟨⟨List.replicate 32 0x11, 7⟩, [0x51], 5⟩)),
     .bytes (serVal (.outpoint ⟨List.replicate 32 0x11, 7⟩))] := by
  rfl

end BtcVerif.C09

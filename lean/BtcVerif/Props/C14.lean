/-
  C14 — signed messages: property theorems.

  Glue of bitcoin/signmessage.py and of the compact-signature code in bitcoin/core/key.py
  (`Model.Keys.*`) against the reference layout (`Spec.Keys.*`).  Recovery arithmetic is OpenSSL's
  (BN_*, EC_POINT_*), orchestrated by python: the model instantiates it with the reference curve;
  that OpenSSL agrees with the reference curve is covered by the correspondence runs (T2) only.
-/
import BtcVerif.Model.Keys
import BtcVerif.Proofs.Der
import BtcVerif.Proofs.Keys
import BtcVerif.Proofs.Ecdsa
import BtcVerif.Proofs.CryptoLen
import BtcVerif.Proofs.Wire
import BtcVerif.Props.C10

namespace BtcVerif.C14
open BtcVerif BtcVerif.Crypto

/-! ### message digest layout -/

/-- `VarIntSerializer` writes the CompactSize of every length below 2^64 -/
theorem serVarInt_eq_compactSize (i : Nat) (h : i < 2 ^ 64) :
    Model.Wire.serVarInt i = .ok (Spec.Wire.compactSize i) := Codec.serVarInt_ok h

theorem serBytes_eq_varBytes (b : Bytes) (h : b.length < 2 ^ 64) :
    Model.Wire.serBytes b = .ok (Spec.Wire.varBytes b) := Codec.serBytes_ok h

/-- for a magic string and a message of any length (below 2^64 bytes, where
    `struct.pack('<Q')` ends) `BitcoinMessage.GetHash()` is the double SHA-256 of
    CompactSize-prefixed magic ‖ CompactSize-prefixed message; no exception -/
theorem msg_digest_eq_spec (magic msg : Bytes) (hm : magic.length < 2 ^ 64) (hl : msg.length < 2 ^ 64) :
    Model.Keys.msgDigest magic msg = .ok (Spec.Keys.msgDigest magic msg) := by
  unfold Model.Keys.msgDigest Model.Keys.msgSerialize Spec.Keys.msgDigest
  rw [serBytes_eq_varBytes _ hm, serBytes_eq_varBytes _ hl]
  rfl

/-- text level: `BitcoinMessage(text).GetHash()` with the default magic hashes the UTF-8 bytes of the text -/
theorem msg_digest_text (text : String) (hl : text.toUTF8.toList.length < 2 ^ 64) :
    Model.Keys.msgDigestText text = .ok (Spec.Keys.msgDigest Spec.Keys.messageMagic text.toUTF8.toList) :=
  msg_digest_eq_spec _ _ (by decide +kernel) hl

/-- the default magic is the 24 bytes of "Bitcoin Signed Message:\n", so its prefix is the single byte 0x18 -/
theorem magic_prefix : Spec.Wire.varBytes Spec.Keys.messageMagic = 0x18 :: Spec.Keys.messageMagic := by
  decide +kernel

theorem serVarInt_too_long {i : Nat} (h : 2 ^ 64 ≤ i) : Model.Wire.serVarInt i = .error structError :=
  Codec.serVarInt_too_long h

/-- beyond 2^64 bytes the length no longer fits `'<Q'`: struct.error, not a wrong digest -/
theorem msg_digest_too_long (magic msg : Bytes) (hm : magic.length < 2 ^ 64) (hl : 2 ^ 64 ≤ msg.length) :
    Model.Keys.msgDigest magic msg = .error structError := by
  unfold Model.Keys.msgDigest Model.Keys.msgSerialize
  rw [serBytes_eq_varBytes _ hm, Model.Wire.serBytes, serVarInt_too_long hl]
  rfl

/-! ### header byte of compact signatures -/

/-- `SignMessage` writes the header Bitcoin Core prescribes -/
theorem headerByte_eq_spec (recid : Nat) (c : Bool) :
    Model.Keys.headerByte recid c = Spec.Keys.headerByte recid c := by
  cases c <;> rfl

/-- for the four recovery ids the header byte is in 27..34 -/
theorem header_range (recid : Nat) (c : Bool) (h : recid < 4) :
    27 ≤ Model.Keys.headerByte recid c ∧ Model.Keys.headerByte recid c ≤ 34 := by
  cases c
  · exact ⟨Nat.le_add_right 27 recid, Nat.add_le_add_left (Nat.le_of_lt_succ (Nat.lt_of_lt_of_le h (by decide : 4 ≤ 8))) 27⟩
  · exact ⟨Nat.le_add_right 27 (recid + 4), Nat.add_le_add_left (Nat.add_le_add_right (Nat.le_of_lt_succ h) 4) 27⟩

/-- from 27 on, the header arithmetic of `recover_compact` is on naturals: bits 0–1 and bit 2 of
    `h − 27` (below 27 Python's floor semantics of `&` on a negative number matter) -/
theorem headerDecode_add (k : Nat) :
    Model.Keys.headerDecode (27 + k) = (k % 4, decide (k / 4 % 2 ≠ 0)) := by
  unfold Model.Keys.headerDecode
  have e : ((27 + k : Nat) : Int) - 27 = (k : Int) := by omega
  simp only [e]
  norm_cast

/-- `recover_compact` reads back exactly the recovery id and compression flag that
    `SignMessage` encoded, for recid ∈ 0..3 and both compressions -/
theorem header_roundtrip (recid : Nat) (c : Bool) (h : recid < 4) :
    Model.Keys.headerDecode (Model.Keys.headerByte recid c) = (recid, c) := by
  cases c
  · show Model.Keys.headerDecode (27 + recid) = _
    rw [headerDecode_add, Nat.mod_eq_of_lt h, Nat.div_eq_of_lt h]; rfl
  · show Model.Keys.headerDecode (27 + recid + 4) = _
    rw [Nat.add_assoc, headerDecode_add, Nat.add_mod_right, Nat.mod_eq_of_lt h,
      Nat.add_div_right _ (by decide), Nat.div_eq_of_lt h]; rfl

/-- `k = 4·(k / 4) + k % 4` with `k / 4` zero or one, for the eight offsets of a header in 27..34 -/
theorem header_offset {k : Nat} (hk : k ≤ 7) :
    (k / 4 = 0 ∧ k % 4 = k) ∨ (k / 4 = 1 ∧ k % 4 + 4 = k) := by
  rcases Nat.lt_or_ge k 4 with h | h
  · exact .inl ⟨Nat.div_eq_of_lt h, Nat.mod_eq_of_lt h⟩
  · obtain ⟨j, rfl⟩ := Nat.exists_eq_add_of_le h
    have hj : j < 4 := by omega
    rw [Nat.add_div_left _ (by decide), Nat.add_mod_left, Nat.div_eq_of_lt hj, Nat.mod_eq_of_lt hj]
    exact .inr ⟨rfl, Nat.add_comm ..⟩

/-- on the range 27..34 the decoding in `recover_compact` is Bitcoin Core's -/
theorem headerDecode_eq_spec (h : Nat) (p : Nat × Bool) (hs : Spec.Keys.headerDecode h = some p) :
    Model.Keys.headerDecode h = p := by
  unfold Spec.Keys.headerDecode at hs
  split at hs
  · rename_i hr
    obtain ⟨k, rfl⟩ := Nat.exists_eq_add_of_le hr.1
    injection hs with hs
    rw [← hs, headerDecode_add, Nat.add_sub_cancel_left]
    rcases header_offset (Nat.le_of_add_le_add_left (hr.2 : 27 + k ≤ 27 + 7)) with ⟨e, _⟩ | ⟨e, _⟩ <;> rw [e] <;> rfl
  · cases hs

/-- every header in 27..34 is the header of exactly one (recid, compression) pair -/
theorem header_decode_encode (h : Nat) (h1 : 27 ≤ h) (h2 : h ≤ 34) :
    Model.Keys.headerByte (Model.Keys.headerDecode h).1 (Model.Keys.headerDecode h).2 = h := by
  obtain ⟨k, rfl⟩ := Nat.exists_eq_add_of_le h1
  rw [headerDecode_add]
  rcases header_offset (Nat.le_of_add_le_add_left (h2 : 27 + k ≤ 27 + 7)) with ⟨e, e'⟩ | ⟨e, e'⟩ <;> rw [e]
  · show 27 + k % 4 = _; rw [e']
  · show 27 + k % 4 + 4 = _; rw [Nat.add_assoc, e']

/-! ### `sign_compact` -/

/-- the outcomes of `sign_compact` on the strict encoding of `(r, s)` with r, s < 2^256: the DER
    reader returns the content octets and neither padding assertion fires, so what is left is the
    digest length test and the search for a recovery id over the fixed-width `r ‖ s` -/
theorem signCompact_outcome (hash pubC : Bytes) (r s : Nat) (hr : r < 2 ^ 256) (hs : s < 2 ^ 256) :
    Model.Keys.signCompactFinish hash (Secp256k1.derEncode r s) pubC = .error .valueerr ∨
    hash.length = 32 ∧ ∃ i Q,
      Model.Keys.signCompactFinish hash (Secp256k1.derEncode r s) pubC =
        .ok (Secp256k1.be32 r ++ Secp256k1.be32 s, i) ∧ i < 4 ∧
      Model.Keys.recover (Secp256k1.be32 r) (Secp256k1.be32 s) hash i true = (1, some Q) ∧
      Secp256k1.encode Q true = pubC := by
  unfold Model.Keys.signCompactFinish
  by_cases hh : hash.length = 32
  · rw [if_neg (fun h => h hh)]
    simp only [bind, Except.bind,
      derSigDeserialize_derEncode r s (derShort_of_lt hr hs), pad32_derIntBody r hr, pad32_derIntBody s hs]
    split
    · rename_i i hi
      have hmem : i ∈ [0, 1, 2, 3] := List.mem_of_find?_eq_some hi
      have htry := List.find?_some hi
      split at htry
      · rename_i Q hQ
        exact .inr ⟨hh, i, Q, rfl, by simp at hmem; omega, hQ, beq_iff_eq.mp htry⟩
      · cases htry
    · exact .inl rfl
  · exact .inl (by rw [if_pos hh]; rfl)

/-- what `sign_compact` returns, given that the low-S normalised DER signature is the strict encoding
    of `(r, s)` with r, s < 2^256: the 64 bytes are the fixed-width big-endian `r ‖ s` (neither
    assertion fires, nothing is truncated) and the recovery id is one in 0..3 under which the python
    recovery code, with its checks on, reproduces the signer's compressed key -/
theorem signCompact_layout (hash pubC sig : Bytes) (r s i : Nat) (hr : r < 2 ^ 256) (hs : s < 2 ^ 256)
    (h : Model.Keys.signCompactFinish hash (Secp256k1.derEncode r s) pubC = .ok (sig, i)) :
    hash.length = 32 ∧ sig = Secp256k1.be32 r ++ Secp256k1.be32 s ∧ i < 4 ∧
    ∃ Q, Model.Keys.recover (Secp256k1.be32 r) (Secp256k1.be32 s) hash i true = (1, some Q) ∧
         Secp256k1.encode Q true = pubC := by
  rcases signCompact_outcome hash pubC r s hr hs with he | ⟨hh, j, Q, hj, hlt, hQ, hp⟩
  · rw [he] at h; cases h
  · rw [hj] at h
    injection h with h
    injection h with h1 h2
    subst h1 h2
    exact ⟨hh, rfl, hlt, Q, hQ, hp⟩

/-- the only ways `sign_compact` fails on such input: a digest that is not 32 bytes, or no recovery id
    reproducing the key — both ValueError -/
theorem signCompact_error (hash pubC : Bytes) (r s : Nat) (hr : r < 2 ^ 256) (hs : s < 2 ^ 256) (e : Exc)
    (h : Model.Keys.signCompactFinish hash (Secp256k1.derEncode r s) pubC = .error e) : e = .valueerr := by
  rcases signCompact_outcome hash pubC r s hr hs with he | ⟨_, j, _, hj, _⟩
  · rw [he] at h; injection h with h; exact h.symm
  · rw [hj] at h; cases h

/-! ### `recover_compact`, `VerifyMessage` -/

/-- a compact signature must be exactly 65 bytes -/
theorem recoverCompact_length (hash sig : Bytes) (h : sig.length ≠ 65) :
    Model.Keys.recoverCompact hash sig = .error .valueerr := by
  simp [Model.Keys.recoverCompact, h]

/-- the header arithmetic the header theorems are about is the one `recover_compact` runs -/
theorem recoverCompact_header (hash : Bytes) (h : UInt8) (body : Bytes) (hl : (h :: body).length = 65) :
    Model.Keys.recoverCompact hash (h :: body) =
      match Model.Keys.recover (body.take 32) ((body.drop 32).take 32) hash (Model.Keys.headerDecode h.toNat).1 false with
      | (1, some Q) => .ok (some (Secp256k1.encode Q (Model.Keys.headerDecode h.toNat).2))
      | _ => .ok none := by
  unfold Model.Keys.recoverCompact
  rw [if_neg (by omega)]
  rfl

/-- once the digest is computed and a key `pk` recovered, `VerifyMessage` is the validity test of
    the key followed by the comparison of two address texts -/
theorem verifyMessage_eq (cv : Nat) (addrText : List Char) (magic msg sig digest pk : Bytes)
    (hd : Model.Keys.msgDigest magic msg = .ok digest)
    (hr : Model.Keys.recoverCompact digest sig = .ok (some pk)) :
    Model.Keys.verifyMessage cv addrText magic msg sig =
      if Model.Keys.isFullyValid pk then .ok (decide (Model.Keys.p2pkhText cv pk = addrText))
      else .error .addrerr := by
  unfold Model.Keys.verifyMessage
  rw [hd, Codec.ok_bind, hr]
  rfl

/-- `VerifyMessage` answers true only when a key was recovered from (digest of THIS message, signature)
    and the text of the given address is, character for character, the text of that key's P2PKH address
    under the selected chain -/
theorem verify_true_only_if (cv : Nat) (addrText : List Char) (magic msg sig : Bytes)
    (h : Model.Keys.verifyMessage cv addrText magic msg sig = .ok true) :
    ∃ digest pk, Model.Keys.msgDigest magic msg = .ok digest ∧
      Model.Keys.recoverCompact digest sig = .ok (some pk) ∧
      addrText = Model.Keys.p2pkhText cv pk := by
  cases hd : Model.Keys.msgDigest magic msg with
  | error e => rw [Model.Keys.verifyMessage, hd] at h; cases h
  | ok digest =>
    cases hr : Model.Keys.recoverCompact digest sig with
    | error e => rw [Model.Keys.verifyMessage, hd, Codec.ok_bind, hr] at h; cases h
    | ok o =>
      cases o with
      | none => rw [Model.Keys.verifyMessage, hd, Codec.ok_bind, hr] at h; cases h
      | some pk =>
        rw [verifyMessage_eq cv addrText magic msg sig digest pk hd hr] at h
        split at h
        · injection h with h
          exact ⟨digest, pk, rfl, hr, (of_decide_eq_true h).symm⟩
        · cases h

/-- … and conversely it answers true for that text whenever the recovered key is "fully valid" in the
    library's sense (no further condition) -/
theorem verify_true_if (cv : Nat) (magic msg sig digest pk : Bytes)
    (hd : Model.Keys.msgDigest magic msg = .ok digest)
    (hr : Model.Keys.recoverCompact digest sig = .ok (some pk)) (hdec : Model.Keys.isFullyValid pk = true) :
    Model.Keys.verifyMessage cv (Model.Keys.p2pkhText cv pk) magic msg sig = .ok true := by
  rw [verifyMessage_eq cv _ magic msg sig digest pk hd hr, if_pos hdec, decide_eq_true rfl]

/-- for ANY address whose text differs from the text of the recovered key's P2PKH
    address — another key's address, the P2SH or segwit address carrying the same hash160, an address
    of another chain, anything else with a `__str__` — the answer is false, not an exception -/
theorem verify_false_other (cv : Nat) (addrText : List Char) (magic msg sig digest pk : Bytes)
    (hd : Model.Keys.msgDigest magic msg = .ok digest)
    (hr : Model.Keys.recoverCompact digest sig = .ok (some pk)) (hdec : Model.Keys.isFullyValid pk = true)
    (hne : addrText ≠ Model.Keys.p2pkhText cv pk) :
    Model.Keys.verifyMessage cv addrText magic msg sig = .ok false := by
  rw [verifyMessage_eq cv _ magic msg sig digest pk hd hr, if_pos hdec, decide_eq_false (Ne.symm hne)]

/-- **Observation O15 (outside the property: not a signature produced by message signing).**  If
    recovery yields the point at infinity — serialised `00` — `VerifyMessage` does not fail: the library
    regards `00` as a fully valid key, so it answers TRUE for the P2PKH address of Hash160(`00`), for
    whatever message the digest came from.  (Bitcoin Core rejects an invalid recovered key.)  That such
    signatures exist for EVERY digest is `o15_recovery_gives_infinity` below. -/
theorem o15_verify_accepts_infinity_key (cv : Nat) (magic msg sig digest : Bytes)
    (hd : Model.Keys.msgDigest magic msg = .ok digest)
    (hr : Model.Keys.recoverCompact digest sig = .ok (some [0])) :
    Model.Keys.verifyMessage cv (Model.Keys.p2pkhText cv [0]) magic msg sig = .ok true :=
  verify_true_if cv magic msg sig digest [0] hd hr (by decide)

/-- Base58Check text (with the real checksum hash) determines version byte and payload -/
theorem base58_text_injective (v v' : UInt8) (p p' : Bytes)
    (h : Model.Base58.str hash256 ⟨v, p⟩ = Model.Base58.str hash256 ⟨v', p'⟩) : v = v' ∧ p = p' := by
  obtain ⟨d, _, rfl, h1⟩ := C10.check_roundtrip hash256 hash256_four_le v p
  obtain ⟨d', _, rfl, h2⟩ := C10.check_roundtrip hash256 hash256_four_le v' p'
  rw [h, h2] at h1
  injection h1 with h1
  injection h1 with hv hp
  exact ⟨hv.symm, hp.symm⟩

/-- for a Base58 address (P2PKH or P2SH of any chain) the decision is: same version byte as the selected
    chain's PUBKEY_ADDR and payload = Hash160 of the recovered key -/
theorem verify_base58_address (cv : Nat) (av : UInt8) (payload magic msg sig digest pk : Bytes)
    (hd : Model.Keys.msgDigest magic msg = .ok digest)
    (hr : Model.Keys.recoverCompact digest sig = .ok (some pk)) (hdec : Model.Keys.isFullyValid pk = true) :
    Model.Keys.verifyMessage cv (Model.Base58.str hash256 ⟨av, payload⟩) magic msg sig =
      .ok (decide (av = UInt8.ofNat cv ∧ payload = hash160 pk)) := by
  by_cases h : av = UInt8.ofNat cv ∧ payload = hash160 pk
  · obtain ⟨rfl, rfl⟩ := h
    rw [decide_eq_true ⟨rfl, rfl⟩]
    exact verify_true_if cv magic msg sig digest pk hd hr hdec
  · rw [decide_eq_false h]
    exact verify_false_other cv _ magic msg sig digest pk hd hr hdec
      fun he => h (base58_text_injective _ _ _ _ he)

-- UNPROVED (full statement): on the property's domain the python recovery code, read with the reference
-- curve in place of OpenSSL, is SEC 1 §4.1.6 (it fails exactly when the reference cannot lift
-- x = r + ⌊recid/2⌋·n, otherwise yields the same point; the reference additionally refuses infinity):
--
--   theorem recover_eq_reference (sigR sigS msg : Bytes) (recid : Nat)
--       (hr0 : 0 < beNat sigR) (hrn : beNat sigR < Secp256k1.n) (hs0 : 0 < beNat sigS)
--       (hsn : beNat sigS < Secp256k1.n) (hrec : recid < 4) :
--       Secp256k1.recover (beNat msg) (beNat sigR) (beNat sigS) recid =
--         (Model.Keys.recover sigR sigS msg recid false).2.bind (fun Q => if Q = .inf then none else some Q)
--
-- Both sides unfold to the same expression over `liftX` and `mulAdd2`; the proof is a case split that has
-- not been carried out.  The equality is exercised by the correspondence run instead
-- (`c14.msg` recomputes the key with `Secp256k1.recover`, `c14.recoverCompact` with `Model.Keys.recover`,
-- both compared with the library on the same signatures).  What is proved of `Model.Keys.recover` is its
-- use inside `signCompact_layout` above and the abstract algebra of the formula (`recover_correct`).

/-! ### public-key recovery, abstractly -/

section abstract
variable {q : ℕ} [Fact q.Prime] {E : Type} [AddCommGroup E] [Module (ZMod q) E]

/-- with the signer's nonce point `R = k·G` the formula `(−e/r)·G + (s/r)·R` that
    `CECKey.recover` evaluates returns the signer's public key `d·G` -/
theorem recover_correct (C : Ecdsa.Params q E) (d e k : ZMod q) (hk : k ≠ 0) (hr : Ecdsa.signR C k ≠ 0) :
    Ecdsa.recoverPoint C (k • C.g) e (Ecdsa.signR C k) (Ecdsa.signS C d e k) = d • C.g :=
  Ecdsa.recover_correct C d e k hk hr

/-- whatever candidate point `R` with `f R = r` is used, the signature verifies under the recovered
    key: a wrong recovery id yields another key, never an exception of the algebra -/
theorem verify_recovered (C : Ecdsa.Params q E) (R : E) (e r s : ZMod q) (hr : r ≠ 0) (hs : s ≠ 0)
    (hR : R ≠ 0) (hf : C.f R = r) : Ecdsa.Verify C (Ecdsa.recoverPoint C R e r s) e r s := by
  refine ⟨hr, hs, ?_, ?_⟩ <;> rw [Ecdsa.verifyPoint_recoverPoint C R e r s hr hs] <;> assumption

/-- for a fixed signature `(r, s)` and candidate point `R` (hence a fixed recovery id), recovery is
    injective in the digest: digests with different residues mod n recover different keys, given
    G ≠ ∞ and r ≠ 0.  This is the algebraic part of "`VerifyMessage` answers false for another
    message"; that the other key also has another address rests on the collision resistance of
    Hash160 and SHA-256d, which no theorem here states. -/
theorem verify_other_message (C : Ecdsa.Params q E) (R : E) (e e' r s : ZMod q) (hg : C.g ≠ 0) (hr : r ≠ 0)
    (hne : e ≠ e') : Ecdsa.recoverPoint C R e r s ≠ Ecdsa.recoverPoint C R e' r s :=
  fun h => hne (neg_inj.mp (mul_right_cancel₀ (inv_ne_zero hr)
    (Ecdsa.smul_left_cancel_of_ne_zero hg (add_right_cancel h))))

/-- O15, the algebra: with `R = G` (so r = f(G), the x-coordinate of the generator) and `s = e`, the
    recovery formula gives the neutral element for EVERY digest `e` — the forged compact signature
    `1b ‖ x(G) ‖ (e mod n)` needs no secret -/
theorem o15_recovery_gives_infinity (C : Ecdsa.Params q E) (e r : ZMod q) :
    Ecdsa.recoverPoint C C.g e r e = 0 := by
  rw [Ecdsa.recoverPoint, ← add_smul, neg_mul, neg_add_cancel, zero_smul]

end abstract

/-! ### non-vacuity -/

/-- a genuine signature: secret 1, digest 00…07, nonce 2 (reference signing equation, low S, recid 0) -/
def exR : Nat := 89565891926547004231252920425935692360644145829622209833684329913297188986597
def exS : Nat := 44782945963273502115626460212967846180322072914811104916842164956648594493302
def exDigest : Bytes := List.replicate 31 0 ++ [7]
def exSig : Bytes := 31 :: (Secp256k1.be32 exR ++ Secp256k1.be32 exS)

/-- hypotheses of `signCompact_layout` are met: the padding / recid search returns (r ‖ s, 0) -/
example : Model.Keys.signCompactFinish exDigest (Secp256k1.derEncode exR exS) (Secp256k1.pubkeyOf 1 true) =
    .ok (Secp256k1.be32 exR ++ Secp256k1.be32 exS, 0) := by decide +kernel

/-- hypotheses of `verify_true_if` / `verify_base58_address` are met: the model of `recover_compact`
    returns the signer's compressed key, which is fully valid -/
example : Model.Keys.recoverCompact exDigest exSig = .ok (some (Secp256k1.pubkeyOf 1 true)) ∧
    Model.Keys.isFullyValid (Secp256k1.pubkeyOf 1 true) = true := by decide +kernel

/-- O15, a concrete instance in the model: for the digest 00…07 the forged signature `1b ‖ x(G) ‖ 00…07`
    (no secret involved) makes `recover_compact` return the infinity key `00`, which
    `o15_verify_accepts_infinity_key` turns into a successful `VerifyMessage` -/
example : Model.Keys.recoverCompact exDigest (27 :: (Secp256k1.be32 Secp256k1.Gx ++ Secp256k1.be32 7)) =
    .ok (some [0]) := by decide +kernel

example : Model.Keys.headerDecode 31 = (0, true) := by decide
example : Model.Keys.headerDecode 30 = (3, false) := by decide
example : Spec.Keys.headerDecode 35 = none := by decide
/-- outside 27..34 `recover_compact` does not reject: it reduces the header mod 8 (Core rejects) -/
example : Model.Keys.headerDecode 35 = (0, false) ∧ Model.Keys.headerDecode 0 = (1, true) := by decide
example : Spec.Keys.messageMagic.length = 24 := by decide +kernel

end BtcVerif.C14

/-
  C01 — transaction / block wire format: exact bytes, lossless round trip, clean errors.

  `Model.Wire.*` mirrors bitcoin/core/serialize.py and the stream_(de)serialize methods;
  `Spec.Wire.*` is the wire format as plain concatenations.  `WFTx`/`WFHeader`/`WFBlock` are the
  property's "fields in their wire ranges" (int32 version, uint32 index/sequence/locktime/time/bits/
  nonce, int64 value, 32-byte hashes, ≥ 1 input, one witness stack per input or none, script and
  witness-item lengths ≤ MAX_SIZE, counts < 2^64).  All theorems are for every such value, of any size.
  Helper lemmas: Proofs/Codec.lean (codec library), Proofs/Wire.lean, Proofs/Ident.lean (the mutable class).
-/
import BtcVerif.Proofs.Ident

namespace BtcVerif.C01
open BtcVerif BtcVerif.Model.Wire BtcVerif.Spec.Wire BtcVerif.Codec

/-! ### serialisation produces exactly the prescribed bytes -/

/-- `CTransaction.serialize()` = the wire format's byte string (extended form iff `hasWitness`, by
    the definition of `Spec.Wire.txBytes`) -/
theorem ser_eq_spec (t : Tx) (wf : WFTx t) : serTx t = .ok (txBytes t) := serTx_ok (txRange_of_wf wf)

/-- `serialize(include_witness=False)` = the legacy byte string, whatever the witness -/
theorem ser_stripped_eq_spec (t : Tx) (wf : WFTx t) : serTx t false = .ok (txLegacy t) :=
  serTx_noWitness_ok (txRange_of_wf wf)

theorem serHeader_eq_spec (h : Header) (wf : WFHeader h) : serHeader h = .ok (header h) :=
  serHeader_ok wf

theorem serBlock_eq_spec (b : Block) (wf : WFBlock b) : serBlock b = .ok (block b) := serBlock_ok (blockRange_of_wf wf)

theorem header_length (h : Header) (wf : WFHeader h) : (header h).length = 80 := Codec.header_length wf

/-- bytes 4 and 5 of an encoding are the BIP144 marker and flag -/
def usesExtendedForm (bs : Bytes) : Bool := (bs.drop 4).take 2 == [0x00, 0x01]

/-- the Spec's condition ("some witness stack is non-empty", `Basic/Tx.lean`) is an existential over
    the stacks; it is defined independently of the model's `is_null` loop -/
theorem hasWitness_iff (t : Tx) : t.hasWitness = true ↔ ∃ s ∈ t.wit, s ≠ [] := Tx.hasWitness_iff t

/-- the model's mirror of `CTxWitness.is_null` (the test `stream_serialize` branches on) answers
    `True` exactly when no stack is non-empty — a theorem, not a shared definition -/
theorem isNull_mirror_iff (w : List WitStack) : witIsNull w = true ↔ ¬ ∃ s ∈ w, s ≠ [] := by
  rw [witIsNull_iff]
  exact ⟨fun h ⟨s, hs, hne⟩ => hne (h s hs), fun h s hs => Classical.byContradiction fun hne => h ⟨s, hs, hne⟩⟩

/-- the marker/flag form is produced (by the model, which branches on the `is_null` mirror) if and
    only if some witness stack is non-empty (the Spec's independent condition) -/
theorem marker_iff (t : Tx) (wf : WFTx t) (bs : Bytes) (h : serTx t = .ok bs) :
    usesExtendedForm bs = true ↔ t.hasWitness = true := by
  rw [ser_eq_spec t wf] at h
  injection h with h
  subst h
  unfold usesExtendedForm txBytes
  by_cases hw : t.hasWitness = true
  · simp only [hw, if_true, iff_true]
    rw [txExtended_eq, List.drop_left' (leBytesInt_length 4 _)]
    simp
  · have hw' : t.hasWitness = false := by simpa using hw
    simp only [hw', Bool.false_eq_true, if_false, iff_false]
    obtain ⟨b, c, E, hE, hb⟩ := legacyBody_shape t wf.2.2.1
    rw [txLegacy_eq, List.drop_left' (leBytesInt_length 4 _), hE]
    simp [hb]

/-! ### deserialisation inverts serialisation -/

/-- deserialising the encoding (followed by anything) returns the same field values — the only
    normalisation being that an all-empty witness becomes the witness with no entries, as the Python
    constructor path yields — consumes exactly the encoding, and the result re-serialises to the
    same bytes -/
theorem de_ser (t : Tx) (wf : WFTx t) (bs : Bytes) (h : serTx t = .ok bs) (rest : Bytes) :
    deTx (bs ++ rest) = .ok (normTx t, rest) ∧ serTx (normTx t) = .ok bs := by
  have hd := dec_deTx_ser wf h
  refine ⟨hd.1 rest, ?_⟩
  rw [ser_eq_spec _ (wf_normTx wf), txBytes_normTx, ← ser_eq_spec t wf, h]

/-- the normalisation of a round trip only drops empty witness stacks: every other field, and the witness
    items, are those of `t` -/
theorem normTx_fields (t : Tx) :
    (normTx t).nVersion = t.nVersion ∧ (normTx t).vin = t.vin ∧ (normTx t).vout = t.vout ∧
    (normTx t).nLockTime = t.nLockTime ∧ (normTx t).wit.flatten = t.wit.flatten := by
  unfold normTx
  split
  · simp
  · rename_i h
    refine ⟨rfl, rfl, rfl, rfl, ?_⟩
    have h' : witIsNull t.wit = true := by
      rw [Tx.hasWitness_eq_not_witIsNull] at h; simpa using h
    exact (List.flatten_eq_nil_iff.2 ((witIsNull_iff t.wit).mp h')).symm

theorem deHeader_ser (h : Header) (wf : WFHeader h) (bs : Bytes) (hs : serHeader h = .ok bs) (rest : Bytes) :
    deHeader (bs ++ rest) = .ok (h, rest) :=
  (dec_deHeader_ser wf hs).1 rest

theorem deBlock_ser (b : Block) (wf : WFBlock b) (bs : Bytes) (hs : serBlock b = .ok bs) (rest : Bytes) :
    deBlock (bs ++ rest) = .ok (normBlock b, rest) ∧ serBlock (normBlock b) = .ok bs := by
  refine ⟨(dec_deBlock_ser wf hs).1 rest, ?_⟩
  rw [serBlock_eq_spec _ (wf_normBlock wf), block_normBlock, ← serBlock_eq_spec b wf, hs]

/-! ### `deserialize`: exact input, strict prefixes, surplus bytes -/

theorem exact_ok (t : Tx) (wf : WFTx t) (bs : Bytes) (h : serTx t = .ok bs) (pad : Bool) :
    deserialize deTx bs pad = .ok (normTx t) :=
  (dec_deTx_ser wf h).deserialize_exact pad

/-- every strict prefix of a valid encoding raises the truncation error (never another outcome) -/
theorem prefix_trunc (t : Tx) (wf : WFTx t) (bs : Bytes) (h : serTx t = .ok bs) (p : Bytes)
    (hp : p <+: bs) (hne : p ≠ bs) (pad : Bool) : deserialize deTx p pad = .err .trunc :=
  (dec_deTx_ser wf h).deserialize_prefix hp hne pad

/-- a valid encoding followed by surplus bytes raises the extra-data error carrying the parsed
    object and exactly the surplus -/
theorem extra_data (t : Tx) (wf : WFTx t) (bs : Bytes) (h : serTx t = .ok bs) (e : Bytes) (he : e ≠ []) :
    deserialize deTx (bs ++ e) false = .extra (normTx t) e :=
  (dec_deTx_ser wf h).deserialize_extra he

/-- … unless padding was explicitly allowed -/
theorem padding_allowed (t : Tx) (wf : WFTx t) (bs : Bytes) (h : serTx t = .ok bs) (e : Bytes) :
    deserialize deTx (bs ++ e) true = .ok (normTx t) :=
  (dec_deTx_ser wf h).deserialize_padding

theorem header_exact_ok (h : Header) (wf : WFHeader h) (bs : Bytes) (hs : serHeader h = .ok bs) (pad : Bool) :
    deserialize deHeader bs pad = .ok h :=
  (dec_deHeader_ser wf hs).deserialize_exact pad

theorem header_prefix_trunc (h : Header) (wf : WFHeader h) (bs : Bytes) (hs : serHeader h = .ok bs)
    (p : Bytes) (hp : p <+: bs) (hne : p ≠ bs) (pad : Bool) : deserialize deHeader p pad = .err .trunc :=
  (dec_deHeader_ser wf hs).deserialize_prefix hp hne pad

theorem header_extra_data (h : Header) (wf : WFHeader h) (bs : Bytes) (hs : serHeader h = .ok bs)
    (e : Bytes) (he : e ≠ []) : deserialize deHeader (bs ++ e) false = .extra h e :=
  (dec_deHeader_ser wf hs).deserialize_extra he

theorem header_padding_allowed (h : Header) (wf : WFHeader h) (bs : Bytes) (hs : serHeader h = .ok bs)
    (e : Bytes) : deserialize deHeader (bs ++ e) true = .ok h :=
  (dec_deHeader_ser wf hs).deserialize_padding

theorem block_exact_ok (b : Block) (wf : WFBlock b) (bs : Bytes) (hs : serBlock b = .ok bs) (pad : Bool) :
    deserialize deBlock bs pad = .ok (normBlock b) :=
  (dec_deBlock_ser wf hs).deserialize_exact pad

theorem block_prefix_trunc (b : Block) (wf : WFBlock b) (bs : Bytes) (hs : serBlock b = .ok bs)
    (p : Bytes) (hp : p <+: bs) (hne : p ≠ bs) (pad : Bool) : deserialize deBlock p pad = .err .trunc :=
  (dec_deBlock_ser wf hs).deserialize_prefix hp hne pad

theorem block_extra_data (b : Block) (wf : WFBlock b) (bs : Bytes) (hs : serBlock b = .ok bs)
    (e : Bytes) (he : e ≠ []) : deserialize deBlock (bs ++ e) false = .extra (normBlock b) e :=
  (dec_deBlock_ser wf hs).deserialize_extra he

theorem block_padding_allowed (b : Block) (wf : WFBlock b) (bs : Bytes) (hs : serBlock b = .ok bs)
    (e : Bytes) : deserialize deBlock (bs ++ e) true = .ok (normBlock b) :=
  (dec_deBlock_ser wf hs).deserialize_padding

/-! ### the mutable class: `CMutableTransaction.deserialize` -/

open BtcVerif.Model.Ident in
/-- `CMutableTransaction.stream_deserialize` returns the same field values; on the legacy path the
    constructor default gives one empty stack per input (`mutableDefaultWit`), which serialises to
    the same bytes -/
theorem de_ser_mutable (t : Tx) (wf : WFTx t) (bs : Bytes) (h : serTx t = .ok bs) (rest : Bytes) :
    deTxMutable (bs ++ rest) = .ok (mutableDefaultWit (normTx t), rest) ∧
    serTx (mutableDefaultWit (normTx t)) = .ok bs := by
  refine ⟨(dec_deTxMutable_ser wf h).1 rest, ?_⟩
  rw [ser_eq_spec _ (wf_mutableDefaultWit (wf_normTx wf)), txBytes_mutableDefaultWit, txBytes_normTx,
    ← ser_eq_spec t wf, h]

open BtcVerif.Model.Ident in
/-- the default witness only adds empty stacks: every other field, and every witness item, is as in
    the immutable result -/
theorem mutableDefaultWit_fields (t : Tx) :
    (mutableDefaultWit t).nVersion = t.nVersion ∧ (mutableDefaultWit t).vin = t.vin ∧
    (mutableDefaultWit t).vout = t.vout ∧ (mutableDefaultWit t).nLockTime = t.nLockTime ∧
    (mutableDefaultWit t).wit.flatten = t.wit.flatten := by
  unfold mutableDefaultWit
  split
  · rename_i h
    refine ⟨rfl, rfl, rfl, rfl, ?_⟩
    rw [List.isEmpty_iff.1 h]
    simp
  · simp

open BtcVerif.Model.Ident in
theorem mutable_prefix_trunc (t : Tx) (wf : WFTx t) (bs : Bytes) (h : serTx t = .ok bs) (p : Bytes)
    (hp : p <+: bs) (hne : p ≠ bs) (pad : Bool) : deserialize deTxMutable p pad = .err .trunc :=
  (dec_deTxMutable_ser wf h).deserialize_prefix hp hne pad

open BtcVerif.Model.Ident in
theorem mutable_extra_data (t : Tx) (wf : WFTx t) (bs : Bytes) (h : serTx t = .ok bs) (e : Bytes) (he : e ≠ []) :
    deserialize deTxMutable (bs ++ e) false = .extra (mutableDefaultWit (normTx t)) e ∧
    deserialize deTxMutable (bs ++ e) true = .ok (mutableDefaultWit (normTx t)) ∧
    deserialize deTxMutable bs false = .ok (mutableDefaultWit (normTx t)) := by
  have hd := dec_deTxMutable_ser wf h
  exact ⟨hd.deserialize_extra he, hd.deserialize_padding, hd.deserialize_exact false⟩

/-! ### arbitrary byte strings: no other exception type, ever

    Beyond prefixes and extensions of valid encodings: for ANY input the parsers end in an object,
    `SerializationTruncationError` or `SerializationError` (MAX_SIZE) — the model's `py …` outcomes
    (struct.error, AssertionError, IndexError …) are unreachable from `deserialize`. -/

theorem deTx_total (bs : Bytes) :
    (∃ r, deTx bs = .ok r) ∨ deTx bs = .error .trunc ∨ deTx bs = .error .sererr :=
  (clean_deTx bs).cases

open BtcVerif.Model.Ident in
theorem deTxMutable_total (bs : Bytes) :
    (∃ r, deTxMutable bs = .ok r) ∨ deTxMutable bs = .error .trunc ∨ deTxMutable bs = .error .sererr :=
  (clean_deTxMutable bs).cases

theorem deHeader_total (bs : Bytes) :
    (∃ r, deHeader bs = .ok r) ∨ deHeader bs = .error .trunc ∨ deHeader bs = .error .sererr :=
  (clean_deHeader bs).cases

theorem deBlock_total (bs : Bytes) :
    (∃ r, deBlock bs = .ok r) ∨ deBlock bs = .error .trunc ∨ deBlock bs = .error .sererr :=
  (clean_deBlock bs).cases

/-- `deserialize(buf, allow_padding)` on any buffer: an object, the extra-data error (non-empty
    surplus), truncation or the size guard — for all four classes -/
theorem deserialize_total (buf : Bytes) (pad : Bool) :
    ((∃ a, deserialize deTx buf pad = .ok a) ∨ (∃ a x, x ≠ [] ∧ deserialize deTx buf pad = .extra a x) ∨
      deserialize deTx buf pad = .err .trunc ∨ deserialize deTx buf pad = .err .sererr) ∧
    ((∃ a, deserialize deHeader buf pad = .ok a) ∨ (∃ a x, x ≠ [] ∧ deserialize deHeader buf pad = .extra a x) ∨
      deserialize deHeader buf pad = .err .trunc ∨ deserialize deHeader buf pad = .err .sererr) ∧
    ((∃ a, deserialize deBlock buf pad = .ok a) ∨ (∃ a x, x ≠ [] ∧ deserialize deBlock buf pad = .extra a x) ∨
      deserialize deBlock buf pad = .err .trunc ∨ deserialize deBlock buf pad = .err .sererr) :=
  ⟨clean_deTx.deserialize buf pad, clean_deHeader.deserialize buf pad, clean_deBlock.deserialize buf pad⟩

/-! ### CompactSize on its own (`VarIntSerializer`), every Python int -/

/-- `VarIntSerializer.serialize(i)`: ValueError below zero, the CompactSize bytes on `[0, 2^64)`,
    `struct.error` from 2^64 on — no other outcome -/
theorem varint_ser (i : Int) :
    (i < 0 → serVarIntInt i = .error .valueerr) ∧
    (0 ≤ i → i < 2 ^ 64 → serVarIntInt i = .ok (compactSize i.toNat)) ∧
    ((2 : Int) ^ 64 ≤ i → serVarIntInt i = .error structError) := by
  refine ⟨fun h => by simp [serVarIntInt, h], fun h0 h1 => ?_, fun h => ?_⟩
  · have : ¬ i < 0 := by omega
    simp only [serVarIntInt, this, if_false]
    exact serVarInt_ok (by omega)
  · have h0 : ¬ i < 0 := by omega
    simp only [serVarIntInt, h0, if_false]
    exact serVarInt_too_long (by omega)

/-- write then read: the value comes back and the stream is left where the encoding ends -/
theorem varint_roundtrip (n : Nat) (h : n < 2 ^ 64) (rest : Bytes) :
    ∃ bs, serVarInt n = .ok bs ∧ bs = compactSize n ∧ deVarInt (bs ++ rest) = .ok (n, rest) :=
  ⟨compactSize n, serVarInt_ok h, rfl, (dec_deVarInt n h).1 rest⟩

/-- reading any byte string: a value, or truncation (the guard cannot fire: at most 8 bytes are asked) -/
theorem varint_de_total (bs : Bytes) :
    (∃ r, deVarInt bs = .ok r) ∨ deVarInt bs = .error .trunc ∨ deVarInt bs = .error .sererr :=
  (clean_deVarInt bs).cases

/-- non-canonical encodings are accepted on the read side, as in the code (Bitcoin Core rejects them) -/
example : deVarInt [0xfd, 0x00, 0x00, 0x07] = .ok (0, [0x07]) ∧ deVarInt [0xff, 1, 0, 0, 0, 0, 0, 0, 0] = .ok (1, []) ∧
    deVarInt [0xfe, 0xfc, 0, 0, 0] = .ok (0xfc, []) := by
  refine ⟨by rfl, by rfl, by rfl⟩

/-- the three codecs are sound in the sense of the codec library (DESIGN §5); for transactions the
    decoder returns the normal form, so the statement is for values in normal form -/
theorem tx_codec_sound : Sound txBytes deTx (fun t => WFTx t ∧ normTx t = t) :=
  sound_of_dec_norm dec_deTx

theorem header_codec_sound : Sound header deHeader WFHeader :=
  (sound_iff _ _ _).2 dec_deHeader

theorem block_codec_sound : Sound block deBlock (fun b => WFBlock b ∧ normBlock b = b) :=
  sound_of_dec_norm dec_deBlock

/-! ### non-vacuity: the hypotheses are met by concrete, non-trivial values -/

/-- a 2-input / 1-output witness transaction with a 0x10000-byte script -/
def exTx : Tx :=
  { nVersion := -2147483648
    vin := [ { prevout := { hash := List.replicate 32 0xab, n := 4294967295 },
               scriptSig := List.replicate 0x10000 0x51, nSequence := 4294967294 },
             { prevout := { hash := List.replicate 32 0x01, n := 0 }, scriptSig := [], nSequence := 0 } ]
    vout := [ { nValue := 9223372036854775807, scriptPubKey := List.replicate 0xfd 0x6a } ]
    wit := [ [], [ [], List.replicate 0x4c 0x30, [0x01] ] ]
    nLockTime := 2147483648 }

example : WFTx exTx := by
  refine ⟨by decide, by decide, by decide, by decide, by decide, ?_, ?_, Or.inr rfl, ?_, by decide⟩
  · intro i hi
    simp only [exTx, List.mem_cons, List.mem_nil_iff, or_false] at hi
    rcases hi with rfl | rfl <;>
      refine ⟨⟨?_, ?_⟩, ?_, ?_⟩ <;> simp only [List.length_replicate, List.length_nil, maxSize] <;> omega
  · intro o ho
    simp only [exTx, List.mem_cons, List.mem_nil_iff, or_false] at ho
    subst ho
    refine ⟨?_, ?_, ?_⟩ <;> simp only [List.length_replicate, maxSize] <;> omega
  · intro s hs
    simp only [exTx, List.mem_cons, List.mem_nil_iff, or_false] at hs
    rcases hs with rfl | rfl
    · exact ⟨by decide, by simp⟩
    · refine ⟨by decide, ?_⟩
      intro b hb
      simp only [List.mem_cons, List.mem_nil_iff, or_false] at hb
      rcases hb with rfl | rfl | rfl <;>
        simp only [List.length_replicate, List.length_nil, List.length_cons, maxSize] <;> omega

example : exTx.hasWitness = true := by decide

/-- a witness-free transaction with an all-empty witness: normalised by the round trip -/
def exTxNull : Tx := { exTx with wit := [[], []] }

example : exTxNull.hasWitness = false ∧ exTxNull.wit ≠ [] ∧ (normTx exTxNull).wit = [] := by
  refine ⟨by decide, by decide, ?_⟩
  rw [normTx_of_not_hasWitness (by decide)]

def exHeader : Header :=
  { nVersion := 536870912, hashPrevBlock := List.replicate 32 0x11, hashMerkleRoot := List.replicate 32 0x22,
    nTime := 4294967295, nBits := 0x1d00ffff, nNonce := 0 }

example : WFHeader exHeader := by
  refine ⟨by decide, by decide, by simp [exHeader], by simp [exHeader], by decide, by decide, by decide⟩

/-- blocks with zero transactions are in the domain -/
example : WFBlock { hdr := exHeader, vtx := [] } := by
  refine ⟨?_, by decide, by simp⟩
  refine ⟨by decide, by decide, by simp [exHeader], by simp [exHeader], by decide, by decide, by decide⟩

/-- the hypothesis `1 ≤ |vin|` cannot be dropped: a zero-input, one-output transaction serialises
    to bytes whose vin-count/vout-count pair `00 01` reads as marker and flag; the parser returns a
    different object (no outputs) and leaves seven bytes unread -/
example :
    let t : Tx := { nVersion := 1, vin := [], vout := [{ nValue := 0, scriptPubKey := [] }], wit := [], nLockTime := 0 }
    serTx t = .ok [1, 0, 0, 0, 0, 1, 0, 0, 0, 0, 0, 0, 0, 0, 0, 0, 0, 0, 0] ∧
    deTx [1, 0, 0, 0, 0, 1, 0, 0, 0, 0, 0, 0, 0, 0, 0, 0, 0, 0, 0] =
      .ok ({ nVersion := 1, vin := [], vout := [], wit := [], nLockTime := 0 }, [0, 0, 0, 0, 0, 0, 0]) := by
  constructor <;> rfl

/-- the MAX_SIZE bound on script lengths cannot be dropped from `prefix_trunc`: a stream that stops
    right after a length field of MAX_SIZE + 1 is answered with `sererr`, not truncation -/
example : deTx ([2, 0, 0, 0, 1] ++ List.replicate 36 0 ++ [0xfe, 0x01, 0x00, 0x00, 0x02]) = .error .sererr := by
  rfl

end BtcVerif.C01

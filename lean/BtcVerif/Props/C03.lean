/-
  C03 — legacy signature hash: property theorems.

  `Model.Sighash.*` mirrors `FindAndDelete`, `RawSignatureHash`, `SignatureHash` (SIGVERSION_BASE),
  `CScript.is_witness_scriptpubkey` and the scratch copy `CMutableTransaction.from_tx`;
  `Spec.Sighash.legacySighash` is Bitcoin Core's on-the-fly `CTransactionSignatureSerializer`
  formulation.  SHA-256d (`Crypto.hash256`) is an opaque symbol: no theorem unfolds it.
  Helper lemmas live in Proofs/Sighash.lean, Proofs/SighashScript.lean, Proofs/SighashLegacy.lean.

  Purity ("never changes the transaction it was given") holds for the model by construction (it is
  a function of values); the aliasing half is C09's heap model and is observed by the tie.
-/
import BtcVerif.Proofs.SighashLegacy

namespace BtcVerif.C03
open BtcVerif Spec.Sighash Model.Sighash SighashProofs

/-- A script is tokenised without error by the Python generator `raw_iter` exactly when every byte
    belongs to a complete operation in the sense of Core's `GetOp`. -/
theorem parses_iff (s : Bytes) : (Model.Script.rawIter s).2 = none ↔ parses s :=
  rawIter_ok_iff_parses s

/-- For scripts that parse, `FindAndDelete(script, CScript([OP_CODESEPARATOR]))` is Core's
    `SerializeScriptCode` body: the script with every OP_CODESEPARATOR *operation* removed … -/
theorem findAndDelete_codesep (s : Bytes) (h : parses s) :
    findAndDelete s [0xab] = .ok (scriptCodeNoSep s) :=
  findAndDelete_parses h

/-- … i.e. the concatenation, in order, of the operations that are not a bare OP_CODESEPARATOR;
    `l` are the byte strings of the operations (opcode, length field, payload), so 0xab bytes inside
    push payloads or length fields are untouched. -/
theorem findAndDelete_ops (s : Bytes) (l : List Bytes) (h : ops s = some l) :
    findAndDelete s [0xab] = .ok ((l.filter (· ≠ [0xab])).flatten) ∧ l.flatten = s := by
  have hp : parses s := by unfold parses; rw [h]; rfl
  obtain ⟨h1, h2⟩ := noSep_of_ops s l h
  exact ⟨by rw [findAndDelete_parses hp, h1]; rfl, h2⟩

/-- a script that does not parse makes FindAndDelete (hence RawSignatureHash) raise CScriptInvalidError -/
theorem findAndDelete_invalid (s sig : Bytes) (h : ¬ parses s) :
    findAndDelete s sig = .error .invalidscript :=
  findAndDelete_not_parses sig h

/-- **Model = Spec.**  For every subscript that parses, every transaction whose fields lie in their
    wire ranges (any number of inputs and outputs, with or without witness), every input index
    (including the non-existing ones: `i ≥ |vin|` is covered) and every hash-type byte, the modelled
    `RawSignatureHash` returns exactly the consensus digest and error indication. -/
theorem raw_eq_spec (sc : Bytes) (tx : Tx) (i ht : Nat) (hp : parses sc) (hsc : sc.length < 2 ^ 64)
    (hwf : FieldsWF tx) (hht : ht < 256) :
    rawSignatureHash sc tx i (ht : Int) = .ok (legacySighash sc tx i ht) :=
  raw_eq sc tx i ht hp hsc hwf (htRel_cast ht) (packI_ht (by omega))

/-- the same for every hash type in `[0, 2^31)` (the masks select the mode, all four bytes are hashed) -/
theorem raw_eq_spec_int32 (sc : Bytes) (tx : Tx) (i ht : Nat) (hp : parses sc) (hsc : sc.length < 2 ^ 64)
    (hwf : FieldsWF tx) (hht : ht < 2 ^ 31) :
    rawSignatureHash sc tx i (ht : Int) = .ok (legacySighash sc tx i ht) :=
  raw_eq sc tx i ht hp hsc hwf (htRel_cast ht) (packI_ht hht)

/-- the same under the wire-format well-formedness predicate of C01 (the bound on `i` is not used:
    indices beyond the inputs are covered) -/
theorem raw_eq_spec_wf (sc : Bytes) (tx : Tx) (i ht : Nat) (hp : parses sc)
    (hsc : sc.length ≤ Spec.Wire.maxSize) (hwf : Spec.Wire.WFTx tx) (_hi : i ≤ tx.vin.length) (hht : ht < 256) :
    rawSignatureHash sc tx i (ht : Int) = .ok (legacySighash sc tx i ht) :=
  raw_eq sc tx i ht hp (by unfold Spec.Wire.maxSize at hsc; omega) (fieldsWF_of_WFTx hwf) (htRel_cast ht)
    (packI_ht (by omega))

/-- Python ints as hash type, negative ones included: for every `h` in the int32 range the result is
    the consensus digest for the two's-complement reading `h mod 2^32` (what Core's `int nHashType`
    holds): the masks `h & 0x1f`, `h & 0x80` select the mode and all four bytes are hashed. -/
theorem raw_eq_spec_int (sc : Bytes) (tx : Tx) (i : Nat) (h : Int) (hp : parses sc) (hsc : sc.length < 2 ^ 64)
    (hwf : FieldsWF tx) (h1 : -(2 ^ 31 : Int) ≤ h) (h2 : h < 2 ^ 31) :
    rawSignatureHash sc tx i h = .ok (legacySighash sc tx i (h % 4294967296).toNat) :=
  raw_eq sc tx i _ hp hsc hwf (htRel_int32 h) (packI_int32 h1 h2)

/-- Outside the int32 range the two "constant one" cases are still answered (they return before the
    hash type is packed); every other call raises struct.error from `struct.pack('<i', hashtype)`. -/
theorem raw_hashtype_range (sc : Bytes) (tx : Tx) (i : Nat) (h : Int) (hp : parses sc) (hsc : sc.length < 2 ^ 64)
    (hwf : FieldsWF tx) (hh : h < -(2 ^ 31 : Int) ∨ (2 ^ 31 : Int) ≤ h) :
    rawSignatureHash sc tx i h =
      if i ≥ tx.vin.length ∨ (h % 32 = 3 ∧ i ≥ tx.vout.length) then .ok (1 :: List.replicate 31 0, true)
      else .error structError := by
  rw [raw_eq_anyInt sc tx i _ hp hsc hwf (htRel_int32 h), packI_out_of_range hh]
  have hs : isSingle (h % 4294967296).toNat = true ↔ h % 32 = 3 := (ht_single_iff (htRel_int32 h)).symm
  by_cases hi : i ≥ tx.vin.length
  · rw [if_pos hi, if_pos (Or.inl hi)]; rfl
  · rw [if_neg hi]
    by_cases h3 : h % 32 = 3 ∧ i ≥ tx.vout.length
    · rw [if_pos ⟨hs.mpr h3.1, h3.2⟩, if_pos (Or.inr h3)]; rfl
    · rw [if_neg (fun hc => h3 ⟨hs.mp hc.1, hc.2⟩), if_neg (fun hc => hc.elim hi h3)]; rfl

/-- The error indication is raised exactly when the input index does not exist or SIGHASH_SINGLE
    has no matching output, and then the digest is the historical constant 1. -/
theorem err_iff (sc : Bytes) (tx : Tx) (i ht : Nat) (hp : parses sc) (hsc : sc.length < 2 ^ 64)
    (hwf : FieldsWF tx) (hht : ht < 256) :
    ∃ d e, rawSignatureHash sc tx i (ht : Int) = .ok (d, e) ∧
      (e = true ↔ (i ≥ tx.vin.length ∨ (ht % 32 = 3 ∧ i ≥ tx.vout.length))) ∧
      (e = true → d = 1 :: List.replicate 31 0) :=
  ⟨_, _, raw_eq_spec sc tx i ht hp hsc hwf hht, legacySighash_err sc tx i ht⟩

/-- No stray Python exception (IndexError, struct.error, AssertionError, ValueError of the scratch
    copy) can escape `RawSignatureHash` on the property's domain. -/
theorem raw_no_pyexc (sc : Bytes) (tx : Tx) (i ht : Nat) (hp : parses sc) (hsc : sc.length < 2 ^ 64)
    (hwf : FieldsWF tx) (hht : ht < 256) (e : Exc) :
    rawSignatureHash sc tx i (ht : Int) ≠ .error e := by
  rw [raw_eq_spec sc tx i ht hp hsc hwf hht]; intro h; cases h

/-- `is_witness_scriptpubkey` — with its signed `'<bb'` unpack and `CScriptOp(head[0])` on a possibly
    negative value — never raises and decides exactly BIP141's witness-program shape. -/
theorem isWitnessScriptPubKey_spec (s : Bytes) : isWitnessScriptPubKey s = .ok (isWitnessProgram s) :=
  isWitnessScriptPubKey_eq s

/-- The convenience form (property-conforming model, see D17 below): the consensus digest when there
    is no error indication and ValueError when there is one — for EVERY subscript that parses. -/
theorem wrapper_eq_spec (sc : Bytes) (tx : Tx) (i ht : Nat) (hp : parses sc) (hsc : sc.length < 2 ^ 64)
    (hwf : FieldsWF tx) (hht : ht < 256) :
    signatureHashBase sc tx i (ht : Int) =
      if (legacySighash sc tx i ht).2 then .error .valueerr
      else .ok (legacySighash sc tx i ht).1 := by
  unfold signatureHashBase
  rw [raw_eq_spec sc tx i ht hp hsc hwf hht]
  cases h : (legacySighash sc tx i ht).2 <;> simp [bind_ok, h] <;> rfl

/-- The convenience form raises ValueError exactly when the raw form reports an error (index does
    not exist / SINGLE without matching output). -/
theorem wrapper_raises_iff (sc : Bytes) (tx : Tx) (i ht : Nat) (hp : parses sc) (hsc : sc.length < 2 ^ 64)
    (hwf : FieldsWF tx) (hht : ht < 256) :
    signatureHashBase sc tx i (ht : Int) = .error .valueerr ↔
      (i ≥ tx.vin.length ∨ (ht % 32 = 3 ∧ i ≥ tx.vout.length)) := by
  rw [wrapper_eq_spec sc tx i ht hp hsc hwf hht, ← (legacySighash_err sc tx i ht).1]
  cases (legacySighash sc tx i ht).2 <;> simp

/-- **Known finding D17** — what the shipped wrapper does instead: `assert not
    script.is_witness_scriptpubkey()` comes first, so for every subscript that has the shape of a
    witness program (all of which parse, hence lie inside the property's quantifier) the call raises
    AssertionError whatever the transaction, index and hash type — neither the digest nor ValueError. -/
theorem wrapper_witness_program_asserts (sc : Bytes) (tx : Tx) (i : Nat) (h : Int)
    (hw : isWitnessProgram sc = true) :
    signatureHashBaseAsCoded sc tx i h = .error assertionError := by
  unfold signatureHashBaseAsCoded
  rw [isWitnessScriptPubKey_eq, hw]; rfl

/-- on every other subscript the shipped wrapper is the property-conforming one -/
theorem wrapper_as_coded_eq (sc : Bytes) (tx : Tx) (i : Nat) (h : Int) (hw : isWitnessProgram sc = false) :
    signatureHashBaseAsCoded sc tx i h = signatureHashBase sc tx i h := by
  unfold signatureHashBaseAsCoded
  rw [isWitnessScriptPubKey_eq, hw]; rfl

/-- a witness program always parses (a version opcode and one complete direct push) -/
theorem witness_program_parses (sc : Bytes) (hw : isWitnessProgram sc = true) : parses sc := by
  unfold isWitnessProgram at hw
  rcases sc with _ | ⟨v, _ | ⟨l, rest⟩⟩
  · simp at hw
  · simp at hw
  · simp only [List.length_cons, decide_eq_true_eq] at hw
    obtain ⟨hv, h4, h42, hl⟩ := hw
    -- the version opcode is one byte (OP_0 is the empty direct push), then one direct push to the end
    have hv1 : getOp (v :: l :: rest) = some (v, 1) := by
      rcases hv with hz | hbig
      · rw [getOp_direct (by omega) (by omega), hz]
      · exact getOp_nonpush _ (by omega)
    have hpush : getOp (l :: rest) = some (l, (l :: rest).length) := by
      rw [getOp_direct (by omega) (by omega), List.length_cons]; congr 2; omega
    unfold parses
    rw [ops_eq, hv1]
    simp only [List.drop_succ_cons, List.drop_zero]
    rw [ops_eq, hpush]
    simp only [List.drop_length, List.take_length]
    rw [ops_eq]
    simp [getOp_nil]

/-! ### non-vacuity -/

/-- `OP_CODESEPARATOR PUSH1(ab) OP_CODESEPARATOR PUSHDATA1(ab ab) OP_CHECKSIG OP_CODESEPARATOR` parses;
    the three separator operations go, the 0xab payload bytes stay -/
def exScript : Bytes := [0xab, 0x01, 0xab, 0xab, 0x4c, 0x02, 0xab, 0xab, 0xac, 0xab]

example : ops exScript = some [[0xab], [0x01, 0xab], [0xab], [0x4c, 0x02, 0xab, 0xab], [0xac], [0xab]] := by
  simp [exScript, ops_eq, getOp, leNat]
example : parses exScript := by
  unfold parses; simp [exScript, ops_eq, getOp, leNat]
example : scriptCodeNoSep exScript = [0x01, 0xab, 0x4c, 0x02, 0xab, 0xab, 0xac] := by
  simp [exScript, scriptCodeNoSep_eq, getOp, leNat, OP_CODESEPARATOR]
/-- a truncated push does not parse -/
example : ¬ parses [0xab, 0x02, 0x01] := by
  unfold parses; simp [ops_eq, getOp, leNat]

/-- a 3-input / 1-output transaction in range: index 1 under SIGHASH_SINGLE has no matching output -/
def exTx : Tx :=
  { nVersion := -1
    vin := [ { prevout := { hash := List.replicate 32 0x11, n := 0 }, scriptSig := [0x51], nSequence := 0 },
             { prevout := { hash := List.replicate 32 0x22, n := 1 }, scriptSig := [], nSequence := 0xffffffff },
             { prevout := { hash := List.replicate 32 0x33, n := 0xffffffff }, scriptSig := [], nSequence := 2 ^ 31 } ]
    vout := [ { nValue := 0, scriptPubKey := [0xab] } ]
    wit := [[], [[0x01]], []]
    nLockTime := 0xffffffff }

example : FieldsWF exTx := by
  refine ⟨by decide, by decide, by decide, by decide, ?_, ?_, by decide⟩
  · intro i hi
    simp only [exTx, List.mem_cons, List.not_mem_nil, or_false] at hi
    rcases hi with rfl | rfl | rfl <;> refine ⟨⟨by decide, by decide⟩, by decide⟩
  · intro o ho
    simp only [exTx, List.mem_cons, List.not_mem_nil, or_false] at ho
    subst ho
    refine ⟨by decide, by decide, by decide⟩

example : isWitnessProgram ([0x00, 0x14] ++ List.replicate 20 0x77) = true := by decide
example : isWitnessProgram exScript = false := by decide

end BtcVerif.C03

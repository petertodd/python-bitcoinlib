/-
  C12 — addresses map one-to-one to standard scripts, on the selected chain only.

  Statements use `Model.Addr.*` (mirror of bitcoin/__init__.py SelectParams and bitcoin/wallet.py) and
  `Spec.Addr.*` / `Spec.chainTable` (what the chain table prescribes; `ValidFor` = C10's check rule
  with the chain's version byte, or C11's BIP173 predicate with the chain's prefix).  `H` is
  bitcoin.core.Hash, `H160` is Hash160 — opaque; `hH` says the hash has at least four bytes.
  Helper lemmas live in Proofs/Addr{,Std,Text}.lean.
-/
import BtcVerif.Proofs.AddrText
import BtcVerif.Proofs.CryptoLen

namespace BtcVerif.C12
open BtcVerif BtcVerif.Spec BtcVerif.AddrProofs
open BtcVerif.Spec.Addr (AddrClass Addr ValidFor selected stdScript prescribedAddr prescribedVer prescribedText)
open BtcVerif.Model.Addr

/-! ### chain selection -/

/-- one `SelectParams(name)`: a chain name makes both globals ONE object holding that chain's
    parameters; any other name raises ValueError and leaves both unchanged -/
theorem select_step (st : ChainState) (name : String) :
    selectParams st name = match chainByName? name with
                           | some q => (⟨q, .full q⟩, none)
                           | none => (st, some .valueerr) := selectParams_eq st name

/-- after every history of `SelectParams` calls (valid and unknown names, any length) starting from
    the state `import bitcoin` leaves:
    * `bitcoin.params` — the only global wallet.py / bech32.py read — is the parameter record of the
      last chain named (mainnet if none was), and the core fields of `bitcoin.core.coreparams` are
      that chain's;
    * from the first successful call on, `bitcoin.core.coreparams` is the same object as
      `bitcoin.params`;
    * before it, `bitcoin.core.coreparams` is the core-only `CoreMainParams()` (no prefixes, no HRP,
      no magic). -/
theorem select_inv (history : List String) :
    (runHistory history).params = selected history ∧
    (runHistory history).coreparams.fields = Spec.Addr.coreFields (selected history) ∧
    ((∃ n ∈ history, (chainByName? n).isSome) →
        (runHistory history).coreparams = .full (selected history)) ∧
    ((∀ n ∈ history, chainByName? n = none) →
        (runHistory history).coreparams = .coreOnly (Spec.Addr.coreFields mainnet)) := by
  have h := foldl_select_from initState history
  have hsel : selFrom mainnet history = selected history := rfl
  unfold runHistory
  rw [h]
  by_cases hnil : history.filterMap chainByName? = []
  · have hall : ∀ n ∈ history, chainByName? n = none := List.filterMap_eq_nil_iff.1 hnil
    have hs : selected history = mainnet := by unfold selected; rw [hnil]; rfl
    rw [if_pos hnil, hs]
    refine ⟨rfl, rfl, ?_, fun _ => rfl⟩
    rintro ⟨n, hn, hsome⟩
    rw [hall n hn] at hsome; cases hsome
  · rw [if_neg hnil]
    refine ⟨hsel, by rw [← hsel]; rfl, fun _ => by rw [← hsel]; rfl, ?_⟩
    intro hall
    exfalso; apply hnil
    rw [List.filterMap_eq_nil_iff]
    exact hall

/-- the selected parameters are always one of the four rows of the chain table -/
theorem selected_mem (history : List String) : selected history ∈ chainTable := by
  unfold selected
  cases h : (history.filterMap chainByName?).getLast? with
  | none => simp [chainTable]
  | some q =>
    have hm := List.mem_of_getLast? h
    obtain ⟨n, _, hn⟩ := List.mem_filterMap.1 hm
    exact chainByName_mem hn

/-! ### round trip of the four templates under the four chains -/

/-- for every chain of the table, every template and every payload of the template's length:
    script → address gives the class / version byte (witness version) / payload the table prescribes;
    its text is the prescribed text (Base58Check under the chain's version byte, BIP173 under the
    chain's prefix); text → address gives the same address; address → script gives the script back -/
theorem roundtrip (H H160 : Bytes → Bytes) (hH : ∀ x, 4 ≤ (H x).length) (chain : ChainParams)
    (hc : chain ∈ chainTable) (t : AddrClass) (payload : Bytes) (hlen : payload.length = t.payloadLen) :
    fromScript H160 chain (stdScript t payload) = .ok (prescribedAddr chain t payload) ∧
    ∃ text, toText H chain (prescribedAddr chain t payload) = .ok text ∧
      prescribedText H chain t payload = some text ∧
      parse H chain text = .ok (prescribedAddr chain t payload) ∧
      toScript chain (prescribedAddr chain t payload) = .ok (stdScript t payload) := by
  obtain ⟨hpk, hsc, hne⟩ := chain_versions chain hc
  have hpk256 : chain.pubkeyAddr < 256 := by omega
  have hsc256 : chain.scriptAddr < 256 := by omega
  have hts := toScript_std chain t payload hlen
  cases t with
  | p2wpkh =>
    refine ⟨fromScript_p2wpkh H160 chain payload hlen, ?_⟩
    obtain ⟨text, h1, h2, h3⟩ := segwit_text_roundtrip H chain hc .p2wpkh (Or.inl rfl) payload hlen
    exact ⟨text, h1, h2, h3, hts⟩
  | p2wsh =>
    refine ⟨fromScript_p2wsh H160 chain payload hlen, ?_⟩
    obtain ⟨text, h1, h2, h3⟩ := segwit_text_roundtrip H chain hc .p2wsh (Or.inr rfl) payload hlen
    exact ⟨text, h1, h2, h3, hts⟩
  | p2pkh =>
    refine ⟨fromScript_p2pkh H160 chain payload hlen hpk256 hne, ?_⟩
    obtain ⟨hv, hvn⟩ := tableVersion_cases chain hc .p2pkh (Or.inl rfl)
    simp only [prescribedVer] at hv hvn
    refine ⟨Base58.checkEnc H (UInt8.ofNat chain.pubkeyAddr) payload, ?_, rfl, ?_, hts⟩
    · simp [toText, prescribedAddr, prescribedVer, hpk256, str_eq_checkEnc]
    · rw [parse_checkEnc H hH chain hc _ payload hlen hv]
      simp only [classify, hvn, hne, if_false, if_true, prescribedAddr, prescribedVer]
  | p2sh =>
    refine ⟨fromScript_p2sh H160 chain payload hlen hsc256, ?_⟩
    obtain ⟨hv, hvn⟩ := tableVersion_cases chain hc .p2sh (Or.inr rfl)
    simp only [prescribedVer] at hv hvn
    refine ⟨Base58.checkEnc H (UInt8.ofNat chain.scriptAddr) payload, ?_, rfl, ?_, hts⟩
    · simp [toText, prescribedAddr, prescribedVer, hsc256, str_eq_checkEnc]
    · rw [parse_checkEnc H hH chain hc _ payload hlen hv]
      simp only [classify, hvn, if_true, prescribedAddr, prescribedVer]

/-- the same after any sequence of chain selections: the conversions use the parameters of the last
    chain selected -/
theorem roundtrip_after_history (H H160 : Bytes → Bytes) (hH : ∀ x, 4 ≤ (H x).length)
    (history : List String) (t : AddrClass) (payload : Bytes) (hlen : payload.length = t.payloadLen) :
    let chain := (runHistory history).params
    chain = selected history ∧
    fromScript H160 chain (stdScript t payload) = .ok (prescribedAddr chain t payload) ∧
    ∃ text, toText H chain (prescribedAddr chain t payload) = .ok text ∧
      prescribedText H chain t payload = some text ∧
      parse H chain text = .ok (prescribedAddr chain t payload) ∧
      toScript chain (prescribedAddr chain t payload) = .ok (stdScript t payload) := by
  have hs := (select_inv history).1
  refine ⟨hs, ?_⟩
  have hc : (runHistory history).params ∈ chainTable := by rw [hs]; exact selected_mem history
  exact roundtrip H H160 hH _ hc t payload hlen

/-! ### variants accepted by the P2PKH converter -/

/-- non-canonical pushes: any script whose canonical re-encoding (`CScript(tuple(script))`) is the
    standard P2PKH script of `payload` is read by the P2PKH converter as the prescribed P2PKH address -/
theorem noncanonical_p2pkh (H160 : Bytes → Bytes) (chain : ChainParams) (hc : chain ∈ chainTable)
    (spk payload : Bytes) (hlen : payload.length = 20) (bare : Bool)
    (hcanon : canonicalize spk = .ok (stdScript .p2pkh payload)) :
    p2pkhFromScript H160 chain spk true bare = .ok (prescribedAddr chain .p2pkh payload) := by
  obtain ⟨hpk, _, hne⟩ := chain_versions chain hc
  exact p2pkhFromScript_of_canon H160 chain spk payload hlen (by omega) hne bare hcanon

/-- bare-pubkey scripts `<pubkey> CHECKSIG` with a 33- or 65-byte key (any bytes): the P2PKH converter
    gives the P2PKH address of the hash160 of the WHOLE pushed key under the chain's version byte.
    (D18: the shipped code hashes only 64 of the 65 bytes of an uncompressed key — pinned by
    test_wallet.py, known finding; the model states the property-conforming behaviour.) -/
theorem bare_pubkey (H160 : Bytes → Bytes) (chain : ChainParams) (hc : chain ∈ chainTable)
    (pubkey : Bytes) (hl : pubkey.length = 33 ∨ pubkey.length = 65) :
    p2pkhFromScript H160 chain (Spec.Addr.barePubkeyScript pubkey) true true =
      .ok (Spec.Addr.barePubkeyAddr H160 chain pubkey) := by
  obtain ⟨hpk, _, hne⟩ := chain_versions chain hc
  exact p2pkhFromScript_barePubkey H160 chain pubkey hl (by omega) hne

/-- the same through the public dispatcher `CBitcoinAddress.from_scriptPubKey` -/
theorem bare_pubkey_dispatch (H160 : Bytes → Bytes) (chain : ChainParams) (hc : chain ∈ chainTable)
    (pubkey : Bytes) (hl : pubkey.length = 33 ∨ pubkey.length = 65) :
    fromScript H160 chain (Spec.Addr.barePubkeyScript pubkey) =
      .ok (Spec.Addr.barePubkeyAddr H160 chain pubkey) := by
  obtain ⟨hpk, _, hne⟩ := chain_versions chain hc
  exact fromScript_barePubkey H160 chain pubkey hl (by omega) hne

/-- with `accept_bare_checksig=False` a bare-pubkey script is refused with the address error -/
theorem bare_pubkey_flag_off (H160 : Bytes → Bytes) (chain : ChainParams) (pubkey : Bytes)
    (hl : pubkey.length = 33 ∨ pubkey.length = 65) :
    p2pkhFromScript H160 chain (Spec.Addr.barePubkeyScript pubkey) true false = .error .addrerr :=
  p2pkhFromScript_barePubkey_off H160 chain pubkey hl

/-! ### refusal -/

/-- `CBitcoinAddress(s)` on an arbitrary string under an arbitrary chain record: either an address
    that `s` validly denotes for that chain, or CBitcoinAddressError — no other outcome (no
    AssertionError, IndexError, ValueError, Bech32Error or Base58Error escapes) -/
theorem refuse_total (H : Bytes → Bytes) (chain : ChainParams) (s : List Char) :
    (∃ a, parse H chain s = .ok a ∧ ValidFor H chain a s) ∨ parse H chain s = .error .addrerr := by
  unfold parse
  rcases bech32New_cases chain s with ⟨a, ha, _, hv⟩ | ⟨h, _⟩ | ⟨h, _⟩
  · left; exact ⟨a, by rw [ha], hv H⟩
  · rw [h]
    rcases base58New_cases H chain s with ⟨a, ha, _, hv⟩ | h' | h' | h'
    · left; exact ⟨a, by rw [ha], hv⟩
    · right; rw [h']
    · right; rw [h']
    · right; rw [h']
  · right; rw [h]

/-- a valid segwit address of the chain with a witness version other than 0 is refused with the
    address error (D9: the shipped code fails an `assert` here) -/
theorem unsupported_witver_refused (H : Bytes → Bytes) (chain : ChainParams) (s : List Char) (v : Nat)
    (p : List Nat) (hd : Bech32.Decodes chain.bech32Hrp.toList s v p) (hv : v ≠ 0) :
    parse H chain s = .error .addrerr := by
  have := (BtcVerif.Bech32.decodeR_iff _ _ _ _).2 hd
  simp [parse, bech32New, this, bech32FromBytes, hv]

/-- base58: the address text of chain `A` (P2PKH or P2SH, 20-byte payload) is refused under any chain
    `B` neither of whose version bytes is `A`'s — unconditionally -/
theorem cross_chain_refused_base58 (H : Bytes → Bytes) (hH : ∀ x, 4 ≤ (H x).length) (A B : ChainParams)
    (hA : A ∈ chainTable) (hB : B ∈ chainTable) (t : AddrClass) (ht : t = .p2pkh ∨ t = .p2sh)
    (payload : Bytes) (hlen : payload.length = 20)
    (hdiff : prescribedVer A t ≠ B.pubkeyAddr ∧ prescribedVer A t ≠ B.scriptAddr) :
    ∃ text, prescribedText H A t payload = some text ∧ parse H B text = .error .addrerr := by
  obtain ⟨hv, hvn⟩ := tableVersion_cases A hA t ht
  refine ⟨Base58.checkEnc H (UInt8.ofNat (prescribedVer A t)) payload, ?_, ?_⟩
  · rcases ht with rfl | rfl <;> rfl
  · rw [parse_checkEnc H hH B hB _ payload hlen hv]
    simp only [classify, hvn, hdiff.1, hdiff.2, if_false]

/-- bech32: a valid segwit address of chain `A` is refused by the bech32 reader of a chain `B` with a
    different prefix; the base58 re-reading refuses it as well unless the text happens to be a valid
    Base58Check string (32-bit checksum) — explicit hypothesis `hnc` -/
theorem cross_chain_refused_bech32 (H : Bytes → Bytes) (A B : ChainParams) (hA : A ∈ chainTable)
    (hB : B ∈ chainTable) (hne : A.bech32Hrp ≠ B.bech32Hrp) (s : List Char) (v : Nat) (p : List Nat)
    (hd : Bech32.Decodes A.bech32Hrp.toList s v p)
    (hnc : ¬ ∃ v' p' k, Base58.dec s = some k ∧ Base58.CheckRule H v' p' k) :
    bech32New B s = .error .bech32err ∧ parse H B s = .error .addrerr := by
  have hb := bech32New_other_chain A B hne s v p hd
  refine ⟨hb, ?_⟩
  unfold parse
  rw [hb]
  rcases base58New_cases H B s with ⟨a, _, hcls, hv⟩ | h' | h' | h'
  · exfalso
    rcases hcls with h | h <;> simp only [ValidFor, h] at hv <;>
      exact hnc ⟨_, _, hv.2.2⟩
  · rw [h']
  · rw [h']
  · rw [h']

/-- the hypothesis `hnc` of `cross_chain_refused_bech32` holds whenever the text has a character
    outside the base58 alphabet (`0`, `l`, … — most segwit addresses have one) -/
theorem hnc_of_nonbase58_char (H : Bytes → Bytes) (s : List Char)
    (hch : ∃ c ∈ s, c ∉ Spec.Base58.alphabetChars) :
    ¬ ∃ v' p' k, Base58.dec s = some k ∧ Base58.CheckRule H v' p' k := by
  rintro ⟨_, _, k, hd, _⟩
  have herr := (C10.decode_invalid_char s).2 hch
  rw [C10.decode_eq_spec, hd] at herr
  cases herr

/-- hence: a valid segwit address of chain `A` that contains such a character is refused under every
    chain `B` with a different prefix — unconditionally -/
theorem cross_chain_refused_bech32_of_char (H : Bytes → Bytes) (A B : ChainParams) (hA : A ∈ chainTable)
    (hB : B ∈ chainTable) (hne : A.bech32Hrp ≠ B.bech32Hrp) (s : List Char) (v : Nat) (p : List Nat)
    (hd : Bech32.Decodes A.bech32Hrp.toList s v p) (hch : ∃ c ∈ s, c ∉ Spec.Base58.alphabetChars) :
    parse H B s = .error .addrerr :=
  (cross_chain_refused_bech32 H A B hA hB hne s v p hd (hnc_of_nonbase58_char H s hch)).2

/-! ### the same for the real hash (SHA-256d, `Crypto.hash256_length`) -/

theorem hash256_ge4 (x : Bytes) : 4 ≤ (Crypto.hash256 x).length := Crypto.hash256_four_le x

/-- `roundtrip_after_history` with `H` = SHA-256d: no hypothesis on the hash is left -/
theorem roundtrip_sha256d (H160 : Bytes → Bytes) (history : List String) (t : AddrClass) (payload : Bytes)
    (hlen : payload.length = t.payloadLen) :
    let chain := (runHistory history).params
    chain = selected history ∧
    fromScript H160 chain (stdScript t payload) = .ok (prescribedAddr chain t payload) ∧
    ∃ text, toText Crypto.hash256 chain (prescribedAddr chain t payload) = .ok text ∧
      prescribedText Crypto.hash256 chain t payload = some text ∧
      parse Crypto.hash256 chain text = .ok (prescribedAddr chain t payload) ∧
      toScript chain (prescribedAddr chain t payload) = .ok (stdScript t payload) :=
  roundtrip_after_history Crypto.hash256 H160 hash256_ge4 history t payload hlen

/-- `cross_chain_refused_base58` with `H` = SHA-256d -/
theorem cross_chain_refused_base58_sha256d (A B : ChainParams) (hA : A ∈ chainTable) (hB : B ∈ chainTable)
    (t : AddrClass) (ht : t = .p2pkh ∨ t = .p2sh) (payload : Bytes) (hlen : payload.length = 20)
    (hdiff : prescribedVer A t ≠ B.pubkeyAddr ∧ prescribedVer A t ≠ B.scriptAddr) :
    ∃ text, prescribedText Crypto.hash256 A t payload = some text ∧
      parse Crypto.hash256 B text = .error .addrerr :=
  cross_chain_refused_base58 Crypto.hash256 hash256_ge4 A B hA hB t ht payload hlen hdiff

/-! ### non-vacuity -/

-- the table has the four chains and their prefixes differ as the cross-chain theorems need
example : mainnet ∈ chainTable ∧ regtest ∈ chainTable ∧ mainnet.bech32Hrp ≠ regtest.bech32Hrp := by decide
example : prescribedVer mainnet .p2pkh ≠ testnet.pubkeyAddr ∧ prescribedVer mainnet .p2pkh ≠ testnet.scriptAddr := by
  decide
-- a history with unknown names
example : selected ["testnet", "foo", "regtest", "bar"] = regtest := by decide
example : (List.replicate 20 (0xab : UInt8)).length = AddrClass.p2pkh.payloadLen := by decide
-- the fresh-import state: params is mainnet, coreparams the core-only object
example : runHistory [] = ⟨mainnet, .coreOnly (Spec.Addr.coreFields mainnet)⟩ := rfl
example : (runHistory ["foo", "signet"]).coreparams = .full signet := by decide
example : (List.replicate 65 (4 : UInt8)).length = 33 ∨ (List.replicate 65 (4 : UInt8)).length = 65 := by decide
-- the character hypothesis of `cross_chain_refused_bech32_of_char`: BIP173's first vector contains '0'
example : ∃ c ∈ "bc1qw508d6qejxtdg4y5r3zarvary0c5xw7kv8f3t4".toList, c ∉ Spec.Base58.alphabetChars :=
  ⟨'0', by decide, by decide⟩
-- `hH` is satisfiable
example : ∀ x : Bytes, 4 ≤ ((fun _ => [1, 2, 3, 4]) x : Bytes).length := by intro _; simp

end BtcVerif.C12

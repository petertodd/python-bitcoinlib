/-
  C13 — keys, WIF, ECDSA: property theorems.

  The elliptic-curve arithmetic of python-bitcoinlib runs inside OpenSSL; what the library itself
  computes is the glue modelled in Model/Keys.lean.  The theorems below are about that glue
  (`Model.Keys.*`) against the reference definitions (`Spec.Keys.*`, `Crypto.Secp256k1.der*`); the
  reference curve itself is only guarded by the kernel-checked constants in the first section.
  OpenSSL's behaviour enters as the contracts written in Model/Keys.lean and is covered by the
  correspondence runs (T2) only.
-/
import BtcVerif.Crypto.Secp256k1
import BtcVerif.Model.Keys
import BtcVerif.Proofs.Der
import BtcVerif.Proofs.Keys
import BtcVerif.Proofs.Ecdsa
import BtcVerif.Proofs.Sec1

namespace BtcVerif.C13
open BtcVerif.Crypto

/-! ### kernel sanity checks guarding the curve constants (SEC 2 v2 §2.4.1) -/

/-- the field prime literal is 2^256 − 2^32 − 977 -/
theorem p_eq : Secp256k1.p = 2 ^ 256 - 2 ^ 32 - 977 := by decide +kernel

/-- … which is the form SEC 2 gives it in: 2^256 − 2^32 − 2^9 − 2^8 − 2^7 − 2^6 − 2^4 − 1 -/
theorem p_eq_sec2 : Secp256k1.p = 2 ^ 256 - 2 ^ 32 - 2 ^ 9 - 2 ^ 8 - 2 ^ 7 - 2 ^ 6 - 2 ^ 4 - 1 := by
  decide +kernel

/-- the group order literal, written as its distance from 2^256 -/
theorem n_eq : Secp256k1.n = 2 ^ 256 - 0x14551231950B75FC4402DA1732FC9BEBF := by decide +kernel

/-- n < p < 2^256 and p < 2n: an x-coordinate is below 2n, so the recovery ids 0..3 cover every case -/
theorem n_lt_p : Secp256k1.n < Secp256k1.p ∧ Secp256k1.p < 2 ^ 256 ∧ Secp256k1.p < 2 * Secp256k1.n := by
  decide +kernel

/-- p ≡ 3 (mod 4): square roots are `a^((p+1)/4)` -/
theorem p_mod_4 : Secp256k1.p % 4 = 3 := by decide +kernel

/-- the generator satisfies y² = x³ + 7 (mod p) with canonical coordinates -/
theorem G_on_curve :
    Secp256k1.Gx < Secp256k1.p ∧ Secp256k1.Gy < Secp256k1.p ∧
    (Secp256k1.Gy * Secp256k1.Gy) % Secp256k1.p =
      (Secp256k1.Gx * Secp256k1.Gx * Secp256k1.Gx + 7) % Secp256k1.p := by decide +kernel

theorem G_onCurve : Secp256k1.onCurve Secp256k1.G = true := by decide +kernel

/-- the executable scalar multiplication sends G to infinity after exactly `n` steps … -/
theorem n_mul_G : Secp256k1.mul Secp256k1.n Secp256k1.G = .inf := by decide +kernel

/-- … and not before in the obvious places: (n−1)·G is the affine point −G, 2·G = G + G is on the curve and not ∞ -/
theorem n_pred_mul_G : Secp256k1.mul (Secp256k1.n - 1) Secp256k1.G = Secp256k1.neg Secp256k1.G := by
  decide +kernel

theorem two_mul_G :
    Secp256k1.mul 2 Secp256k1.G = Secp256k1.add Secp256k1.G Secp256k1.G ∧
    Secp256k1.onCurve (Secp256k1.mul 2 Secp256k1.G) = true ∧
    Secp256k1.mul 2 Secp256k1.G ≠ .inf := by decide +kernel

/-! ### strict DER -/

open Secp256k1 in
/-- strict decoding inverts encoding for all r, s below 2^256 (in particular for every
    ECDSA signature over secp256k1, and for the out-of-range values 0, n, … of the verification matrix) -/
theorem der_roundtrip (r s : Nat) (hr : r < 2 ^ 256) (hs : s < 2 ^ 256) :
    derDecodeStrict (derEncode r s) = some (r, s) :=
  (derDecodeStrict_iff ..).mpr ⟨rfl, derShort_of_lt hr hs⟩

open Secp256k1 in
/-- the strict decoder accepts only the canonical encoding — whatever it accepts is,
    byte for byte, the encoding of the pair it returns (no alternative lengths, paddings, trailing bytes) -/
theorem der_strict (sig : Bytes) (r s : Nat) (h : derDecodeStrict sig = some (r, s)) :
    sig = derEncode r s := ((derDecodeStrict_iff ..).mp h).1

open Secp256k1 in
/-- encodings of different pairs differ (so a signature has exactly one strict DER form) -/
theorem derEncode_injective (r s r' s' : Nat) (hr : r < 2 ^ 256) (hs : s < 2 ^ 256)
    (h : derEncode r s = derEncode r' s') : r = r' ∧ s = s' := by
  -- the two encodings have one length, so the primed pair is short as well and decodes to itself
  have l := derShort_of_lt hr hs
  have hlen := congrArg List.length h
  rw [derEncode_length, derEncode_length] at hlen
  have h1 := der_roundtrip r s hr hs
  rw [h, (derDecodeStrict_iff ..).mpr ⟨rfl, by omega⟩] at h1
  injection h1 with h1
  injection h1 with hr' hs'
  exact ⟨hr'.symm, hs'.symm⟩

/-! ### `CompareBigEndian`, `IsLowDERSignature` -/

/-- `CompareBigEndian(c1, c2)` has the sign of `int(c1) − int(c2)` (big-endian), whatever the two lengths -/
theorem compareBigEndian_sign (c1 c2 : Bytes) :
    (0 < Model.Keys.compareBigEndian c1 c2 ↔ beNat c2 < beNat c1) ∧
    (Model.Keys.compareBigEndian c1 c2 = 0 ↔ beNat c1 = beNat c2) ∧
    (Model.Keys.compareBigEndian c1 c2 < 0 ↔ beNat c1 < beNat c2) := compareBigEndian_spec c1 c2

/-- the function-local table of `IsLowDERSignature` is ⌊n/2⌋ -/
theorem maxModHalfOrder_eq : beNat Model.Keys.maxModHalfOrder = Spec.Keys.halfOrder := beNat_maxModHalfOrder

/-- on the strict DER encoding of any r, s < 2^256 `IsLowDERSignature` raises nothing and answers
    exactly `0 < s ≤ n/2` -/
theorem isLowDer_iff_encode (r s : Nat) (hr : r < 2 ^ 256) (hs : s < 2 ^ 256) :
    Model.Keys.isLowDERSignature (Secp256k1.derEncode r s) = .ok (decide (Spec.Keys.LowS s)) :=
  isLowDER_derEncode r s (derShort_of_lt hr hs)

/-- on every strictly DER-encoded signature, `IsLowDERSignature` raises nothing and
    returns true exactly when `0 < s ≤ n/2` -/
theorem isLowDer_iff (sig : Bytes) (r s : Nat) (h : Secp256k1.derDecodeStrict sig = some (r, s)) :
    Model.Keys.isLowDERSignature sig = .ok (decide (0 < s ∧ s ≤ Secp256k1.n / 2)) := by
  obtain ⟨rfl, hl⟩ := (derDecodeStrict_iff ..).mp h
  exact isLowDER_derEncode r s hl

/-! ### low-S normalisation -/

theorem n_odd : Secp256k1.n % 2 = 1 := by decide +kernel

/-- for 0 < s < n the normal form is `s` or `n − s`, is low, and is a fixed point;
    both members of a twin pair have the same normal form -/
theorem lowS_spec (s : Nat) (h0 : 0 < s) (hn : s < Secp256k1.n) :
    (Spec.Keys.lowS s = s ∨ Spec.Keys.lowS s = Secp256k1.n - s) ∧
    Spec.Keys.LowS (Spec.Keys.lowS s) ∧
    Spec.Keys.lowS (Spec.Keys.lowS s) = Spec.Keys.lowS s ∧
    Spec.Keys.lowS (Secp256k1.n - s) = Spec.Keys.lowS s ∧
    (Spec.Keys.LowS s → Spec.Keys.lowS s = s) := by
  have hh : Secp256k1.n = 2 * Spec.Keys.halfOrder + 1 := by
    have := Nat.div_add_mod Secp256k1.n 2; rw [n_odd] at this; exact this.symm
  rcases half_cases hh h0 hn with ⟨h, h'⟩ | ⟨h, hpos, hs⟩
  · rw [lowS_of_le h, lowS_of_gt h']
    exact ⟨.inl rfl, ⟨h0, h⟩, lowS_of_le h, Nat.sub_sub_self (Nat.le_of_lt hn), fun _ => rfl⟩
  · rw [lowS_of_gt h, lowS_of_le hs]
    exact ⟨.inr rfl, ⟨hpos, hs⟩, rfl, rfl, fun hl => absurd hl.2 (Nat.not_le.mpr h)⟩

/-- for ANY implementation of the three OpenSSL calls with `d2i sig = (r, s)`,
    `s ≤ n`, the order of secp256k1 and an encoder that writes at least one byte, the steps of
    `signature_to_low_s` (`BN_rshift1`, `BN_cmp … > 0`, `BN_sub`, `i2d`, the `derlen == 0` test) return the
    encoding of `(r, lowS s)` — not `None`, no exception.  (For `s = n` that is `(r, 0)`.) -/
theorem signatureToLowS_spec (C : Model.Keys.SigCodec) (sig : Bytes) (r s : Nat)
    (hd : C.d2i sig = some (r, s)) (hs : s ≤ Secp256k1.n) (ho : C.order = Secp256k1.n)
    (hi : ∀ r s, (C.i2d r s).length ≠ 0) :
    Model.Keys.signatureToLowSWith C sig = .ok (some (C.i2d r (Spec.Keys.lowS s))) := by
  unfold Model.Keys.signatureToLowSWith Spec.Keys.lowS Spec.Keys.halfOrder Spec.Keys.n
  rw [hd]
  have hng : ¬ (s > Secp256k1.n / 2 ∧ s > Secp256k1.n) := fun h => Nat.not_lt.mpr hs h.2
  simp only [ho, Nat.shiftRight_one, hi, hng, if_false]

/-- above the order the subtraction goes negative and the code ends in a ValueError (from
    `create_string_buffer(-1)`); off the `sign` domain, mirrored so that the model is not silently total -/
theorem signatureToLowS_above_order (C : Model.Keys.SigCodec) (sig : Bytes) (r s : Nat)
    (hd : C.d2i sig = some (r, s)) (hs : Secp256k1.n < s) (ho : C.order = Secp256k1.n) :
    Model.Keys.signatureToLowSWith C sig = .error .valueerr := by
  unfold Model.Keys.signatureToLowSWith
  rw [hd]
  have hg : s > Secp256k1.n / 2 ∧ s > Secp256k1.n := ⟨Nat.lt_of_le_of_lt (Nat.div_le_self _ _) hs, hs⟩
  simp only [ho, Nat.shiftRight_one, hg, and_self, if_true]

/-- under the contract the library is used with (strict DER both ways): the strict DER encoding of
    `(r, lowS s)` -/
theorem signatureToLowS_reference (sig : Bytes) (r s : Nat) (h : Secp256k1.derDecodeStrict sig = some (r, s))
    (hs : s ≤ Secp256k1.n) :
    Model.Keys.signatureToLowS sig = .ok (some (Secp256k1.derEncode r (Spec.Keys.lowS s))) :=
  signatureToLowS_spec Model.Keys.SigCodec.reference sig r s h hs rfl
    (fun r s => by show (Secp256k1.derEncode r s).length ≠ 0; rw [derEncode_length]; exact Nat.succ_ne_zero _)

/-- nothing parsed: the code goes on to `BN_cmp` with a NULL operand — recorded as a crash outcome, not
    totalised (off the domain: `sign` only passes what `ECDSA_sign` wrote) -/
theorem signatureToLowS_unparsed (C : Model.Keys.SigCodec) (sig : Bytes) (hd : C.d2i sig = none) :
    Model.Keys.signatureToLowSWith C sig = .error (.py "SIGSEGV") := by
  simp [Model.Keys.signatureToLowSWith, hd]

/-- whatever strict DER signature `(r, s)` with r < 2^256, 0 < s < n `ECDSA_sign` returns,
    `CECKey.sign` returns a strict DER signature of `(r, s')` with `s' ∈ {s, n − s}` low — no
    exception, never `None` — and `IsLowDERSignature` holds of the result -/
theorem sign_spec (hash raw : Bytes) (r s : Nat) (hh : hash.length = 32)
    (hraw : Secp256k1.derDecodeStrict raw = some (r, s)) (hr : r < 2 ^ 256) (h0 : 0 < s) (hn : s < Secp256k1.n) :
    ∃ out, Model.Keys.signFinish hash raw = .ok (some out) ∧
      Secp256k1.derDecodeStrict out = some (r, Spec.Keys.lowS s) ∧
      Spec.Keys.LowS (Spec.Keys.lowS s) ∧
      Model.Keys.isLowDERSignature out = .ok true := by
  obtain ⟨hor, hlow, _, _, hfix⟩ := lowS_spec s h0 hn
  have hn256 : Secp256k1.n < 2 ^ 256 := Nat.lt_trans n_lt_p.1 n_lt_p.2.1
  have hls : Spec.Keys.lowS s < 2 ^ 256 :=
    Nat.lt_of_le_of_lt (Nat.le_trans hlow.2 (Nat.div_le_self _ _)) hn256
  refine ⟨Secp256k1.derEncode r (Spec.Keys.lowS s), ?_, der_roundtrip _ _ hr hls, hlow, ?_⟩
  · unfold Model.Keys.signFinish
    simp only [hh, ne_eq, not_true_eq_false, if_false]
    rw [isLowDer_iff raw r s hraw]
    by_cases hl : 0 < s ∧ s ≤ Secp256k1.n / 2
    · have e := der_strict raw r s hraw
      have : Spec.Keys.lowS s = s := hfix hl
      simp [hl, this, e, bind, Except.bind, pure, Except.pure]
    · simp [hl, bind, Except.bind, signatureToLowS_reference raw r s hraw (Nat.le_of_lt hn)]
  · rw [isLowDer_iff_encode r _ hr hls]
    simp [hlow]

/-- a digest that is not 32 bytes long is refused with ValueError before anything is signed -/
theorem sign_hash_length (hash raw : Bytes) (hh : hash.length ≠ 32) :
    Model.Keys.signFinish hash raw = .error .valueerr := by
  simp [Model.Keys.signFinish, hh]

/-! ### WIF payload -/

/-- DEFINITIONAL (`rfl`): the model's payload function is the same term as the Spec's `secret ‖ 01?`;
    recorded only so that the name exists — that the library builds this payload is T2 (`c13.key`) -/
theorem wifPayload_eq_spec (secret : Bytes) (c : Bool) :
    Model.Keys.wifPayload secret c = Spec.Keys.wifPayload secret c := rfl

/-- payload level: under every version byte, parsing the payload built from a
    32-byte secret and a compression flag gives both back — hence the same public key -/
theorem wif_roundtrip (ver : Nat) (secret : Bytes) (c : Bool) (h : secret.length = 32) :
    Model.Keys.wifParse ver ver (Model.Keys.wifPayload secret c) = .ok (secret, c) := by
  unfold Model.Keys.wifParse Model.Keys.wifPayload
  have ht : List.take 32 (secret ++ if c = true then [1] else []) = secret := by
    rw [← h]; simp
  simp only [ne_eq, not_true_eq_false, if_false, ht, h]
  cases c <;> simp [h]

/-- in particular under the four chains' SECRET_KEY prefixes -/
theorem wif_roundtrip_chains (p : Spec.ChainParams) (_hp : p ∈ Spec.chainTable) (secret : Bytes) (c : Bool)
    (h : secret.length = 32) :
    Model.Keys.wifParse p.secretKey p.secretKey (Model.Keys.wifPayload secret c) = .ok (secret, c) :=
  wif_roundtrip p.secretKey secret c h

/-- a WIF string of another version byte (another chain, an address) is refused with a Base58 error -/
theorem wif_wrong_version (chainVer ver : Nat) (payload : Bytes) (h : ver ≠ chainVer) :
    Model.Keys.wifParse chainVer ver payload = .error .b58err := by
  simp [Model.Keys.wifParse, h]

/-- DEFINITIONAL (`rfl`): `pubOfSecret` *is* the reference `secret·G` encoding — this states the OpenSSL
    contract of Model/Keys.lean, it proves nothing about the library; "public key = k·G" is T2 only -/
theorem pub_eq_reference (secret : Bytes) (c : Bool) :
    Model.Keys.pubOfSecret secret c = Secp256k1.encode (Secp256k1.mul (beNat secret) Secp256k1.G) c := rfl

/-- for every secret whose point is not the point at infinity, `is_compressed` (= `len(pub) == 33`) is
    the flag the key was built with; `o15_infinity_key` is the exception -/
theorem isCompressed_of_affine (secret : Bytes) (c : Bool) (x y : Nat)
    (h : Secp256k1.mulG (beNat secret) = .aff x y) :
    Model.Keys.isCompressed (Model.Keys.pubOfSecret secret c) = c := by
  unfold Model.Keys.isCompressed Model.Keys.pubOfSecret Secp256k1.pubkeyOf
  rw [h]
  cases c <;> simp [Secp256k1.encode, be32_length]

/-- **Observation O15 (outside the property's domain [1, n−1] / 33-or-65 bytes).**  The secret 0 (and,
    by `n_mul_G`, the secret n) is accepted silently: the "public key" is the one-byte infinity encoding
    `00`, the library reports it fully valid (OpenSSL parses `00`), and `is_compressed` is false whatever
    flag was asked for — so the WIF round trip of such a secret flips the compression flag. -/
theorem o15_infinity_key (c : Bool) :
    Model.Keys.pubOfSecret (List.replicate 32 0) c = [0] ∧
    Model.Keys.pubOfSecret (beBytes 32 Secp256k1.n) c = [0] ∧
    Model.Keys.isFullyValid [0] = true ∧ Model.Keys.isCompressed [0] = false ∧
    Secp256k1.decode [0] = none := by
  -- both secrets are multiples of the order (`n_mul_G`), and `encode` writes infinity as `00`
  have h0 : Secp256k1.mulG (beNat (List.replicate 32 0)) = .inf := by decide +kernel
  have hn : Secp256k1.mulG (beNat (beBytes 32 Secp256k1.n)) = .inf := by
    rw [beNat_beBytes_mod, Nat.mod_eq_of_lt (show Secp256k1.n < 256 ^ 32 from Nat.lt_trans n_lt_p.1 n_lt_p.2.1)]; exact n_mul_G
  unfold Model.Keys.pubOfSecret Secp256k1.pubkeyOf
  rw [h0, hn]
  exact ⟨rfl, rfl, by decide, by decide, by decide⟩

/-! ### SEC 1 public-key strings: what the reference `decode` (the Spec of `is_fullyvalid`) accepts -/

/-- uncompressed form: decoding the 65-byte encoding of an affine point that
    satisfies y² = x³ + 7 with canonical coordinates returns the point -/
theorem decode_encode_point (x y : Nat) (h : Secp256k1.onCurveXY x y = true) :
    Secp256k1.decode (Secp256k1.encode (.aff x y) false) = some (.aff x y) :=
  decode_encode_uncompressed x y h

/-- tags 04 / 06 / 07: accepted exactly when 64 coordinate bytes follow, the
    coordinates are canonical and satisfy the curve equation, and for the hybrid tags the parity of y is
    the tag's; the result is that point -/
theorem decode_some_iff_uncompressed (tag : UInt8) (body : Bytes) (P : Secp256k1.Point)
    (ht : tag.toNat = 4 ∨ tag.toNat = 6 ∨ tag.toNat = 7) :
    Secp256k1.decode (tag :: body) = some P ↔
      body.length = 64 ∧ P = .aff (beNat (body.take 32)) (beNat (body.drop 32)) ∧
      Secp256k1.onCurve P = true ∧ (tag.toNat = 4 ∨ ((beNat (body.drop 32)) % 2 = 1 ↔ tag.toNat = 7)) :=
  decode_uncompressed_iff tag body P ht

/-- tags 02 / 03, soundness: an accepted string has 32 abscissa bytes and the result is a point with that
    abscissa on the curve whose ordinate parity is the tag's … -/
theorem decode_compressed_sound (tag : UInt8) (body : Bytes) (P : Secp256k1.Point)
    (ht : tag.toNat = 2 ∨ tag.toNat = 3) (h : Secp256k1.decode (tag :: body) = some P) :
    body.length = 32 ∧ ∃ y, P = .aff (beNat body) y ∧ Secp256k1.onCurve P = true ∧ (y % 2 = 1 ↔ tag.toNat = 3) :=
  BtcVerif.decode_compressed_sound tag body P ht h

/-- … and it is the compressed encoding of that point: accepted strings are encodings of curve points -/
theorem encode_decode_compressed (tag : UInt8) (body : Bytes) (P : Secp256k1.Point)
    (ht : tag.toNat = 2 ∨ tag.toNat = 3) (h : Secp256k1.decode (tag :: body) = some P) :
    Secp256k1.encode P true = tag :: body :=
  BtcVerif.encode_decode_compressed tag body P ht h

/-- no other first byte and no empty string is accepted -/
theorem decode_bad_tag (bs : Bytes) (h : ∀ tag body, bs = tag :: body → tag.toNat ∉ [2, 3, 4, 6, 7]) :
    Secp256k1.decode bs = none := by
  cases bs with
  | nil => rfl
  | cons tag body =>
    have := h tag body rfl
    simp at this
    obtain ⟨h2, h3, h4, h6, h7⟩ := this
    simp [Secp256k1.decode, h2, h3, h4, h6, h7]

-- UNPROVED (full statement): completeness for the compressed form,
--
--   theorem decode_encode_point_compressed (x y : Nat) (h : Secp256k1.onCurveXY x y = true) :
--       Secp256k1.decode (Secp256k1.encode (.aff x y) true) = some (.aff x y)
--   theorem decode_some_iff_compressed (tag : UInt8) (body : Bytes) (ht : tag.toNat = 2 ∨ tag.toNat = 3) :
--       (∃ P, Secp256k1.decode (tag :: body) = some P) ↔
--         body.length = 32 ∧ beNat body < Secp256k1.p ∧ ∃ y, y < Secp256k1.p ∧
--           y * y % Secp256k1.p = (beNat body * beNat body % Secp256k1.p * beNat body + 7) % Secp256k1.p
--
-- The direction "a square has the root a^((p+1)/4)" is Euler's criterion for the prime p ≡ 3 (mod 4); it
-- needs the primality of the 256-bit p and an invariant of the `powMod` loop, neither of which is
-- available here.  Soundness (above) and both directions for 04/06/07 are proved; the compressed
-- direction is covered by the correspondence run (`c13.fullyvalid`, about half of random x have no y).
--
-- UNPROVED (full statement): the twin law for the executable formulas,
--
--   theorem verify_lowS_twin_concrete (Q : Secp256k1.Point) (e r s : Nat) (hs : 0 < s ∧ s < Secp256k1.n) :
--       Secp256k1.verify Q e r s = Secp256k1.verify Q e r (Secp256k1.n - s)
--
-- x(−R) = x(R) is immediate, but the step u₁'·G + u₂'·Q = −(u₁·G + u₂·Q) for u' = n − u is the group law
-- ((n − u)·P = −(u·P) and distributivity over the Jacobian addition), which is exactly what is not
-- proved about Crypto/Secp256k1.lean.  Proved abstractly (`verify_lowS_twin`); exercised by the
-- verification matrix (variants 2 and 13 of `c13.matrix`, and `c14.verify` with the flipped-parity twin).

/-! ### ECDSA, abstractly (any prime-order module `E` over `ZMod q` with an even conversion `f`) -/

section abstract
variable {q : ℕ} [Fact q.Prime] {E : Type} [AddCommGroup E] [Module (ZMod q) E]

/-- a signature made by the signing equation verifies under the signer's key -/
theorem verify_sign (C : Ecdsa.Params q E) (d e k : ZMod q) (hR : k • C.g ≠ 0) (hr : Ecdsa.signR C k ≠ 0)
    (hs : Ecdsa.signS C d e k ≠ 0) :
    Ecdsa.Verify C (d • C.g) e (Ecdsa.signR C k) (Ecdsa.signS C d e k) := Ecdsa.verify_sign C d e k hR hr hs

/-- `(r, s)` verifies exactly when `(r, n − s)` does, so low-S normalisation
    (`lowS_spec`, `sign_spec`) never invalidates a signature and verification must accept both twins -/
theorem verify_lowS_twin (C : Ecdsa.Params q E) (Q : E) (e r s : ZMod q) :
    Ecdsa.Verify C Q e r s ↔ Ecdsa.Verify C Q e r (-s) := Ecdsa.verify_lowS_twin C Q e r s

end abstract

/-! ### non-vacuity -/

example : Secp256k1.derDecodeStrict (Secp256k1.derEncode (2 ^ 255) 1) = some (2 ^ 255, 1) := by decide +kernel
example : Secp256k1.derDecodeStrict [0x30, 0x06, 0x02, 0x01, 0x01, 0x02, 0x01, 0x01] = some (1, 1) := by decide
example : Secp256k1.derDecodeStrict [0x30, 0x07, 0x02, 0x02, 0x00, 0x01, 0x02, 0x01, 0x01] = none := by decide
example : Secp256k1.derDecodeStrict [0x30, 0x06, 0x02, 0x01, 0x01, 0x02, 0x01, 0x01, 0x00] = none := by decide
example : Model.Keys.isLowDERSignature (Secp256k1.derEncode 1 (Secp256k1.n / 2)) = .ok true := by
  rw [isLowDer_iff_encode 1 _ (by decide) (by decide +kernel)]; decide +kernel
example : Model.Keys.isLowDERSignature (Secp256k1.derEncode 1 (Secp256k1.n / 2 + 1)) = .ok false := by
  rw [isLowDer_iff_encode 1 _ (by decide) (by decide +kernel)]; decide +kernel
example : Model.Keys.isLowDERSignature [0x30, 0x06, 0x02] = .error indexError := by decide
example : Model.Keys.isLowDERSignature [0x30, 0x06, 0x02, 0x01, 0x01, 0x02, 0x05, 0x01] = .error structError := by
  decide
example : Spec.Keys.lowS (Secp256k1.n - 1) = 1 := by decide +kernel
example : Model.Keys.wifParse 128 128 (List.replicate 32 7 ++ [1]) = .ok (List.replicate 32 7, true) := by decide

end BtcVerif.C13

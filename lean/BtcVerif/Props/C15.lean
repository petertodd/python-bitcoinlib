/-
  C15 — merkle roots, witness merkle root, constructor decision and weights: property theorems.
  Statements use only Model.Merkle.* (mirror of the Python), Spec.Merkle.* / Spec.Wire.* (reference
  definitions) and the range predicates `TxRange` / `BlockRange` ("fields in wire range").
  Helper lemmas live in Proofs/Merkle.lean and Proofs/Wire.lean.  `hash256` is opaque throughout.
-/
import BtcVerif.Proofs.Merkle

namespace BtcVerif.C15
open BtcVerif BtcVerif.Crypto BtcVerif.Model.Merkle BtcVerif.Model.Wire
open BtcVerif.Spec.Merkle (TxRange BlockRange)

/-- the loop over the growing array equals the recursive definition, for every non-empty list of
    hashes: the tree is built without IndexError and its last node is `Spec.Merkle.root` -/
theorem merkle_loop_eq_rec (hs : List Bytes) (hne : hs ≠ []) :
    ∃ tree, buildTreeFromTxids hs = .ok tree ∧ tree.getLast? = Spec.Merkle.root hs :=
  MerkleProofs.buildTree_spec hs hne

/-- `build_merkle_tree_from_txids(hs)[-1]` is the reference root -/
theorem merkle_root_of_hashes (hs : List Bytes) (hne : hs ≠ []) :
    ∃ r, (buildTreeFromTxids hs).bind lastOf = .ok r ∧ Spec.Merkle.root hs = some r := by
  obtain ⟨tree, r, ht, hl, hs'⟩ := MerkleProofs.root_spec hs hne
  exact ⟨r, by simp [ht, hl, Except.bind], hs'⟩

/-- `GetTxid` is the hash of the legacy encoding whatever the witness, `GetHash` the BIP141 wtxid -/
theorem txid_eq (t : Tx) (h : TxRange t) :
    getTxid t = .ok (Spec.Merkle.txid t) ∧ getHash t = .ok (Spec.Merkle.wtxid t) :=
  ⟨MerkleProofs.getTxid_ok t h, MerkleProofs.getHash_ok t h⟩

/-- `calc_merkle_root` of a non-empty transaction list is the reference merkle root of the txids;
    of an empty list it is ValueError -/
theorem merkle_root_eq (vtx : List Tx) (hr : ∀ t ∈ vtx, TxRange t) :
    (vtx ≠ [] → ∃ r, calcMerkleRoot vtx = .ok r ∧ Spec.Merkle.merkleRoot vtx = some r) ∧
    (vtx = [] → calcMerkleRoot vtx = .error .valueerr) := by
  constructor
  · intro hne
    obtain ⟨_, r, _, _, hc, hs⟩ := MerkleProofs.calcMerkleRoot_spec vtx hne hr
    exact ⟨r, hc, hs⟩
  · intro h; subst h; simp [calcMerkleRoot]

/-- `calc_witness_merkle_root`: the BIP141 witness root (coinbase entry zeroed) when some
    transaction carries witness data, NoWitnessData when none does, ValueError for no transactions -/
theorem witness_root_eq (vtx : List Tx) (hr : ∀ t ∈ vtx, TxRange t) :
    ((∃ t ∈ vtx, t.hasWitness = true) →
      ∃ r, calcWitnessMerkleRoot vtx = .ok r ∧ Spec.Merkle.witnessRoot vtx = some r) ∧
    (vtx ≠ [] → (∀ t ∈ vtx, t.hasWitness = false) → calcWitnessMerkleRoot vtx = .error noWitnessData) ∧
    (vtx = [] → calcWitnessMerkleRoot vtx = .error .valueerr) := by
  obtain ⟨hnone, hsome⟩ := MerkleProofs.buildWitnessTree_spec vtx hr
  refine ⟨?_, ?_, ?_⟩
  · rintro ⟨t, ht, hw⟩
    have hany : vtx.any (·.hasWitness) = true := List.any_eq_true.mpr ⟨t, ht, hw⟩
    obtain ⟨tree, r, hb, hl, hs⟩ := hsome hany
    have hlen : vtx.length ≠ 0 := mt List.length_eq_zero_iff.mp (List.ne_nil_of_mem ht)
    exact ⟨r, by simp [calcWitnessMerkleRoot, hlen, hb, hl], hs⟩
  · intro hne hall
    have hany : vtx.any (·.hasWitness) = false := by
      rw [List.any_eq_false]; intro t ht; simp [hall t ht]
    have hlen : vtx.length ≠ 0 := mt List.length_eq_zero_iff.mp hne
    simp [calcWitnessMerkleRoot, hlen, hnone hany]
  · intro h; subst h; simp [calcWitnessMerkleRoot]

/-- the known malleability of the consensus algorithm (CVE-2012-2459): because a last unpaired node is
    paired with itself, a list of odd length > 1 and the same list with its last hash repeated have the
    same root — the Spec is Bitcoin's merkle tree, not an idealised one -/
theorem merkle_mutation_cve (hs : List Bytes) (hne : hs ≠ []) (hodd : hs.length % 2 = 1) (h1 : 1 < hs.length) :
    Spec.Merkle.root (hs ++ [hs.getLast hne]) = Spec.Merkle.root hs := by
  obtain ⟨l, hl⟩ : ∃ l, hs = l ++ [hs.getLast hne] := ⟨hs.dropLast, (List.dropLast_concat_getLast hne).symm⟩
  have hp : Spec.Merkle.pairUp (hs ++ [hs.getLast hne]) = Spec.Merkle.pairUp hs := by
    have := MerkleProofs.pairUp_repeat_last l (hs.getLast hne) (by rw [← hl]; exact hodd)
    rw [← hl] at this; exact this
  rw [MerkleProofs.root_pairUp (hs ++ [hs.getLast hne]) (by simp; omega),
    MerkleProofs.root_pairUp hs (by omega), hp]

/-- every digest is 32 bytes long: the hypothesis of `merkleRoot_length`; `Crypto.hash256_length`
    (Proofs/CryptoLen.lean) proves it of the executable SHA-256d -/
def HashLen : Prop := ∀ x : Bytes, (hash256 x).length = 32

/-- the constructor's decision on a non-empty transaction list: a declared root different from
    the computed one (and not all-zero) is refused with a validation error, whatever else holds -/
theorem ctor_refuses (hdr : Header) (vtx : List Tx) (hne : vtx ≠ []) (hr : ∀ t ∈ vtx, TxRange t)
    (r : Bytes) (hroot : Spec.Merkle.merkleRoot vtx = some r)
    (hz : hdr.hashMerkleRoot ≠ Spec.Merkle.zero32) (hd : hdr.hashMerkleRoot ≠ r) :
    blockCtor hdr vtx = .error .validation := by
  rw [MerkleProofs.blockCtor_eq hdr vtx hne hr r hroot]
  exact if_pos ⟨hz, hd⟩

/-- the constructor's decision, positive half: an all-zero declared root is replaced by the
    computed root, a declared root equal to the computed one is kept; nothing else changes -/
theorem ctor_decision (hdr : Header) (vtx : List Tx) (hne : vtx ≠ []) (hr : ∀ t ∈ vtx, TxRange t)
    (hprev : hdr.hashPrevBlock.length = 32) (r : Bytes) (hroot : Spec.Merkle.merkleRoot vtx = some r)
    (hlen32 : r.length = 32) :
    (hdr.hashMerkleRoot = Spec.Merkle.zero32 ∨ hdr.hashMerkleRoot = r →
      blockCtor hdr vtx = .ok { hdr := { hdr with hashMerkleRoot := r }, vtx := vtx }) ∧
    (hdr.hashMerkleRoot ≠ Spec.Merkle.zero32 → hdr.hashMerkleRoot ≠ r →
      blockCtor hdr vtx = .error .validation) := by
  refine ⟨?_, fun hz hd => ctor_refuses hdr vtx hne hr r hroot hz hd⟩
  intro hcase
  have hno : ¬ (hdr.hashMerkleRoot ≠ zero32 ∧ hdr.hashMerkleRoot ≠ r) :=
    fun h => hcase.elim h.1 h.2
  rw [MerkleProofs.blockCtor_eq hdr vtx hne hr r hroot, if_neg hno, if_neg (fun h => h hprev),
    if_neg (fun h => h hlen32)]

/-- the computed root of a non-empty transaction list is a digest, hence 32 bytes, so the
    length hypothesis of `ctor_decision` follows from `HashLen` -/
theorem merkleRoot_length (hH : HashLen) (vtx : List Tx) (r : Bytes)
    (hroot : Spec.Merkle.merkleRoot vtx = some r) : r.length = 32 := by
  refine MerkleProofs.root_all (P := fun x => x.length = 32) hH _ ?_ r hroot
  intro h hh
  obtain ⟨t, _, rfl⟩ := List.mem_map.mp hh
  exact hH _

/-- a block without transactions: nothing is checked, the declared root is kept -/
theorem ctor_no_tx (hdr : Header) (hprev : hdr.hashPrevBlock.length = 32)
    (hm : hdr.hashMerkleRoot.length = 32) :
    blockCtor hdr [] = .ok { hdr := hdr, vtx := [] } := by
  cases hdr
  simp_all [blockCtor, buildWitnessTree, pure, Except.pure]

/-- serialising with an all-empty witness equals the witness-stripped serialisation (what
    justifies the `len(self.serialize()) * 4` shortcut), straight from `Model.Wire.serTx` -/
theorem serTx_null_witness (t : Tx) (h : witIsNull t.wit = true) : serTx t true = serTx t.strip true := by
  unfold serTx
  rw [h]
  simp [Tx.strip, witIsNull]

/-- weight = 3·|stripped| + |full|, in both branches of `calc_weight`, stated on the model's own
    serialiser (no range hypothesis: whenever the two serialisations exist) -/
theorem weight_eq_ser (t : Tx) (hin : t.vin ≠ []) (hout : t.vout ≠ []) (stripped full : Bytes)
    (hs : serTx t.strip true = .ok stripped) (hf : serTx t true = .ok full) :
    calcWeight t = .ok (3 * stripped.length + full.length) := by
  have h1 : t.vin.length > 0 := List.length_pos_iff.mpr hin
  have h2 : t.vout.length > 0 := List.length_pos_iff.mpr hout
  by_cases hw : witIsNull t.wit = true
  · have : full = stripped := by
      rw [serTx_null_witness t hw, hs] at hf; exact (Except.ok.inj hf).symm
    subst this
    simp [calcWeight, h1, h2, hw, hf, Except.map]; omega
  · have hv := MerkleProofs.ctorValid_of_ser t true full hf
    simp [calcWeight, h1, h2, hw, hv, hs, hf, Except.map]; omega

/-- weight equals the BIP141 definition over the wire format -/
theorem weight_eq (t : Tx) (h : TxRange t) (hin : t.vin ≠ []) (hout : t.vout ≠ []) :
    calcWeight t = .ok (Spec.Merkle.txWeight t) :=
  weight_eq_ser t hin hout _ _ (Codec.serTx_strip h) (Codec.serTx_ok h)

/-- the documented precondition: no inputs or no outputs is an AssertionError -/
theorem weight_asserts (t : Tx) (h : t.vin = [] ∨ t.vout = []) : calcWeight t = .error assertionError := by
  rcases h with h | h
  · simp [calcWeight, h]
  · by_cases h1 : t.vin.length > 0
    · simp [calcWeight, h]
    · simp [calcWeight, h1]

/-- block weight = 3·|stripped block| + |full block| -/
theorem block_weight_eq (b : Block) (h : BlockRange b) : getWeight b = .ok (Spec.Merkle.blockWeight b) :=
  MerkleProofs.getWeight_ok b h

/-! ### non-vacuity -/

/-- a 2-input / 2-output transaction with one non-empty witness stack and a 300-byte script -/
def exTx : Tx :=
  { nVersion := 2,
    vin := [{ prevout := { hash := List.replicate 32 7, n := 1 }, scriptSig := List.replicate 300 0x51, nSequence := 0xfffffffe },
            { prevout := { hash := List.replicate 32 9, n := 0 }, scriptSig := [], nSequence := 0xffffffff }],
    vout := [{ nValue := 5000000000, scriptPubKey := [0x51] }, { nValue := 0, scriptPubKey := [0x6a, 0x01, 0x02] }],
    wit := [[[1, 2, 3], []], []],
    nLockTime := 500000000 }

set_option maxRecDepth 8000 in
example : TxRange exTx := by decide
example : exTx.hasWitness = true := by decide
example : exTx.vin ≠ [] ∧ exTx.vout ≠ [] := by decide
/-- three hashes: the odd level duplicates the last node -/
example (a b c : Bytes) :
    Spec.Merkle.root [a, b, c] = some (hash256 (hash256 (a ++ b) ++ hash256 (c ++ c))) := by
  simp [Spec.Merkle.root, Spec.Merkle.pairUp]
example (a b c : Bytes) : ∃ tree, buildTreeFromTxids [a, b, c] = .ok tree ∧
    tree.getLast? = some (hash256 (hash256 (a ++ b) ++ hash256 (c ++ c))) := by
  obtain ⟨tree, h1, h2⟩ := merkle_loop_eq_rec [a, b, c] (by simp)
  exact ⟨tree, h1, by rw [h2]; simp [Spec.Merkle.root, Spec.Merkle.pairUp]⟩

end BtcVerif.C15

/-
  C02 — identifiers: txid ignores witness, wtxid covers it, block hash = header hash; mutable and
  immutable objects agree.

  `Model.Ident.*` mirrors GetTxid / GetHash / CBlock.GetHash / __eq__ / __hash__; `Spec.Ident.*` is
  BIP141's definition.  The hash function is an arbitrary `H` in every statement (the instances
  `getTxid` … fix it to SHA-256d, which is never unfolded).  The only cryptographic assumption —
  SHA-256d not colliding on the two preimages — is an explicit hypothesis of
  `wtxid_ne_txid_of_injOn`.  Helper lemmas: Proofs/Ident.lean.
-/
import BtcVerif.Proofs.Ident

namespace BtcVerif.C02
open BtcVerif BtcVerif.Model.Wire BtcVerif.Model.Ident BtcVerif.Spec.Wire BtcVerif.Codec

variable (H : Bytes → Bytes)

/-! ### txid -/

/-- the txid is the hash of the witness-stripped (legacy) serialisation -/
theorem txid_eq_spec (t : Tx) (wf : WFTx t) : getTxidWith H t = .ok (Spec.Ident.txid H t) :=
  getTxidWith_ok H (txRange_of_wf wf)

/-- the txid is unchanged by adding, removing or altering witness data: any two witness assignments
    (any number of stacks, all-empty stacks and the witness object without entries included) give
    the same result.  The only hypothesis on the transaction is that the stripped copy `GetTxid`
    builds passes the `CTransaction`/`CTxIn`/`COutPoint` constructors (`ctorValid`; implied by `WFTx`,
    always true of immutable objects) — the result may still be the same *error* on both sides. -/
theorem txid_witness_indep (t : Tx) (w w' : List WitStack) (hw : ∀ s ∈ w, WFWitStack s)
    (hw' : ∀ s ∈ w', WFWitStack s) (hc : ctorValid t = true) :
    getTxidWith H { t with wit := w } = getTxidWith H { t with wit := w' } := by
  rw [getTxidWith_eq H { t with wit := w } hw hc, getTxidWith_eq H { t with wit := w' } hw' hc]

/-- between two witness objects that both have entries, no hypothesis on the fields at all: when the
    constructors refuse the stripped copy both sides raise ValueError -/
theorem txid_witness_indep_entries (t : Tx) (w w' : List WitStack) (hw : ∀ s ∈ w, WFWitStack s)
    (hw' : ∀ s ∈ w', WFWitStack s) (hn : w ≠ []) (hn' : w' ≠ []) :
    getTxidWith H { t with wit := w } = getTxidWith H { t with wit := w' } := by
  cases hc : ctorValid t with
  | true => exact txid_witness_indep H t w w' hw hw' hc
  | false =>
    rw [getTxidWith_valueerr H { t with wit := w } hw hn hc,
      getTxidWith_valueerr H { t with wit := w' } hw' hn' hc]

/-! ### wtxid -/

/-- the witness hash is the hash of the full serialisation -/
theorem wtxid_eq_spec (t : Tx) (wf : WFTx t) : getHashWith H t = .ok (Spec.Ident.wtxid H t) := by
  unfold getHashWith
  rw [serTx_ok (txRange_of_wf wf)]
  rfl

/-- the full serialisation equals the stripped one exactly when no witness stack is non-empty -/
theorem full_eq_stripped_iff (t : Tx) (wf : WFTx t) :
    serTx t = serTx t.strip ↔ t.hasWitness = false := by
  rw [serTx_ok (txRange_of_wf wf), serTx_strip (txRange_of_wf wf)]
  unfold txBytes
  by_cases hw : t.hasWitness = true
  · simp only [hw, if_true, Bool.true_eq_false, iff_false]
    intro h
    injection h with h
    exact txExtended_ne_txLegacy t wf.2.2.1 h
  · have hw' : t.hasWitness = false := by simpa using hw
    simp [hw']

/-- without witness data the two identifiers coincide, for every hash function -/
theorem wtxid_eq_txid_of_no_witness (t : Tx) (wf : WFTx t) (h : t.hasWitness = false) :
    getHashWith H t = getTxidWith H t := by
  rw [wtxid_eq_spec H t wf, txid_eq_spec H t wf]
  simp [Spec.Ident.wtxid, Spec.Ident.txid, txBytes, h]

/-- with witness data the two preimages differ … -/
theorem preimages_differ (t : Tx) (wf : WFTx t) (h : t.hasWitness = true) :
    txBytes t ≠ txLegacy t := by
  simp only [txBytes, h, if_true]
  exact txExtended_ne_txLegacy t wf.2.2.1

/-- … hence the identifiers differ unless the hash collides on exactly these two byte strings
    (collision-freeness is the stated hypothesis) -/
theorem wtxid_ne_txid_of_injOn (t : Tx) (wf : WFTx t) (h : t.hasWitness = true)
    (hinj : H (txBytes t) = H (txLegacy t) → txBytes t = txLegacy t) :
    getHashWith H t ≠ getTxidWith H t := by
  rw [wtxid_eq_spec H t wf, txid_eq_spec H t wf]
  intro heq
  injection heq with heq
  exact preimages_differ t wf h (hinj heq)

/-- "differs from the txid exactly when some witness stack is non-empty" -/
theorem wtxid_ne_txid_iff (t : Tx) (wf : WFTx t)
    (hinj : H (txBytes t) = H (txLegacy t) → txBytes t = txLegacy t) :
    getHashWith H t ≠ getTxidWith H t ↔ t.hasWitness = true := by
  constructor
  · intro hne
    by_cases hw : t.hasWitness = true
    · exact hw
    · exact absurd (wtxid_eq_txid_of_no_witness H t wf (by simpa using hw)) hne
  · intro hw
    exact wtxid_ne_txid_of_injOn H t wf hw hinj

/-! ### blocks -/

/-- a block's hash is the hash of its 80-byte header -/
theorem blockhash_eq_spec (b : Block) (wf : WFHeader b.hdr) :
    blockHashWith H b = .ok (Spec.Ident.blockHash H b) ∧ (header b.hdr).length = 80 :=
  ⟨(blockHashWith_eq H wf.2.2.1 wf.2.2.2.1).trans (headerHashWith_ok H wf), header_length wf⟩

/-- … whatever transactions it carries (no hypothesis at all).  NOTE: true by `rfl` — `blockHashWith`
    never reads `vtx`, exactly as `CBlock.GetHash` hashes `get_header()`; the statement records that
    shape, its behavioural content is the differential run (blocks sharing a header). -/
theorem blockhash_indep_vtx (h : Header) (v v' : List Tx) :
    blockHashWith H { hdr := h, vtx := v } = blockHashWith H { hdr := h, vtx := v' } := rfl

/-- `CBlock.GetHash` = `CBlockHeader.GetHash` of the header fields -/
theorem blockhash_eq_headerhash (b : Block) (wf : WFHeader b.hdr) :
    blockHashWith H b = headerHashWith H b.hdr :=
  blockHashWith_eq H wf.2.2.1 wf.2.2.2.1

theorem headerhash_eq_spec (h : Header) (wf : WFHeader h) :
    headerHashWith H h = .ok (Spec.Ident.headerHash H h) :=
  headerHashWith_ok H wf

/-! ### mutable / immutable objects -/

/-- `==` holds exactly when the two serialisations are the same byte string; the class tags do not
    enter -/
theorem eq_iff_ser_eq (a b : TxObj) :
    pyEq a b = .ok true ↔ ∃ bs, serTx a.val = .ok bs ∧ serTx b.val = .ok bs :=
  beq_bind_ok_true_iff _ _

/-- on well-formed values `==` decides equality of field values (up to the normal form of an
    all-empty witness), for any combination of the two classes -/
theorem eq_iff_fields_eq (a b : TxObj) (wa : WFTx a.val) (wb : WFTx b.val) :
    pyEq a b = .ok true ↔ normTx a.val = normTx b.val := by
  rw [eq_iff_ser_eq, serTx_ok (txRange_of_wf wa), serTx_ok (txRange_of_wf wb)]
  constructor
  · rintro ⟨bs, h1, h2⟩
    injection h1 with h1
    injection h2 with h2
    exact txBytes_inj wa wb (h1.trans h2.symm)
  · intro h
    refine ⟨txBytes a.val, rfl, ?_⟩
    rw [← txBytes_normTx a.val, h, txBytes_normTx]

/-- objects with equal serialisations have equal Python hashes, whatever their classes (`pyHash` is
    any function of the byte string) -/
theorem hash_eq_of_ser_eq (pyHash : Bytes → Int) (a b : TxObj) (h : serTx a.val = serTx b.val) :
    pyHashWith pyHash a = pyHashWith pyHash b := by
  unfold pyHashWith
  rw [h]

/-- a mutable and an immutable object with equal field values report identical txid, wtxid,
    equality and Python hash.  NOTE: three of the four conjuncts are `rfl` because the model's
    functions never read the class tag (`GetTxid`, `GetHash`, `__eq__`, `__hash__` are inherited
    unchanged by the mutable classes; what differs in Python — `__make_mutable` undoing the cached
    `GetHash`/`__hash__` — is C09's heap model).  The clause is carried by the differential run
    (`c02.obj`, `c02.objpair`, `c02.pyhash`) and by `C09.heap_ident_eq_value`. -/
theorem ids_of_equal_fields (pyHash : Bytes → Int) (t : Tx) (wf : WFTx t) :
    let a : TxObj := ⟨.immutable, t⟩
    let b : TxObj := ⟨.mutable, t⟩
    getTxidWith H a.val = getTxidWith H b.val ∧ getHashWith H a.val = getHashWith H b.val ∧
    pyEq a b = .ok true ∧ pyHashWith pyHash a = pyHashWith pyHash b := by
  refine ⟨rfl, rfl, ?_, rfl⟩
  exact (eq_iff_fields_eq _ _ wf wf).2 rfl

/-! ### every serialisable class (COutPoint … CBlock and the mutable twins) -/

theorem objEq_same_family (a b : PyObj) (hf : a.val.family = b.val.family) :
    objEq a b = (a.val.ser >>= fun x => b.val.ser >>= fun y => pure (x == y)) := by
  unfold objEq
  simp only [hf, ne_eq, not_true_eq_false, if_false]

/-- objects of classes that are not related by `isinstance` (e.g. `CScriptWitness` and
    `CTxInWitness`, which serialise identically): `__eq__` returns `NotImplemented` in both directions
    and `==` is `False`, whatever the serialisations -/
theorem objEq_cross_family (a b : PyObj) (h : a.val.family ≠ b.val.family) : objEq a b = .ok false := by
  unfold objEq
  simp only [h, ne_eq, not_false_eq_true, if_true]
  rfl

/-- `==` between two objects of one class family (mutable/immutable twins; header/block) holds
    exactly when their serialisations are the same byte string.  NOTE: the class tag `cls` is not read
    by `objEq` — that the mutable class behaves like the immutable one is *built into* this model
    (it mirrors `Serializable.__eq__`, which the mutable classes inherit unchanged); the content of
    the mutable/immutable clause is carried by the differential run and by C09
    (`C09.heap_ident_eq_value`, `C09.heap_pyhash_eq_value`: cached or not, mutable or not, the heap
    object reports the identifiers of its current field values). -/
theorem objEq_iff_ser_eq (a b : PyObj) (hf : a.val.family = b.val.family) :
    objEq a b = .ok true ↔ ∃ bs, a.val.ser = .ok bs ∧ b.val.ser = .ok bs := by
  rw [objEq_same_family a b hf]
  exact beq_bind_ok_true_iff _ _

/-- objects with different serialisations compare unequal, whatever their classes -/
theorem objEq_false_of_ser_ne (a b : PyObj) (x y : Bytes) (ha : a.val.ser = .ok x) (hb : b.val.ser = .ok y)
    (hne : x ≠ y) : objEq a b = .ok false := by
  by_cases hf : a.val.family = b.val.family
  · rw [objEq_same_family a b hf, ha, hb]
    simp only [ok_bind]
    show (Except.ok (x == y) : Res Bool) = _
    have : (x == y) = false := by simpa using hne
    rw [this]
  · exact objEq_cross_family a b hf

/-- the Python hash is a function of the serialisation only: equal serialisations, equal hashes —
    in particular a mutable object and its immutable twin are interchangeable as dict / set keys -/
theorem objHash_eq_of_ser_eq (pyHash : Bytes → Int) (a b : PyObj) (h : a.val.ser = b.val.ser) :
    objPyHashWith pyHash a = objPyHashWith pyHash b := by
  unfold objPyHashWith
  rw [h]

/-- `GetHash()` is the hash of the serialisation for every class but `CBlock` (header hash) -/
theorem obj_getHash_eq (o : Obj) :
    o.getHashWith H = match o with
      | .block b => blockHashWith H b
      | o => o.ser.map H := by
  cases o <;> simp only [Obj.getHashWith] <;> (cases Obj.ser _ <;> rfl)

/-- a mutable and an immutable object of any class with equal field values: identical `GetHash()`,
    `==` in both directions and identical Python hash (whenever the fields serialise at all).
    NOTE: definitional in this model (the class tag is never read, see `objEq_iff_ser_eq`); the
    bridge that gives the clause content is `C09.heap_ident_eq_value`. -/
theorem obj_class_indep (pyHash : Bytes → Int) (o : Obj) (bs : Bytes) (hs : o.ser = .ok bs) :
    let a : PyObj := ⟨.immutable, o⟩
    let b : PyObj := ⟨.mutable, o⟩
    a.val.getHashWith H = b.val.getHashWith H ∧ objEq a b = .ok true ∧ objEq b a = .ok true ∧
    objPyHashWith pyHash a = objPyHashWith pyHash b ∧ objPyHashWith pyHash a = .ok (pyHash bs) := by
  refine ⟨rfl, ?_, ?_, rfl, ?_⟩
  · exact (objEq_iff_ser_eq _ _ rfl).2 ⟨bs, hs, hs⟩
  · exact (objEq_iff_ser_eq _ _ rfl).2 ⟨bs, hs, hs⟩
  · show (o.ser >>= fun x => pure (pyHash x)) = _
    rw [hs]; rfl

/-- the component serialisations are the wire-format byte strings (so `GetHash()` of a component is
    `H` of its Spec bytes) -/
theorem obj_ser_eq_spec :
    (∀ o, WFOutPoint o → (Obj.outPoint o).ser = .ok (outPoint o)) ∧
    (∀ i, WFTxIn i → (Obj.txIn i).ser = .ok (txIn i)) ∧
    (∀ o, WFTxOut o → (Obj.txOut o).ser = .ok (txOut o)) ∧
    (∀ s, WFWitStack s → (Obj.scriptWit s).ser = .ok (witStack s) ∧ (Obj.inWit s).ser = .ok (witStack s)) ∧
    (∀ w, (∀ s ∈ w, WFWitStack s) → (Obj.wit w).ser = .ok ((w.map witStack).flatten)) ∧
    (∀ t, WFTx t → (Obj.tx t).ser = .ok (txBytes t)) ∧
    (∀ h, WFHeader h → (Obj.header h).ser = .ok (header h)) ∧
    (∀ b, WFBlock b → (Obj.block b).ser = .ok (block b)) :=
  ⟨fun _ h => serOutPoint_ok h, fun _ h => serTxIn_ok h, fun _ h => serTxOut_ok h,
   fun _ h => ⟨serWitStack_ok h, serWitStack_ok h⟩, fun _ h => serWitness_ok h,
   fun _ h => serTx_ok (txRange_of_wf h), fun _ h => serHeader_ok h, fun _ h => serBlock_ok (blockRange_of_wf h)⟩

/-! ### non-vacuity -/

def exTx : Tx :=
  { nVersion := 2
    vin := [ { prevout := { hash := List.replicate 32 0xab, n := 1 }, scriptSig := [], nSequence := 4294967295 } ]
    vout := [ { nValue := 5000000000, scriptPubKey := [0x00, 0x14] ++ List.replicate 20 0x77 } ]
    wit := [ [ List.replicate 71 0x30, List.replicate 33 0x02 ] ]
    nLockTime := 0 }

example : WFTx exTx := by
  refine ⟨by decide, by decide, by decide, by decide, by decide, ?_, ?_, Or.inr rfl, ?_, by decide⟩
  · intro i hi
    simp only [exTx, List.mem_cons, List.mem_nil_iff, or_false] at hi
    subst hi
    refine ⟨⟨?_, ?_⟩, ?_, ?_⟩ <;> simp only [List.length_replicate, List.length_nil, maxSize] <;> omega
  · intro o ho
    simp only [exTx, List.mem_cons, List.mem_nil_iff, or_false] at ho
    subst ho
    refine ⟨by decide, by decide, ?_⟩
    simp [maxSize]
  · intro s hs
    simp only [exTx, List.mem_cons, List.mem_nil_iff, or_false] at hs
    subst hs
    refine ⟨by decide, ?_⟩
    intro b hb
    simp only [List.mem_cons, List.mem_nil_iff, or_false] at hb
    rcases hb with rfl | rfl <;> simp only [List.length_replicate, maxSize] <;> omega

example : exTx.hasWitness = true := by decide

/-- all-empty stacks and "no entries" are two different witness assignments with the same txid -/
example : getTxidWith H { exTx with wit := [[]] } = getTxidWith H { exTx with wit := [] } :=
  txid_witness_indep H exTx [[]] [] (by simp [WFWitStack]) (by simp) (by decide)

end BtcVerif.C02

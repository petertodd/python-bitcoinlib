/-
  C07 — script verification is total, contained and side-effect free: property theorems.

  All statements are about `Model.ScriptEval` (the mirror of scripteval.py in which every Python
  exception site is an explicit outcome) and quantify over ARBITRARY byte lists as scripts.
  Hypotheses: `HashesOK` (the hash primitives return at most 520 bytes — 20/32 for the real ones),
  `∀ cls, ¬ c.Raises cls` (the modelled `RawSignatureHash` raises nothing but CScriptInvalidError:
  for the real one, `0 ≤ inIdx` and a transaction in wire range — a negative index below −|vin| is
  known finding D7), `fl.admissible` (CLEANSTACK ⇒ P2SH; the other four flag sets are known finding
  D6).  Helper lemmas: Proofs/ScriptEval*.lean, Proofs/ScriptVerify.lean.  Side-effect freedom on the Python heap is C09's subject; here the
  model is a pure function of its arguments, and the tie (harness/props/c07.py) checks that the
  real call leaves `txTo.serialize()` and both scripts unchanged.
-/
import BtcVerif.Proofs.ScriptVerify

namespace BtcVerif.C07
open BtcVerif BtcVerif.Spec.Script BtcVerif.Model.ScriptEval

/-- totality: the model of `VerifyScript` is a total function (structural / well-founded
    recursion checked by Lean, no fuel) and returns one of the two constructors -/
theorem verify_total (c : Ctx) (fl : Flags) (sig spk : Bytes) :
    verifyScript c fl sig spk = .ok () ∨ ∃ e, verifyScript c fl sig spk = .error e := by
  cases h : verifyScript c fl sig spk with
  | ok u => left; rfl
  | error e => right; exact ⟨e, rfl⟩

/-- the only foreign (non-ValidationError) exceptions `VerifyScript`
    can raise are an exception that `RawSignatureHash` itself raised, with that exception's class
    (`Ctx.Raises`: for the real one and a transaction in wire range that is IndexError for
    `inIdx < −|vin|`, known finding D7 — `C06.Concrete.raises_real_iff`), or AssertionError when the
    flag set has CLEANSTACK without P2SH (D6).  No CScriptInvalidError, IndexError from the stack,
    KeyError from `OPCODE_NAMES`, struct.error of the number codec, ValueError, TypeError,
    UnboundLocalError or `assert len(stack)` failure is reachable, for arbitrary byte strings. -/
theorem only_known_findings (c : Ctx) (fl : Flags) (hh : HashesOK c.env.hashes) (sig spk : Bytes) (e : Err)
    (h : verifyScript c fl sig spk = .error e) (hv : e.isValidation = false) :
    ∃ cls, e = .py cls ∧ (c.Raises cls ∨ (cls = "AssertionError" ∧ fl.admissible = false)) := by
  have := verifyScript_verok (c := c) (fl := fl) hh sig spk
  rw [h] at this
  cases e with
  | eval cap => simp [Err.isValidation] at hv
  | verify => simp [Err.isValidation] at hv
  | invalid cap => exact absurd this id
  | py cls => exact ⟨cls, rfl, this⟩

/-- containment: when `RawSignatureHash` raises nothing but CScriptInvalidError (in-range index,
    transaction in wire range) and the flag set is admissible, `VerifyScript` on arbitrary byte
    strings returns normally or raises a ValidationError -/
theorem verify_contained (c : Ctx) (fl : Flags) (hh : HashesOK c.env.hashes) (hi : ∀ cls, ¬ c.Raises cls)
    (hf : fl.admissible = true) (sig spk : Bytes) :
    verifyScript c fl sig spk = .ok () ∨
    ∃ e, verifyScript c fl sig spk = .error e ∧ e.isValidation = true := by
  rcases verify_total c fl sig spk with h | ⟨e, h⟩
  · left; exact h
  · right
    refine ⟨e, h, ?_⟩
    cases hv : e.isValidation with
    | true => rfl
    | false =>
      obtain ⟨cls, _, h1 | ⟨_, h2⟩⟩ := only_known_findings c fl hh sig spk e h hv
      · exact absurd h1 (hi cls)
      · rw [hf] at h2; cases h2

/-- the state captured in an EvalScriptError raised by `VerifyScript` respects the interpreter's
    limits: at most 1000 + 3 items on stack and altstack together, at most 201 + 20 counted
    operations, every element at most 520 bytes (whatever the index and the flags) -/
theorem error_state_limits (c : Ctx) (fl : Flags) (hh : HashesOK c.env.hashes) (sig spk : Bytes)
    (cap : Captured) (h : verifyScript c fl sig spk = .error (.eval cap)) :
    cap.stack.length + cap.altstack.length ≤ 1003 ∧ cap.nOpCount ≤ 221 ∧
    (∀ x ∈ cap.stack, x.length ≤ 520) ∧ (∀ x ∈ cap.altstack, x.length ≤ 520) := by
  have := verifyScript_verok (c := c) (fl := fl) hh sig spk
  rw [h] at this
  exact this

/-- `EvalScript` from a caller-supplied stack within the limits: final stack or ValidationError,
    for any script bytes -/
theorem eval_contained (c : Ctx) (fl : Flags) (hh : HashesOK c.env.hashes) (hi : ∀ cls, ¬ c.Raises cls)
    (stack : List Bytes) (script : Bytes) (B : Nat) (hB : 520 ≤ B) (hB2 : B < 2 ^ 32)
    (hs : stack.length ≤ 1000) (he : ∀ x ∈ stack, x.length ≤ B) :
    (∃ s, evalScript c fl stack script = .ok s) ∨
    ∃ cap, evalScript c fl stack script = .error (.eval cap) := by
  obtain ⟨h1, h2⟩ := evalScript_ok (c := c) (B := B) fl stack script hs he hB hB2 hh
  cases hr : evalScript c fl stack script with
  | ok s => left; exact ⟨s, rfl⟩
  | error e =>
    rw [hr] at h1
    cases e with
    | eval cap => right; exact ⟨cap, rfl⟩
    | verify => exact absurd h1 id
    | invalid cap => exact absurd hr (h2 cap)
    | py cls => exact absurd h1 (hi cls)

/-- limits as an invariant of `EvalScript` (by induction over the loop): the final stack has at
    most 1000 items, an error state at most 1003 and 221 counted operations, and no element ever
    exceeds max(520, the largest initial element) -/
theorem eval_state_limits (c : Ctx) (fl : Flags) (hh : HashesOK c.env.hashes)
    (stack : List Bytes) (script : Bytes) (B : Nat) (hB : 520 ≤ B) (hB2 : B < 2 ^ 32)
    (hs : stack.length ≤ 1000) (he : ∀ x ∈ stack, x.length ≤ B) :
    (∀ s, evalScript c fl stack script = .ok s → s.length ≤ 1000 ∧ ∀ x ∈ s, x.length ≤ B) ∧
    (∀ cap, evalScript c fl stack script = .error (.eval cap) →
      cap.stack.length + cap.altstack.length ≤ 1003 ∧ cap.nOpCount ≤ 221 ∧
      (∀ x ∈ cap.stack, x.length ≤ B) ∧ (∀ x ∈ cap.altstack, x.length ≤ B)) := by
  obtain ⟨h1, _⟩ := evalScript_ok (c := c) (B := B) fl stack script hs he hB hB2 hh
  constructor
  · intro s hr; rw [hr] at h1; exact h1
  · intro cap hr; rw [hr] at h1; exact h1

/-- the tight bound: BETWEEN operations (at the head of every loop iteration that is reached) the
    interpreter's limits hold exactly — at most 1000 items on stack and altstack together and at
    most 201 counted operations; only the state captured by an error raised inside an operation can
    exceed them (by the at most 3 items / 20 keys that operation added: `error_state_limits`) -/
theorem state_limits_between_ops (c : Ctx) (fl : Flags) (hh : HashesOK c.env.hashes) (script : Bytes)
    (hlen : script.length ≤ Spec.MAX_SCRIPT_SIZE)
    (op : Model.Script.RawOp) (hop : op.opcode ≤ 0x4e → op.data.isSome) (B : Nat) (hB : 520 ≤ B)
    (hB2 : B < 2 ^ 32) (st st' : St)
    (h1 : st.stack.length + st.alt.length ≤ 1000) (h2 : st.nOpCount ≤ 201)
    (h3 : ∀ x ∈ st.stack, x.length ≤ B) (h4 : ∀ x ∈ st.alt, x.length ≤ B)
    (hs : step c fl script op st = .ok st') :
    st'.stack.length + st'.alt.length ≤ 1000 ∧ st'.nOpCount ≤ 201 ∧
    (∀ x ∈ st'.stack, x.length ≤ B) ∧ (∀ x ∈ st'.alt, x.length ≤ B) := by
  have := step_ok (c := c) fl script hlen op ⟨h1, h2, h3, h4⟩ hop hB hB2 hh
  rw [hs] at this
  exact this

/-- the loop of `_EvalScript` over `pre ++ rest` is the loop over `pre` followed by the loop over `rest`
    from the state reached (the iterator error, if any, is met after the last operation) -/
theorem loop_append (c : Ctx) (fl : Flags) (script : Bytes) (tail : Option Model.Script.IterErr)
    (pre rest : List Model.Script.RawOp) (st : St) :
    loop c fl script tail (pre ++ rest) st =
      (loop c fl script none pre st >>= fun st' => loop c fl script tail rest st') := by
  induction pre generalizing st with
  | nil => simp [loop, bind, Except.bind]
  | cons op pre ih =>
    simp only [List.cons_append, loop, bind, Except.bind]
    cases step c fl script op st with
    | error e => rfl
    | ok st' => simpa [bind, Except.bind] using ih st'

/-- `state_limits_between_ops` lifted over the whole run of `EvalScript(stack, script, …)`: split the
    operations of the script anywhere, `pre ++ rest`; if the run reaches the head of the iteration that
    would execute `rest` (i.e. the loop over `pre` returns a state), that state is within the TIGHT
    limits — at most 1000 items on stack and altstack together, at most 201 counted operations, no
    element longer than max(520, caller's elements).  By `loop_append` the run of the whole script is
    the run over `pre` followed by the run over `rest` from that state.  The three chained evaluations of
    `VerifyScript` each start from a stack within these limits (`eval_state_limits`), so the statement
    applies to each of them. -/
theorem state_limits_every_iteration (c : Ctx) (fl : Flags) (hh : HashesOK c.env.hashes) (script : Bytes)
    (hlen : script.length ≤ Spec.MAX_SCRIPT_SIZE) (stack : List Bytes) (B : Nat) (hB : 520 ≤ B) (hB2 : B < 2 ^ 32)
    (hs : stack.length ≤ 1000) (he : ∀ x ∈ stack, x.length ≤ B)
    (pre rest : List Model.Script.RawOp) (hops : (Model.Script.rawIter script).1 = pre ++ rest) (st' : St)
    (hrun : loop c fl script none pre ⟨stack, [], [], 0, 0⟩ = .ok st') :
    st'.stack.length + st'.alt.length ≤ 1000 ∧ st'.nOpCount ≤ 201 ∧
    (∀ x ∈ st'.stack, x.length ≤ B) ∧ (∀ x ∈ st'.alt, x.length ≤ B) := by
  have hpre : Pre B ⟨stack, [], [], 0, 0⟩ := ⟨by simp; omega, by simp, he, fun x hx => by simp at hx⟩
  have := loop_ok (c := c) fl script hlen none pre
    (fun o ho => rawIter_data script o (by rw [hops]; exact List.mem_append_left _ ho)) hB hB2 hh _ hpre
  rw [hrun] at this
  exact this

/-! ### non-vacuity -/

/-- a context meeting the hypotheses: 20- and 32-byte hashes, a signature hash that never raises -/
def exampleCtx : Ctx :=
  { hashes := { sha1 := fun _ => List.replicate 20 0, ripemd160 := fun _ => List.replicate 20 0,
                sha256 := fun _ => List.replicate 32 0 },
    sigHash := fun _ _ => .ok (List.replicate 32 0), sigVerify := fun _ _ _ => false }

example : HashesOK exampleCtx.env.hashes := by
  intro x; simp [exampleCtx, Ctx.env]

example : ∀ cls, ¬ exampleCtx.Raises cls := by
  rintro cls ⟨_, _, x, _, _, h, _⟩; simp [exampleCtx] at h

example : (Flags.all.filter Flags.admissible).length = 12 := by decide

example : ({ p2sh := true, cleanStack := true } : Flags).admissible = true := by decide

/-- D6 is a genuine outcome of the model: with flags {CLEANSTACK} the accepting pair
    (scriptSig = "", scriptPubKey = push 01) reaches `assert SCRIPT_VERIFY_P2SH in flags` -/
example : verifyScript exampleCtx { cleanStack := true } [] [0x01, 0x01] = .error (.py "AssertionError") := by
  rw [verifyScript, evalScript_nil, ok_bind, evalScript_push1]; rfl

/-- … and with P2SH added the same pair is accepted -/
example : verifyScript exampleCtx { cleanStack := true, p2sh := true } [] [0x01, 0x01] = .ok () := by
  rw [verifyScript, evalScript_nil, ok_bind, evalScript_push1]; rfl

end BtcVerif.C07

/-
  C05 — signed inputs verify; exactly what the hash type commits to is protected.

  PART 1 (this section of the file): the COMMITMENT TABLE of the legacy signature hash, exact, for
  all transactions, all script codes, every signing index and every hash-type value.

  `Spec.Commit.committed ht i p` is the table over the *parts* of a transaction, `Spec.Commit.Committed
  ht i e` / `Uncommitted ht i e` the table over the *edits* of the catalogue `Spec.Commit.Edit`
  (set any field of any input / output, insert / remove / swap inputs or outputs, nLockTime, nVersion,
  witness).  `pre` = `Spec.Sighash.legacyPreimage` (the hashed message) and `Spec.Sighash.legacySighash`
  (digest and error indication) are the reference definitions of C03; by `C03.raw_eq_spec` the
  library's `RawSignatureHash` computes exactly these, so every statement below is a statement about
  the digests `_CheckSig` verifies.

  What is proved outright (no cryptographic assumption):
    * parts agree on everything committed  ⇒  same digest and same error indication (all inputs);
    * some committed part differs          ⇒  the hashed MESSAGES differ (regular case, wire ranges),
      by injectivity of the wire encoding — a corollary of C01's round trip;
    * an `Uncommitted` edit never touches a committed part; only `Committed` edits can.
  What is a cryptographic ASSUMPTION and therefore an explicit hypothesis, never an axiom:
    * "different messages ⇒ different digests" is collision resistance of SHA-256d; it appears as
      the hypothesis `hcr` of `committed_edit_changes_digest` for exactly the two messages at hand;
    * "the signature that was made for the old digest does not verify for the new, different digest"
      (`hunf` of the `*_committed_edit_rejects` theorems of Part 3) is ECDSA unforgeability for that
      ONE instance.  It is not, and must not be, the blanket claim "a signature verifies for one digest
      only", which is false for ECDSA;
    * "the library's signer produces a signature the verifier accepts" (`horacle` of the
      `template_accepts_*` theorems) is ECDSA correctness of OpenSSL's signer; proving it for the Lean
      curve would need the group law.  It is established only by the end-to-end run of the tie.

  PART 2: closed-form verdicts of the interpreter model (C06) on the standard templates, any context.
  PART 3: verdicts under edits of the transaction, reference context `txCtx`.
  PART 4: the same for the CONCRETE context of the library model (`Real.realCtx`: the model of
          `RawSignatureHash` + the Lean ECDSA + the executable hashes): the digest Part 1 speaks about
          is the digest the modelled `_CheckSig` verifies (C03 `raw_eq_spec`, side conditions proved).
-/
import BtcVerif.Proofs.Commit
import BtcVerif.Proofs.C05Templates
import BtcVerif.Proofs.C05Real
import BtcVerif.Model.SpendCtx

namespace BtcVerif.C05
open BtcVerif BtcVerif.Spec.Sighash BtcVerif.Spec.Commit BtcVerif.Spec.Wire BtcVerif.CommitProofs

/-! ### the table over parts -/

/-- **Everything the digest depends on is in the table.**  Two transactions that agree on every
    part the hash type commits to have the same signature hash — same digest, same error
    indication — whatever else differs (scriptSigs, witness, uncommitted inputs / outputs / sequence
    numbers, counts).  No hypothesis: any transactions, any index (existing or not), any `ht`. -/
theorem agree_sighash_eq (sc : Bytes) (t t' : Tx) (i ht : Nat) (h : Agree ht i t t') :
    legacySighash sc t' i ht = legacySighash sc t i ht :=
  sighash_eq_of_agree h sc

/-- **Everything in the table is hashed.**  In the regular case (input `i` exists; under SINGLE
    output `i` exists) and for fields in their wire ranges, the hashed messages are equal exactly when
    the two transactions agree on every committed part. -/
theorem preimage_eq_iff_agree (sc : Bytes) (t t' : Tx) (i ht : Nat) (hsc : sc.length ≤ maxSize)
    (wf : WFc t) (wf' : WFc t') (hr : Regular ht i t) (hr' : Regular ht i t') :
    legacyPreimage sc t' i ht = legacyPreimage sc t i ht ↔ Agree ht i t t' :=
  ⟨agree_of_preimage_eq hsc wf wf' hr hr', fun h => preimage_eq_of_agree h sc hr⟩

/-- a differing committed part ⇒ different hashed messages -/
theorem committed_part_changes_preimage (sc : Bytes) (t t' : Tx) (i ht : Nat) (hsc : sc.length ≤ maxSize)
    (wf : WFc t) (wf' : WFc t') (hr : Regular ht i t) (hr' : Regular ht i t')
    (p : Part) (hp : committed ht i p = true) (hne : p.get t' ≠ p.get t) :
    legacyPreimage sc t' i ht ≠ legacyPreimage sc t i ht :=
  fun h => hne ((preimage_eq_iff_agree sc t t' i ht hsc wf wf' hr hr').1 h p hp)

/-- outside the regular case the digest is the constant 1 with the error indication, whatever the
    transaction (the SIGHASH_SINGLE bug): nothing is committed there -/
theorem irregular_sighash (sc : Bytes) (t : Tx) (i ht : Nat) (h : ¬ Regular ht i t) :
    legacySighash sc t i ht = (hashOne, true) := by
  rw [legacySighash_eq, if_neg h]

/-- in the regular case the digest is the double SHA-256 of the hashed message, without error flag -/
theorem regular_sighash (sc : Bytes) (t : Tx) (i ht : Nat) (h : Regular ht i t) :
    legacySighash sc t i ht = (Crypto.hash256 (legacyPreimage sc t i ht), false) := by
  rw [legacySighash_eq, if_pos h]

/-! ### the table over edits -/

/-- the edit table is a total, two-valued classification -/
theorem table_total (ht i : Nat) (e : Edit) : Committed ht i e = !Uncommitted ht i e := by
  unfold Uncommitted; simp

/-- an `Uncommitted` edit leaves every committed part of every transaction as it was -/
theorem uncommitted_edit_agree (ht i : Nat) (e : Edit) (t : Tx) (h : Uncommitted ht i e = true)
    (hsafe : insertSafe i e t = true) : Agree ht i t (apply e t) :=
  uncommitted_agree ht i e t (by simpa [Uncommitted] using h) hsafe

/-- Changes confined to parts the hash type leaves uncommitted do
    not change the signature hash: digest-level equality (and same error indication) for every
    transaction, script code, index and hash-type value (`insertSafe`: an insertion beyond the end
    appends, which is after position `i` only if position `i` exists). -/
theorem uncommitted_edit_preserves (sc : Bytes) (t : Tx) (i ht : Nat) (e : Edit)
    (h : Uncommitted ht i e = true) (hsafe : insertSafe i e t = true) :
    legacySighash sc (apply e t) i ht = legacySighash sc t i ht :=
  agree_sighash_eq sc t (apply e t) i ht (uncommitted_edit_agree ht i e t h hsafe)

/-- only `Committed` edits can change a committed part -/
theorem changes_only_if_committed (ht i : Nat) (e : Edit) (t : Tx) (h : changes ht i e t)
    (hsafe : insertSafe i e t = true) : Committed ht i e = true :=
  committed_of_changes h hsafe

/-- A `Committed` edit that changes a committed part of the transaction
    changes the hashed message (regular case before and after, fields in wire range before and
    after).  (`changes` already implies `Committed`, see `changes_only_if_committed`; the hypothesis is
    kept so that the statement reads as the table row.) -/
theorem committed_edit_changes (sc : Bytes) (t : Tx) (i ht : Nat) (e : Edit)
    (_hC : Committed ht i e = true) (hch : changes ht i e t)
    (hsc : sc.length ≤ maxSize) (wf : WFc t) (wf' : WFc (apply e t))
    (hr : Regular ht i t) (hr' : Regular ht i (apply e t)) :
    legacyPreimage sc (apply e t) i ht ≠ legacyPreimage sc t i ht := by
  obtain ⟨p, hp, hne⟩ := hch
  exact committed_part_changes_preimage sc t (apply e t) i ht hsc wf wf' hr hr' p hp hne

/-- … hence the digest changes, PROVIDED SHA-256d does not collide on these two messages.  `hcr` is
    the cryptographic assumption (collision resistance), stated for exactly the two messages. -/
theorem committed_edit_changes_digest (sc : Bytes) (t : Tx) (i ht : Nat) (e : Edit)
    (hC : Committed ht i e = true) (hch : changes ht i e t)
    (hsc : sc.length ≤ maxSize) (wf : WFc t) (wf' : WFc (apply e t))
    (hr : Regular ht i t) (hr' : Regular ht i (apply e t))
    (hcr : Crypto.hash256 (legacyPreimage sc (apply e t) i ht) = Crypto.hash256 (legacyPreimage sc t i ht) →
            legacyPreimage sc (apply e t) i ht = legacyPreimage sc t i ht) :
    (legacySighash sc (apply e t) i ht).1 ≠ (legacySighash sc t i ht).1 := by
  rw [regular_sighash _ _ _ _ hr, regular_sighash _ _ _ _ hr']
  exact fun h => committed_edit_changes sc t i ht e hC hch hsc wf wf' hr hr' (hcr h)

/-- when does a `Committed` edit change a committed part?  A field edit (prevout hash / index,
    nSequence, value, scriptPubKey, nLockTime, nVersion): whenever it changes the transaction at all. -/
theorem committed_field_edit_changes (ht i : Nat) (e : Edit) (t : Tx) (hC : Committed ht i e = true)
    (hf : isFieldSet e = true) (hne : apply e t ≠ t) : changes ht i e t :=
  changes_of_field_edit hC hf hne

/-- … inserting / removing an input (without ANYONECANPAY) or an output (mode ALL) at an existing
    position: always (the count is committed). -/
theorem committed_count_edit_changes (ht i : Nat) (t : Tx) :
    (∀ k x, isAnyoneCanPay ht = false → changes ht i (.insertInput k x) t) ∧
    (∀ k, isAnyoneCanPay ht = false → k < t.vin.length → changes ht i (.removeInput k) t) ∧
    (∀ k o, isAll ht = true → changes ht i (.insertOutput k o) t) ∧
    (∀ k, isAll ht = true → k < t.vout.length → changes ht i (.removeOutput k) t) :=
  changes_of_count_edit

/-- for the remaining `Committed` edits (insert / remove at or before `i` under ANYONECANPAY resp.
    SINGLE, swaps) it depends on the values that move; the executable comparison `changedParts`
    (used by the driver) decides it -/
theorem changedParts_spec (ht i : Nat) (t t' : Tx) : changedParts ht i t t' = [] ↔ Agree ht i t t' :=
  changedParts_nil_iff ht i t t'

theorem changes_iff_changedParts (ht i : Nat) (e : Edit) (t : Tx) :
    changes ht i e t ↔ changedParts ht i t (apply e t) ≠ [] := by
  rw [Ne, changedParts_spec]
  simp only [changes, Agree, Classical.not_forall, ne_eq, exists_prop]

/-- the signing input's own nSequence and outpoint are committed under EVERY hash type -/
theorem own_input_always_committed (ht i : Nat) :
    committed ht i (.sequence i) = true ∧ committed ht i (.prevHash i) = true ∧
    committed ht i (.prevN i) = true ∧ committed ht i .version = true ∧ committed ht i .lockTime = true := by
  simp [committed]

/-- scriptSigs and the witness are committed under NO hash type -/
theorem scriptSig_witness_never_committed (ht i k : Nat) :
    committed ht i (.scriptSig k) = false ∧ committed ht i .witness = false := by
  simp [committed]

/-- the mode is selected by `ht % 32` and bit 0x80 only: hash-type values with the same residue and
    the same ANYONECANPAY bit have the same table (the digests still differ: `ht` itself is hashed) -/
theorem table_depends_on_mode_only (ht ht' i : Nat) (hm : ht % 32 = ht' % 32)
    (ha : ht / 128 % 2 = ht' / 128 % 2) (p : Part) : committed ht i p = committed ht' i p := by
  have h1 : isNone ht = isNone ht' := by unfold isNone; rw [hm]
  have h2 : isSingle ht = isSingle ht' := by unfold isSingle; rw [hm]
  have h3 : isAnyoneCanPay ht = isAnyoneCanPay ht' := by
    unfold isAnyoneCanPay SIGHASH_ANYONECANPAY; rw [ha]
  cases p <;> simp [committed, isAll, h1, h2, h3]

/-! ### the catalogue and Python's list mutation -/

theorem swapAt_none {α} (xs : List α) (k l : Nat) (h : ¬ (k < xs.length ∧ l < xs.length)) : swapAt xs k l = xs := by
  unfold swapAt
  by_cases hk : k < xs.length
  · have hl : ¬ l < xs.length := fun hl => h ⟨hk, hl⟩
    rw [List.getElem?_eq_none (by omega : xs.length ≤ l)]
    cases xs[k]? <;> rfl
  · rw [List.getElem?_eq_none (by omega : xs.length ≤ k)]

/-- an edit Python cannot carry out (IndexError) leaves the transaction as it was -/
theorem apply_not_applicable (e : Edit) (t : Tx) (h : applicable e t = false) : apply e t = t := by
  cases e with
  | setPrevHash k _ | setPrevN k _ | setScriptSig k _ | setSequence k _ =>
    have hk : t.vin.length ≤ k := by simpa [applicable] using h
    simp only [apply, List.modify_eq_self hk]
  | setValue k _ | setSpk k _ =>
    have hk : t.vout.length ≤ k := by simpa [applicable] using h
    simp only [apply, List.modify_eq_self hk]
  | removeInput k =>
    have hk : t.vin.length ≤ k := by simpa [applicable] using h
    simp only [apply, List.eraseIdx_of_length_le hk]
  | removeOutput k =>
    have hk : t.vout.length ≤ k := by simpa [applicable] using h
    simp only [apply, List.eraseIdx_of_length_le hk]
  | swapInputs k l => simp only [apply, swapAt_none _ _ _ (by simpa [applicable] using h)]
  | swapOutputs k l => simp only [apply, swapAt_none _ _ _ (by simpa [applicable] using h)]
  | _ => simp [applicable] at h

/-! ### non-vacuity of Part 1 -/

/-- 3 inputs, 3 outputs -/
def exTx : Tx :=
  { nVersion := 2
    vin := [ { prevout := { hash := List.replicate 32 0x11, n := 0 }, scriptSig := [0x51], nSequence := 0xffffffff },
             { prevout := { hash := List.replicate 32 0x22, n := 1 }, scriptSig := [], nSequence := 5 },
             { prevout := { hash := List.replicate 32 0x33, n := 7 }, scriptSig := [0x00], nSequence := 0xfffffffe } ]
    vout := [ { nValue := 1000, scriptPubKey := [0x51] }, { nValue := 2000, scriptPubKey := [0x52] },
              { nValue := 0, scriptPubKey := [0x6a] } ]
    wit := []
    nLockTime := 500000000 }

theorem exTx_wf : WFc exTx := by
  refine ⟨by decide, by decide, by decide, by decide, ?_, ?_, by decide⟩
  · intro x hx
    simp only [exTx, List.mem_cons, List.not_mem_nil, or_false] at hx
    rcases hx with rfl | rfl | rfl <;> exact ⟨⟨by decide, by decide⟩, by decide⟩
  · intro o ho
    simp only [exTx, List.mem_cons, List.not_mem_nil, or_false] at ho
    rcases ho with rfl | rfl | rfl <;> exact ⟨by decide, by decide, by decide⟩

example : WFc exTx := exTx_wf

example : Regular 3 1 exTx := by decide
example : Regular 0x83 2 exTx := by decide
/-- SINGLE at an index without output is NOT regular … -/
example : ¬ Regular 3 1 { exTx with vout := [] } := by decide
/-- … while ALL / NONE at the same index are -/
example : Regular 1 1 { exTx with vout := [] } ∧ Regular 2 1 { exTx with vout := [] } := by decide

-- rows of the table, signing input 1
/-- another input's nSequence: committed under ALL, not under NONE / SINGLE / any ANYONECANPAY -/
example : Committed 1 1 (.setSequence 0 7) = true ∧ Uncommitted 2 1 (.setSequence 0 7) = true ∧
    Uncommitted 3 1 (.setSequence 0 7) = true ∧ Uncommitted 0x81 1 (.setSequence 0 7) = true := by decide
/-- the own nSequence: always -/
example : ∀ ht ∈ [0, 1, 2, 3, 4, 0x1f, 0x22, 0x43, 0x80, 0x81, 0x82, 0x83, 0xe3, 0xff],
    Committed ht 1 (.setSequence 1 7) = true := by decide
/-- outputs under SINGLE: only the one at the signing index; under NONE none; undefined type bytes
    (0, 4, 0x1f) behave as ALL; 0x22 is NONE, 0x43 is SINGLE (bits 0x20 / 0x40 select nothing) -/
example : Committed 3 1 (.setValue 1 5) = true ∧ Uncommitted 3 1 (.setValue 0 5) = true ∧
    Uncommitted 3 1 (.setValue 2 5) = true ∧ Uncommitted 2 1 (.setValue 1 5) = true ∧
    Committed 0 1 (.setValue 2 5) = true ∧ Committed 4 1 (.setValue 2 5) = true ∧
    Committed 0x1f 1 (.setValue 2 5) = true ∧ Uncommitted 0x22 1 (.setValue 1 5) = true ∧
    Committed 0x43 1 (.setValue 1 5) = true ∧ Uncommitted 0x43 1 (.setValue 2 5) = true := by decide
/-- inserting an input after the signing index: uncommitted exactly under ANYONECANPAY -/
example : Uncommitted 0x81 1 (.insertInput 2 ⟨⟨[], 0⟩, [], 0⟩) = true ∧
    Committed 0x81 1 (.insertInput 1 ⟨⟨[], 0⟩, [], 0⟩) = true ∧
    Committed 1 1 (.insertInput 2 ⟨⟨[], 0⟩, [], 0⟩) = true := by decide
/-- an edit that is `Committed` and does change a committed part … -/
example : changes 3 1 (.setValue 1 5) exTx := ⟨.value 1, by decide, by decide⟩
/-- … and one that is `Committed` but writes the value already there -/
example : ¬ changes 3 1 (.setValue 1 2000) exTx := by
  rw [changes_iff_changedParts]; decide
/-- swapping two inputs that differ is seen under ALL; under ANYONECANPAY only if `i` is involved -/
example : changedParts 1 1 exTx (apply (.swapInputs 0 2) exTx) ≠ [] ∧
    changedParts 0x81 1 exTx (apply (.swapInputs 0 2) exTx) = [] := by decide

/-- insertion beyond the end appends (Python `list.insert`); removal / field writes beyond the end are
    not applicable (IndexError) and leave the transaction unchanged -/
example : apply (.insertInput 7 ⟨⟨[], 0⟩, [], 0⟩) exTx = { exTx with vin := exTx.vin ++ [⟨⟨[], 0⟩, [], 0⟩] } := by decide
example : applicable (.removeInput 3) exTx = false ∧ apply (.removeInput 3) exTx = exTx := by decide
/-- why `insertSafe`: signing input 3 of a 3-input transaction (the "return one" case) under ANYONECANPAY,
    `insertInput 4` is `Uncommitted` by the table (4 > 3) but appends at position 3, creating input 3 -/
example : Uncommitted 0x81 3 (.insertInput 4 ⟨⟨[], 0⟩, [], 0⟩) = true ∧
    insertSafe 3 (.insertInput 4 ⟨⟨[], 0⟩, [], 0⟩) exTx = false ∧
    ¬ Regular 0x81 3 exTx ∧ Regular 0x81 3 (apply (.insertInput 4 ⟨⟨[], 0⟩, [], 0⟩) exTx) := by decide

/-! ## PART 2 — acceptance: the interpreter model of C06 on the standard templates

  `Model.ScriptEval.verifyScript` (the model of `VerifyScript`, property C06) is evaluated symbolically
  on the template scripts of `Spec.Templates` for ARBITRARY keys, signatures, flags and contexts.
  Signature checking is abstract: `c.env.sigCheck body key scriptCode hashType` is any function (in the
  driver: Lean ECDSA over the reference signature hash of the spending transaction).

  Each `*_verify` theorem is an exact closed form: the verdict of VerifyScript is `ok` when the
  signature oracle accepts and `VerifyScriptError` when it does not — nothing else about the
  transaction, flags (any of the 12 admissible sets) or key / signature bytes matters.
  `template_accepts_*` / `template_rejects_wrong_key_*` are its two halves.

  CRYPTOGRAPHIC ASSUMPTIONS (hypotheses, never axioms): "the oracle accepts the signature the library
  made with key j for the digest of the spending transaction" is ECDSA correctness of the signer;
  "the oracle rejects a signature made with any other key, or for another digest" is ECDSA
  unforgeability.  Neither is provable about a verifier; both appear as the hypotheses `horacle`,
  `hunf` below, and the tie checks them empirically with the Lean ECDSA against OpenSSL.

  `c.SigTotal` (every Part 2 theorem): the context's `RawSignatureHash` returns a digest — raises
  nothing — for every script code of at most 10 000 bytes that tokenises and every hash-type byte.
  (The context carries the OUTCOME of RawSignatureHash.)  It holds for the reference context `txCtx` unconditionally
  (`txCtx_sigTotal`: the reference digest is total) and for the context of the library model
  `Real.realCtx tx i` whenever `tx` is in wire range and `i ≥ 0` (`realCtx_sigTotal`, from C03).
  Without it `_CheckSig` can raise IndexError / struct.error (known findings D7, out-of-range fields)
  and the verdict is not a VerifyScriptError.

  Size hypotheses (`… < 0x4c`): keys (33 / 65 bytes) and DER signatures with hash-type byte (9 … 74
  bytes) are pushed directly.  `body.length + 1 ≠ key.length` etc. exclude the contrived case in which
  the signature push itself occurs in the script code (FindAndDelete would then remove it). -/

section templates
open BtcVerif.Model.ScriptEval BtcVerif.Spec.Script BtcVerif.Spec.Templates BtcVerif.C05T

/-- pay-to-pubkey -/
theorem p2pk_verify (c : Ctx) (fl : Flags) (body : Bytes) (ht : UInt8) (key : Bytes)
    (hfl : fl.admissible = true) (htot : c.SigTotal) (hk : key.length < 0x4c) (hs : body.length + 1 < 0x4c)
    (hne : body.length + 1 ≠ key.length) :
    verifyScript c fl (p2pkScriptSig (body ++ [ht])) (p2pkScript key) =
      if c.env.sigCheck body key (p2pkScript key) ht.toNat then .ok () else .error .verify :=
  verify_p2pk c fl hfl htot body ht key hk hs hne

theorem template_accepts_p2pk (c : Ctx) (fl : Flags) (body : Bytes) (ht : UInt8) (key : Bytes)
    (hfl : fl.admissible = true) (htot : c.SigTotal) (hk : key.length < 0x4c) (hs : body.length + 1 < 0x4c)
    (hne : body.length + 1 ≠ key.length)
    (horacle : c.env.sigCheck body key (p2pkScript key) ht.toNat = true) :
    verifyScript c fl (p2pkScriptSig (body ++ [ht])) (p2pkScript key) = .ok () :=
  verdict_true (p2pk_verify c fl body ht key hfl htot hk hs hne) horacle

theorem template_rejects_wrong_key_p2pk (c : Ctx) (fl : Flags) (body : Bytes) (ht : UInt8) (key : Bytes)
    (hfl : fl.admissible = true) (htot : c.SigTotal) (hk : key.length < 0x4c) (hs : body.length + 1 < 0x4c)
    (hne : body.length + 1 ≠ key.length)
    (horacle : c.env.sigCheck body key (p2pkScript key) ht.toNat = false) :
    verifyScript c fl (p2pkScriptSig (body ++ [ht])) (p2pkScript key) = .error .verify :=
  verdict_false (p2pk_verify c fl body ht key hfl htot hk hs hne) horacle

/-- pay-to-pubkey-hash, spent with the key whose HASH160 the script commits to -/
theorem p2pkh_verify (c : Ctx) (fl : Flags) (body : Bytes) (ht : UInt8) (key : Bytes)
    (hfl : fl.admissible = true) (htot : c.SigTotal) (hk : key.length < 0x4c) (hs : body.length + 1 < 0x4c)
    (hhl : (c.env.hashes.hash160 key).length = 20) (hne : body.length + 1 ≠ 20) :
    verifyScript c fl (p2pkhScriptSig (body ++ [ht]) key) (p2pkhScript (c.env.hashes.hash160 key)) =
      if c.env.sigCheck body key (p2pkhScript (c.env.hashes.hash160 key)) ht.toNat then .ok ()
      else .error .verify :=
  verify_p2pkh c fl hfl htot body ht key hk hs hhl hne

theorem template_accepts_p2pkh (c : Ctx) (fl : Flags) (body : Bytes) (ht : UInt8) (key : Bytes)
    (hfl : fl.admissible = true) (htot : c.SigTotal) (hk : key.length < 0x4c) (hs : body.length + 1 < 0x4c)
    (hhl : (c.env.hashes.hash160 key).length = 20) (hne : body.length + 1 ≠ 20)
    (horacle : c.env.sigCheck body key (p2pkhScript (c.env.hashes.hash160 key)) ht.toNat = true) :
    verifyScript c fl (p2pkhScriptSig (body ++ [ht]) key) (p2pkhScript (c.env.hashes.hash160 key)) = .ok () :=
  verdict_true (p2pkh_verify c fl body ht key hfl htot hk hs hhl hne) horacle

/-- … spent with that key but a signature the oracle rejects (the hypothesis is only that the
    oracle rejects: made by another key, or for another digest) -/
theorem template_rejects_wrong_key_p2pkh (c : Ctx) (fl : Flags) (body : Bytes) (ht : UInt8) (key : Bytes)
    (hfl : fl.admissible = true) (htot : c.SigTotal) (hk : key.length < 0x4c) (hs : body.length + 1 < 0x4c)
    (hhl : (c.env.hashes.hash160 key).length = 20) (hne : body.length + 1 ≠ 20)
    (horacle : c.env.sigCheck body key (p2pkhScript (c.env.hashes.hash160 key)) ht.toNat = false) :
    verifyScript c fl (p2pkhScriptSig (body ++ [ht]) key) (p2pkhScript (c.env.hashes.hash160 key)) =
      .error .verify :=
  verdict_false (p2pkh_verify c fl body ht key hfl htot hk hs hhl hne) horacle

/-- … with another key altogether (its hash is not the committed one): rejected at OP_EQUALVERIFY with
    an EvalScriptError, whatever the signature and whatever the oracle says.  (That two different keys
    have different HASH160 values is collision resistance — here simply the hypothesis `hne`.) -/
theorem template_rejects_other_key_p2pkh (c : Ctx) (fl : Flags) (sig key h : Bytes)
    (hk : key.length < 0x4c) (hs : sig.length < 0x4c) (hhl : h.length = 20)
    (hne : c.env.hashes.hash160 key ≠ h) :
    ∃ cap, verifyScript c fl (p2pkhScriptSig sig key) (p2pkhScript h) = .error (.eval cap) :=
  verify_p2pkh_other_key c fl sig key h hk hs hhl hne

/-- "valid signatures in key order" is what the multisig loop decides -/
theorem matching_iff_greedy_reverse (chk : Bytes → Bytes → Bool) (sigs keys : List Bytes) :
    greedy chk sigs.reverse keys.reverse = true ↔ Matching chk sigs keys :=
  greedy_reverse_iff_matching chk sigs keys

/-- bare m-of-n multisig, 1 ≤ m ≤ n ≤ 20: accepted exactly when the m signatures can be assigned, in
    order, to m of the n keys such that the oracle accepts each pair -/
theorem multisig_verify (c : Ctx) (fl : Flags) (m : Nat) (keys sigs : List Bytes)
    (hfl : fl.admissible = true) (htot : c.SigTotal) (hm1 : 1 ≤ m) (hmn : m ≤ keys.length)
    (hn : keys.length ≤ 20) (hsl : sigs.length = m)
    (hk : ∀ k ∈ keys, k.length < 0x4c) (hs : ∀ s ∈ sigs, s.length < 0x4c) (hs1 : ∀ s ∈ sigs, s.length ≠ 1)
    (hne : ∀ s ∈ sigs, ∀ k ∈ keys, s.length ≠ k.length) :
    (Matching (chkSig c.env (multisigScript m keys)) sigs keys →
      verifyScript c fl (multisigScriptSig sigs) (multisigScript m keys) = .ok ()) ∧
    (¬ Matching (chkSig c.env (multisigScript m keys)) sigs keys →
      verifyScript c fl (multisigScriptSig sigs) (multisigScript m keys) = .error .verify) :=
  verdict_matching (verify_multisig c fl hfl htot m keys sigs hm1 hmn hn hsl hk hs hs1 hne)

/-- every signature accepted for "its" key, the keys in order (`pos` strictly increasing): accepted -/
theorem template_accepts_multisig (c : Ctx) (fl : Flags) (m : Nat) (keys sigs : List Bytes)
    (hfl : fl.admissible = true) (htot : c.SigTotal) (hm1 : 1 ≤ m) (hmn : m ≤ keys.length)
    (hn : keys.length ≤ 20) (hsl : sigs.length = m)
    (hk : ∀ k ∈ keys, k.length < 0x4c) (hs : ∀ s ∈ sigs, s.length < 0x4c) (hs1 : ∀ s ∈ sigs, s.length ≠ 1)
    (hne : ∀ s ∈ sigs, ∀ k ∈ keys, s.length ≠ k.length)
    (horacle : Matching (chkSig c.env (multisigScript m keys)) sigs keys) :
    verifyScript c fl (multisigScriptSig sigs) (multisigScript m keys) = .ok () :=
  (multisig_verify c fl m keys sigs hfl htot hm1 hmn hn hsl hk hs hs1 hne).1 horacle

/-- signatures repeated from one key, out of key order, or from a key that is not in the script
    admit no such assignment: rejected -/
theorem template_rejects_wrong_key_multisig (c : Ctx) (fl : Flags) (m : Nat) (keys sigs : List Bytes)
    (hfl : fl.admissible = true) (htot : c.SigTotal) (hm1 : 1 ≤ m) (hmn : m ≤ keys.length)
    (hn : keys.length ≤ 20) (hsl : sigs.length = m)
    (hk : ∀ k ∈ keys, k.length < 0x4c) (hs : ∀ s ∈ sigs, s.length < 0x4c) (hs1 : ∀ s ∈ sigs, s.length ≠ 1)
    (hne : ∀ s ∈ sigs, ∀ k ∈ keys, s.length ≠ k.length)
    (horacle : ¬ Matching (chkSig c.env (multisigScript m keys)) sigs keys) :
    verifyScript c fl (multisigScriptSig sigs) (multisigScript m keys) = .error .verify :=
  (multisig_verify c fl m keys sigs hfl htot hm1 hmn hn hsl hk hs hs1 hne).2 horacle

/-- P2SH wrapping of pay-to-pubkey (flag P2SH set) -/
theorem p2sh_p2pk_verify (c : Ctx) (fl : Flags) (body : Bytes) (ht : UInt8) (key : Bytes)
    (hfl : fl.admissible = true) (hp : fl.p2sh = true) (htot : c.SigTotal) (hk : key.length + 2 < 0x4c)
    (hs : body.length + 1 < 0x4c) (hhl : ∀ x, (c.env.hashes.hash160 x).length = 20)
    (hne : body.length + 1 ≠ key.length) :
    verifyScript c fl (p2shScriptSig (p2pkScriptSig (body ++ [ht])) (p2pkScript key))
        (p2shScript (c.env.hashes.hash160 (p2pkScript key))) =
      if c.env.sigCheck body key (p2pkScript key) ht.toNat then .ok () else .error .verify :=
  verify_p2sh_p2pk c fl hfl htot hp hhl body ht key hk hs hne

/-- P2SH wrapping of pay-to-pubkey-hash -/
theorem p2sh_p2pkh_verify (c : Ctx) (fl : Flags) (body : Bytes) (ht : UInt8) (key : Bytes)
    (hfl : fl.admissible = true) (hp : fl.p2sh = true) (htot : c.SigTotal) (hk : key.length < 0x4c)
    (hs : body.length + 1 < 0x4c) (hhl : ∀ x, (c.env.hashes.hash160 x).length = 20) (hne : body.length + 1 ≠ 20) :
    verifyScript c fl
        (p2shScriptSig (p2pkhScriptSig (body ++ [ht]) key) (p2pkhScript (c.env.hashes.hash160 key)))
        (p2shScript (c.env.hashes.hash160 (p2pkhScript (c.env.hashes.hash160 key)))) =
      if c.env.sigCheck body key (p2pkhScript (c.env.hashes.hash160 key)) ht.toNat then .ok ()
      else .error .verify :=
  verify_p2sh_p2pkh c fl hfl htot hp hhl body ht key hk hs hne

/-- P2SH wrapping of m-of-n multisig (serialised script within the 520-byte element limit) -/
theorem p2sh_multisig_verify (c : Ctx) (fl : Flags) (m : Nat) (keys sigs : List Bytes)
    (hfl : fl.admissible = true) (hp : fl.p2sh = true) (htot : c.SigTotal) (hm1 : 1 ≤ m) (hmn : m ≤ keys.length)
    (hn : keys.length ≤ 20) (hsl : sigs.length = m)
    (hk : ∀ k ∈ keys, k.length < 0x4c) (hs : ∀ s ∈ sigs, s.length < 0x4c) (hs1 : ∀ s ∈ sigs, s.length ≠ 1)
    (hne : ∀ s ∈ sigs, ∀ k ∈ keys, s.length ≠ k.length)
    (hrl : (multisigScript m keys).length ≤ 520) (hhl : ∀ x, (c.env.hashes.hash160 x).length = 20) :
    let redeem := multisigScript m keys
    let spend := verifyScript c fl (p2shScriptSig (multisigScriptSig sigs) redeem)
      (p2shScript (c.env.hashes.hash160 redeem))
    (Matching (chkSig c.env redeem) sigs keys → spend = .ok ()) ∧
    (¬ Matching (chkSig c.env redeem) sigs keys → spend = .error .verify) :=
  verdict_matching (verify_p2sh_multisig c fl hfl htot hp hhl m keys sigs hm1 hmn hn hsl hk hs hs1 hne hrl)

end templates

/-! ## PART 3 — both parts together: the verdict of VerifyScript under edits of the transaction

  `txCtx hashes ecdsa tx i` is the context in which `VerifyScript(scriptSig, scriptPubKey, tx, i)` runs:
  signatures are checked by `ecdsa body key digest` (ANY function) against the legacy signature hash
  of `tx`.  For every template:
    * an edit that is `Uncommitted` for the hash type of the signature(s) leaves the verdict unchanged
      (no assumption at all);
    * (an edit that is `Uncommitted` needs the side condition `insertSafe`: an insertion beyond the
      end appends, which is "after position i" only if position i exists);
    * for a `Committed` edit that changes a committed part, WHAT IS PROVED is exactly this and no more:
        (a) the digest of the edited transaction differs from the original one, given `hcr`
            (SHA-256d does not collide on the two hashed messages) — `committed_edit_changes_digest`;
        (b) a signature that the verifier does not accept for the digest at hand is rejected by the
            template with VerifyScriptError — `template_rejects_wrong_key_*`.
      The `*_committed_edit_rejects` theorems are the composition of (a) and (b) through the
      hypothesis `hunf : new digest ≠ old digest → ecdsa body key (new digest) = false`.  Under the size
      hypotheses the CONSEQUENT of `hunf` is equivalent to the conclusion (`*_verify`: verdict =
      `if ecdsa … then ok else VerifyScriptError`), so these theorems add to (a) only the plumbing (b):
      they say "IF the old signature does not verify for the new, different digest THEN the spend is
      rejected".  That the old signature does not verify for a new digest is ECDSA unforgeability for
      that instance; it is assumed, never proved, and it is NOT the blanket claim "a signature is valid
      for one digest only", which is false for ECDSA: (r, s) valid for z under secret d also verifies
      for −z − 2rd mod n, and every digest has the representatives z and z + n below 2^256; with the
      abscissa candidates r and r + n this leaves at most a handful (≤ 8) of exceptional 256-bit values
      of the new digest for which `hunf` fails, which an editor of the transaction can hit only by
      inverting SHA-256d.
      `*_committed_edit_rejects` do not assume that the signature was valid for the ORIGINAL
      transaction; `*_committed_edit_flips` add that (`horacle`, ECDSA correctness of the signer, also
      assumed) and conclude "accepted before ∧ rejected after". -/

section edits
open BtcVerif.Model.ScriptEval BtcVerif.Spec.Script BtcVerif.Spec.Templates BtcVerif.C05T
variable (hashes : Hashes) (ecdsa : Bytes → Bytes → Bytes → Bool) (tx : Tx) (i : Nat) (e : Edit) (fl : Flags)

theorem txCtx_sigTotal : (txCtx hashes ecdsa tx i).SigTotal := ⟨fun _ _ _ _ _ => ⟨_, rfl⟩⟩

/-- the signature oracle of the edited transaction agrees with that of the original on every
    signature whose hash type leaves the edit uncommitted -/
theorem sigCheck_uncommitted_edit (body key sc : Bytes) (ht : Nat) (h : Uncommitted ht i e = true)
    (hsafe : insertSafe i e tx = true) :
    (txEnv hashes ecdsa (apply e tx) i).sigCheck body key sc ht = (txEnv hashes ecdsa tx i).sigCheck body key sc ht := by
  simp only [txEnv, uncommitted_edit_preserves sc tx i ht e h hsafe]

theorem chkSig_uncommitted_edit (sc sig key : Bytes)
    (h : ∀ ht, sig.getLast? = some ht → Uncommitted ht.toNat i e = true) (hsafe : insertSafe i e tx = true) :
    chkSig (txEnv hashes ecdsa (apply e tx) i) sc sig key = chkSig (txEnv hashes ecdsa tx i) sc sig key := by
  unfold chkSig
  cases hl : sig.getLast? with
  | none => rfl
  | some ht => exact sigCheck_uncommitted_edit hashes ecdsa tx i e _ _ _ _ (h ht hl) hsafe

/-- the oracle of the edited transaction rejects what was accepted, under the two cryptographic
    hypotheses -/
theorem sigCheck_committed_edit (body key sc : Bytes) (ht : Nat)
    (hC : Committed ht i e = true) (hch : changes ht i e tx)
    (hsc : sc.length ≤ maxSize) (wf : WFc tx) (wf' : WFc (apply e tx))
    (hr : Regular ht i tx) (hr' : Regular ht i (apply e tx))
    (hcr : Crypto.hash256 (legacyPreimage sc (apply e tx) i ht) = Crypto.hash256 (legacyPreimage sc tx i ht) →
            legacyPreimage sc (apply e tx) i ht = legacyPreimage sc tx i ht)
    (hunf : (legacySighash sc (apply e tx) i ht).1 ≠ (legacySighash sc tx i ht).1 →
      ecdsa body key (legacySighash sc (apply e tx) i ht).1 = false) :
    (txEnv hashes ecdsa (apply e tx) i).sigCheck body key sc ht = false := by
  simp only [txEnv]
  exact hunf (committed_edit_changes_digest sc tx i ht e hC hch hsc wf wf' hr hr' hcr)

/-! ### uncommitted edits: same verdict (no assumption) -/

/-- a verdict decided by one signature check does not change under an edit that is `Uncommitted`
    for the hash type of the signature -/
theorem same_verdict_of_sigCheck {V : Ctx → M Unit} {body key sc : Bytes} {ht : Nat}
    (hV : ∀ t, V (txCtx hashes ecdsa t i) =
      if (txEnv hashes ecdsa t i).sigCheck body key sc ht then .ok () else .error .verify)
    (hU : Uncommitted ht i e = true) (hsafe : insertSafe i e tx = true) :
    V (txCtx hashes ecdsa (apply e tx) i) = V (txCtx hashes ecdsa tx i) := by
  rw [hV, hV, sigCheck_uncommitted_edit hashes ecdsa tx i e _ _ _ _ hU hsafe]

/-- … and one decided by the multisig matching, when the edit is `Uncommitted` for every signature -/
theorem same_verdict_of_greedy {V : Ctx → M Unit} {sc : Bytes} {sigs keys : List Bytes}
    (hV : ∀ t, V (txCtx hashes ecdsa t i) =
      if greedy (chkSig (txEnv hashes ecdsa t i) sc) sigs.reverse keys.reverse then .ok () else .error .verify)
    (hU : ∀ s ∈ sigs, ∀ ht, s.getLast? = some ht → Uncommitted ht.toNat i e = true)
    (hsafe : insertSafe i e tx = true) :
    V (txCtx hashes ecdsa (apply e tx) i) = V (txCtx hashes ecdsa tx i) := by
  rw [hV, hV, greedy_congr _ _ fun s hs k =>
    chkSig_uncommitted_edit hashes ecdsa tx i e sc s k (hU s (List.mem_reverse.1 hs)) hsafe]

theorem p2pk_uncommitted_edit_same_verdict (body : Bytes) (ht : UInt8) (key : Bytes)
    (hfl : fl.admissible = true) (hk : key.length < 0x4c) (hs : body.length + 1 < 0x4c)
    (hne : body.length + 1 ≠ key.length) (hU : Uncommitted ht.toNat i e = true) (hsafe : insertSafe i e tx = true) :
    verifyScript (txCtx hashes ecdsa (apply e tx) i) fl (p2pkScriptSig (body ++ [ht])) (p2pkScript key) =
      verifyScript (txCtx hashes ecdsa tx i) fl (p2pkScriptSig (body ++ [ht])) (p2pkScript key) :=
  same_verdict_of_sigCheck hashes ecdsa tx i e (V := fun c => verifyScript c fl _ _)
    (fun _ => p2pk_verify _ fl body ht key hfl (txCtx_sigTotal ..) hk hs hne) hU hsafe

theorem p2pkh_uncommitted_edit_same_verdict (body : Bytes) (ht : UInt8) (key : Bytes)
    (hfl : fl.admissible = true) (hk : key.length < 0x4c) (hs : body.length + 1 < 0x4c)
    (hhl : (hashes.hash160 key).length = 20) (hne : body.length + 1 ≠ 20) (hU : Uncommitted ht.toNat i e = true) (hsafe : insertSafe i e tx = true) :
    verifyScript (txCtx hashes ecdsa (apply e tx) i) fl (p2pkhScriptSig (body ++ [ht]) key)
        (p2pkhScript (hashes.hash160 key)) =
      verifyScript (txCtx hashes ecdsa tx i) fl (p2pkhScriptSig (body ++ [ht]) key)
        (p2pkhScript (hashes.hash160 key)) :=
  same_verdict_of_sigCheck hashes ecdsa tx i e (V := fun c => verifyScript c fl _ _)
    (sc := p2pkhScript (hashes.hash160 key))
    (fun _ => p2pkh_verify _ fl body ht key hfl (txCtx_sigTotal ..) hk hs hhl hne) hU hsafe

theorem multisig_uncommitted_edit_same_verdict (m : Nat) (keys sigs : List Bytes)
    (hfl : fl.admissible = true) (hm1 : 1 ≤ m) (hmn : m ≤ keys.length) (hn : keys.length ≤ 20)
    (hsl : sigs.length = m) (hk : ∀ k ∈ keys, k.length < 0x4c) (hs : ∀ s ∈ sigs, s.length < 0x4c)
    (hs1 : ∀ s ∈ sigs, s.length ≠ 1) (hne : ∀ s ∈ sigs, ∀ k ∈ keys, s.length ≠ k.length)
    (hU : ∀ s ∈ sigs, ∀ ht, s.getLast? = some ht → Uncommitted ht.toNat i e = true)
    (hsafe : insertSafe i e tx = true) :
    verifyScript (txCtx hashes ecdsa (apply e tx) i) fl (multisigScriptSig sigs) (multisigScript m keys) =
      verifyScript (txCtx hashes ecdsa tx i) fl (multisigScriptSig sigs) (multisigScript m keys) :=
  same_verdict_of_greedy hashes ecdsa tx i e (V := fun c => verifyScript c fl _ _)
    (fun _ => verify_multisig _ fl hfl (txCtx_sigTotal ..) m keys sigs hm1 hmn hn hsl hk hs hs1 hne) hU hsafe

/-! ### committed edits: the kept signature is rejected if it does not verify for the new digest -/

theorem p2pk_committed_edit_rejects (body : Bytes) (ht : UInt8) (key : Bytes)
    (hfl : fl.admissible = true) (hk : key.length < 0x4c) (hs : body.length + 1 < 0x4c)
    (hne : body.length + 1 ≠ key.length)
    (hC : Committed ht.toNat i e = true) (hch : changes ht.toNat i e tx)
    (wf : WFc tx) (wf' : WFc (apply e tx)) (hr : Regular ht.toNat i tx) (hr' : Regular ht.toNat i (apply e tx))
    (hcr : Crypto.hash256 (legacyPreimage (p2pkScript key) (apply e tx) i ht.toNat) =
             Crypto.hash256 (legacyPreimage (p2pkScript key) tx i ht.toNat) →
           legacyPreimage (p2pkScript key) (apply e tx) i ht.toNat = legacyPreimage (p2pkScript key) tx i ht.toNat)
    (hunf : (legacySighash (p2pkScript key) (apply e tx) i ht.toNat).1 ≠ (legacySighash (p2pkScript key) tx i ht.toNat).1 →
      ecdsa body key (legacySighash (p2pkScript key) (apply e tx) i ht.toNat).1 = false) :
    verifyScript (txCtx hashes ecdsa (apply e tx) i) fl (p2pkScriptSig (body ++ [ht])) (p2pkScript key) =
      .error .verify :=
  template_rejects_wrong_key_p2pk _ fl body ht key hfl (txCtx_sigTotal ..) hk hs hne
    (sigCheck_committed_edit hashes ecdsa tx i e body key _ _ hC hch
      (by rw [length_p2pkScript]; unfold maxSize; omega) wf wf' hr hr' hcr hunf)

theorem p2pkh_committed_edit_rejects (body : Bytes) (ht : UInt8) (key : Bytes)
    (hfl : fl.admissible = true) (hk : key.length < 0x4c) (hs : body.length + 1 < 0x4c)
    (hhl : (hashes.hash160 key).length = 20) (hne : body.length + 1 ≠ 20)
    (hC : Committed ht.toNat i e = true) (hch : changes ht.toNat i e tx)
    (wf : WFc tx) (wf' : WFc (apply e tx)) (hr : Regular ht.toNat i tx) (hr' : Regular ht.toNat i (apply e tx))
    (hcr : Crypto.hash256 (legacyPreimage (p2pkhScript (hashes.hash160 key)) (apply e tx) i ht.toNat) =
             Crypto.hash256 (legacyPreimage (p2pkhScript (hashes.hash160 key)) tx i ht.toNat) →
           legacyPreimage (p2pkhScript (hashes.hash160 key)) (apply e tx) i ht.toNat =
             legacyPreimage (p2pkhScript (hashes.hash160 key)) tx i ht.toNat)
    (hunf : (legacySighash (p2pkhScript (hashes.hash160 key)) (apply e tx) i ht.toNat).1 ≠
        (legacySighash (p2pkhScript (hashes.hash160 key)) tx i ht.toNat).1 →
      ecdsa body key (legacySighash (p2pkhScript (hashes.hash160 key)) (apply e tx) i ht.toNat).1 = false) :
    verifyScript (txCtx hashes ecdsa (apply e tx) i) fl (p2pkhScriptSig (body ++ [ht]) key)
        (p2pkhScript (hashes.hash160 key)) = .error .verify :=
  template_rejects_wrong_key_p2pkh (txCtx hashes ecdsa (apply e tx) i) fl body ht key hfl (txCtx_sigTotal ..) hk hs hhl hne
    (sigCheck_committed_edit hashes ecdsa tx i e body key (p2pkhScript (hashes.hash160 key)) _ hC hch
      (by rw [length_p2pkhScript, hhl]; decide) wf wf' hr hr' hcr hunf)

/-- the oracle of the edited transaction rejects every signature of the list, whatever the key -/
theorem chkSig_committed_edit (sc : Bytes) (sigs keys : List Bytes) (hsc : sc.length ≤ maxSize)
    (wf : WFc tx) (wf' : WFc (apply e tx))
    (hB : ∀ s ∈ sigs, ∀ ht, s.getLast? = some ht →
      Committed ht.toNat i e = true ∧ changes ht.toNat i e tx ∧ Regular ht.toNat i tx ∧
      Regular ht.toNat i (apply e tx) ∧
      (Crypto.hash256 (legacyPreimage sc (apply e tx) i ht.toNat) = Crypto.hash256 (legacyPreimage sc tx i ht.toNat) →
        legacyPreimage sc (apply e tx) i ht.toNat = legacyPreimage sc tx i ht.toNat) ∧
      (∀ k ∈ keys, (legacySighash sc (apply e tx) i ht.toNat).1 ≠ (legacySighash sc tx i ht.toNat).1 →
        ecdsa s.dropLast k (legacySighash sc (apply e tx) i ht.toNat).1 = false)) :
    ∀ s ∈ sigs, ∀ k ∈ keys, chkSig (txEnv hashes ecdsa (apply e tx) i) sc s k = false := by
  intro s hs k hkm
  unfold chkSig
  cases hl : s.getLast? with
  | none => rfl
  | some ht =>
    obtain ⟨hC, hch, hr, hr', hcr, hunf⟩ := hB s hs ht hl
    exact sigCheck_committed_edit hashes ecdsa tx i e _ k sc _ hC hch hsc wf wf' hr hr' hcr (hunf k hkm)

theorem multisig_committed_edit_rejects (m : Nat) (keys sigs : List Bytes)
    (hfl : fl.admissible = true) (hm1 : 1 ≤ m) (hmn : m ≤ keys.length) (hn : keys.length ≤ 20)
    (hsl : sigs.length = m) (hk : ∀ k ∈ keys, k.length < 0x4c) (hs : ∀ s ∈ sigs, s.length < 0x4c)
    (hs1 : ∀ s ∈ sigs, s.length ≠ 1) (hne : ∀ s ∈ sigs, ∀ k ∈ keys, s.length ≠ k.length)
    (wf : WFc tx) (wf' : WFc (apply e tx))
    (hB : ∀ s ∈ sigs, ∀ ht, s.getLast? = some ht →
      Committed ht.toNat i e = true ∧ changes ht.toNat i e tx ∧ Regular ht.toNat i tx ∧
      Regular ht.toNat i (apply e tx) ∧
      (Crypto.hash256 (legacyPreimage (multisigScript m keys) (apply e tx) i ht.toNat) =
          Crypto.hash256 (legacyPreimage (multisigScript m keys) tx i ht.toNat) →
        legacyPreimage (multisigScript m keys) (apply e tx) i ht.toNat =
          legacyPreimage (multisigScript m keys) tx i ht.toNat) ∧
      (∀ k ∈ keys, (legacySighash (multisigScript m keys) (apply e tx) i ht.toNat).1 ≠
          (legacySighash (multisigScript m keys) tx i ht.toNat).1 →
        ecdsa s.dropLast k (legacySighash (multisigScript m keys) (apply e tx) i ht.toNat).1 = false)) :
    verifyScript (txCtx hashes ecdsa (apply e tx) i) fl (multisigScriptSig sigs) (multisigScript m keys) =
      .error .verify :=
  verdict_false (verify_multisig _ fl hfl (txCtx_sigTotal ..) m keys sigs hm1 hmn hn hsl hk hs hs1 hne)
    (greedy_all_false_mem _ _ (by rw [Ne, List.reverse_eq_nil_iff, ← List.length_eq_zero_iff]; omega) fun s hs' k hk' =>
      chkSig_committed_edit hashes ecdsa tx i e _ sigs keys
        (by have := multisig_length_le m keys hk; unfold maxSize; omega) wf wf' hB
        s (List.mem_reverse.1 hs') k (List.mem_reverse.1 hk'))

/-! ### the same for the P2SH wrappings (the script code is the serialised script) -/

theorem p2sh_p2pkh_uncommitted_edit_same_verdict (body : Bytes) (ht : UInt8) (key : Bytes)
    (hfl : fl.admissible = true) (hp : fl.p2sh = true) (hk : key.length < 0x4c) (hs : body.length + 1 < 0x4c)
    (hhl : ∀ x, (hashes.hash160 x).length = 20) (hne : body.length + 1 ≠ 20) (hU : Uncommitted ht.toNat i e = true) (hsafe : insertSafe i e tx = true) :
    let redeem := p2pkhScript (hashes.hash160 key)
    verifyScript (txCtx hashes ecdsa (apply e tx) i) fl (p2shScriptSig (p2pkhScriptSig (body ++ [ht]) key) redeem)
        (p2shScript (hashes.hash160 redeem)) =
      verifyScript (txCtx hashes ecdsa tx i) fl (p2shScriptSig (p2pkhScriptSig (body ++ [ht]) key) redeem)
        (p2shScript (hashes.hash160 redeem)) :=
  same_verdict_of_sigCheck hashes ecdsa tx i e (V := fun c => verifyScript c fl _ _)
    (sc := p2pkhScript (hashes.hash160 key))
    (fun _ => p2sh_p2pkh_verify _ fl body ht key hfl hp (txCtx_sigTotal ..) hk hs hhl hne) hU hsafe

theorem p2sh_multisig_uncommitted_edit_same_verdict (m : Nat) (keys sigs : List Bytes)
    (hfl : fl.admissible = true) (hp : fl.p2sh = true) (hm1 : 1 ≤ m) (hmn : m ≤ keys.length)
    (hn : keys.length ≤ 20) (hsl : sigs.length = m) (hk : ∀ k ∈ keys, k.length < 0x4c)
    (hs : ∀ s ∈ sigs, s.length < 0x4c) (hs1 : ∀ s ∈ sigs, s.length ≠ 1)
    (hne : ∀ s ∈ sigs, ∀ k ∈ keys, s.length ≠ k.length)
    (hrl : (multisigScript m keys).length ≤ 520) (hhl : ∀ x, (hashes.hash160 x).length = 20)
    (hU : ∀ s ∈ sigs, ∀ ht, s.getLast? = some ht → Uncommitted ht.toNat i e = true)
    (hsafe : insertSafe i e tx = true) :
    let redeem := multisigScript m keys
    verifyScript (txCtx hashes ecdsa (apply e tx) i) fl (p2shScriptSig (multisigScriptSig sigs) redeem)
        (p2shScript (hashes.hash160 redeem)) =
      verifyScript (txCtx hashes ecdsa tx i) fl (p2shScriptSig (multisigScriptSig sigs) redeem)
        (p2shScript (hashes.hash160 redeem)) :=
  same_verdict_of_greedy hashes ecdsa tx i e (V := fun c => verifyScript c fl _ _)
    (fun _ => verify_p2sh_multisig _ fl hfl (txCtx_sigTotal ..) hp hhl m keys sigs hm1 hmn hn hsl hk hs hs1 hne hrl)
    hU hsafe

theorem p2sh_p2pk_uncommitted_edit_same_verdict (body : Bytes) (ht : UInt8) (key : Bytes)
    (hfl : fl.admissible = true) (hp : fl.p2sh = true) (hk : key.length + 2 < 0x4c) (hs : body.length + 1 < 0x4c)
    (hhl : ∀ x, (hashes.hash160 x).length = 20) (hne : body.length + 1 ≠ key.length)
    (hU : Uncommitted ht.toNat i e = true) (hsafe : insertSafe i e tx = true) :
    verifyScript (txCtx hashes ecdsa (apply e tx) i) fl
        (p2shScriptSig (p2pkScriptSig (body ++ [ht])) (p2pkScript key)) (p2shScript (hashes.hash160 (p2pkScript key))) =
      verifyScript (txCtx hashes ecdsa tx i) fl
        (p2shScriptSig (p2pkScriptSig (body ++ [ht])) (p2pkScript key)) (p2shScript (hashes.hash160 (p2pkScript key))) :=
  same_verdict_of_sigCheck hashes ecdsa tx i e (V := fun c => verifyScript c fl _ _)
    (fun _ => p2sh_p2pk_verify _ fl body ht key hfl hp (txCtx_sigTotal ..) hk hs hhl hne) hU hsafe

theorem p2sh_p2pk_committed_edit_rejects (body : Bytes) (ht : UInt8) (key : Bytes)
    (hfl : fl.admissible = true) (hp : fl.p2sh = true) (hk : key.length + 2 < 0x4c) (hs : body.length + 1 < 0x4c)
    (hhl : ∀ x, (hashes.hash160 x).length = 20) (hne : body.length + 1 ≠ key.length)
    (hC : Committed ht.toNat i e = true) (hch : changes ht.toNat i e tx)
    (wf : WFc tx) (wf' : WFc (apply e tx)) (hr : Regular ht.toNat i tx) (hr' : Regular ht.toNat i (apply e tx))
    (hcr : Crypto.hash256 (legacyPreimage (p2pkScript key) (apply e tx) i ht.toNat) =
             Crypto.hash256 (legacyPreimage (p2pkScript key) tx i ht.toNat) →
           legacyPreimage (p2pkScript key) (apply e tx) i ht.toNat = legacyPreimage (p2pkScript key) tx i ht.toNat)
    (hunf : (legacySighash (p2pkScript key) (apply e tx) i ht.toNat).1 ≠ (legacySighash (p2pkScript key) tx i ht.toNat).1 →
      ecdsa body key (legacySighash (p2pkScript key) (apply e tx) i ht.toNat).1 = false) :
    verifyScript (txCtx hashes ecdsa (apply e tx) i) fl
        (p2shScriptSig (p2pkScriptSig (body ++ [ht])) (p2pkScript key)) (p2shScript (hashes.hash160 (p2pkScript key))) =
      .error .verify :=
  verdict_false (p2sh_p2pk_verify _ fl body ht key hfl hp (txCtx_sigTotal ..) hk hs hhl hne)
    (sigCheck_committed_edit hashes ecdsa tx i e body key _ _ hC hch
      (by rw [length_p2pkScript]; unfold maxSize; omega) wf wf' hr hr' hcr hunf)

theorem p2sh_p2pkh_committed_edit_rejects (body : Bytes) (ht : UInt8) (key : Bytes)
    (hfl : fl.admissible = true) (hp : fl.p2sh = true) (hk : key.length < 0x4c) (hs : body.length + 1 < 0x4c)
    (hhl : ∀ x, (hashes.hash160 x).length = 20) (hne : body.length + 1 ≠ 20)
    (hC : Committed ht.toNat i e = true) (hch : changes ht.toNat i e tx)
    (wf : WFc tx) (wf' : WFc (apply e tx)) (hr : Regular ht.toNat i tx) (hr' : Regular ht.toNat i (apply e tx))
    (hcr : Crypto.hash256 (legacyPreimage (p2pkhScript (hashes.hash160 key)) (apply e tx) i ht.toNat) =
             Crypto.hash256 (legacyPreimage (p2pkhScript (hashes.hash160 key)) tx i ht.toNat) →
           legacyPreimage (p2pkhScript (hashes.hash160 key)) (apply e tx) i ht.toNat =
             legacyPreimage (p2pkhScript (hashes.hash160 key)) tx i ht.toNat)
    (hunf : (legacySighash (p2pkhScript (hashes.hash160 key)) (apply e tx) i ht.toNat).1 ≠
        (legacySighash (p2pkhScript (hashes.hash160 key)) tx i ht.toNat).1 →
      ecdsa body key (legacySighash (p2pkhScript (hashes.hash160 key)) (apply e tx) i ht.toNat).1 = false) :
    let redeem := p2pkhScript (hashes.hash160 key)
    verifyScript (txCtx hashes ecdsa (apply e tx) i) fl (p2shScriptSig (p2pkhScriptSig (body ++ [ht]) key) redeem)
        (p2shScript (hashes.hash160 redeem)) = .error .verify :=
  verdict_false (p2sh_p2pkh_verify _ fl body ht key hfl hp (txCtx_sigTotal ..) hk hs hhl hne)
    (sigCheck_committed_edit hashes ecdsa tx i e body key (p2pkhScript (hashes.hash160 key)) _ hC hch
      (by rw [length_p2pkhScript, hhl]; decide) wf wf' hr hr' hcr hunf)

theorem p2sh_multisig_committed_edit_rejects (m : Nat) (keys sigs : List Bytes)
    (hfl : fl.admissible = true) (hp : fl.p2sh = true) (hm1 : 1 ≤ m) (hmn : m ≤ keys.length)
    (hn : keys.length ≤ 20) (hsl : sigs.length = m) (hk : ∀ k ∈ keys, k.length < 0x4c)
    (hs : ∀ s ∈ sigs, s.length < 0x4c) (hs1 : ∀ s ∈ sigs, s.length ≠ 1)
    (hne : ∀ s ∈ sigs, ∀ k ∈ keys, s.length ≠ k.length)
    (hrl : (multisigScript m keys).length ≤ 520) (hhl : ∀ x, (hashes.hash160 x).length = 20)
    (wf : WFc tx) (wf' : WFc (apply e tx))
    (hB : ∀ s ∈ sigs, ∀ ht, s.getLast? = some ht →
      Committed ht.toNat i e = true ∧ changes ht.toNat i e tx ∧ Regular ht.toNat i tx ∧
      Regular ht.toNat i (apply e tx) ∧
      (Crypto.hash256 (legacyPreimage (multisigScript m keys) (apply e tx) i ht.toNat) =
          Crypto.hash256 (legacyPreimage (multisigScript m keys) tx i ht.toNat) →
        legacyPreimage (multisigScript m keys) (apply e tx) i ht.toNat =
          legacyPreimage (multisigScript m keys) tx i ht.toNat) ∧
      (∀ k ∈ keys, (legacySighash (multisigScript m keys) (apply e tx) i ht.toNat).1 ≠
          (legacySighash (multisigScript m keys) tx i ht.toNat).1 →
        ecdsa s.dropLast k (legacySighash (multisigScript m keys) (apply e tx) i ht.toNat).1 = false)) :
    let redeem := multisigScript m keys
    verifyScript (txCtx hashes ecdsa (apply e tx) i) fl (p2shScriptSig (multisigScriptSig sigs) redeem)
        (p2shScript (hashes.hash160 redeem)) = .error .verify :=
  verdict_false
    (verify_p2sh_multisig _ fl hfl (txCtx_sigTotal ..) hp hhl m keys sigs hm1 hmn hn hsl hk hs hs1 hne hrl)
    (greedy_all_false_mem _ _ (by rw [Ne, List.reverse_eq_nil_iff, ← List.length_eq_zero_iff]; omega) fun s hs' k hk' =>
      chkSig_committed_edit hashes ecdsa tx i e _ sigs keys (by unfold maxSize; omega) wf wf' hB
        s (List.mem_reverse.1 hs') k (List.mem_reverse.1 hk'))

/-! ### accepted before, rejected after

  The `*_committed_edit_rejects` theorems above do not assume that the signature was valid for the
  ORIGINAL transaction.  These do: `horacle` (the verifier accepts the signature for the original
  digest — ECDSA correctness of the signer, a hypothesis) is added and the conclusion is the pair
  "accepted before the edit ∧ VerifyScriptError after it". -/

theorem p2pk_committed_edit_flips (body : Bytes) (ht : UInt8) (key : Bytes)
    (hfl : fl.admissible = true) (hk : key.length < 0x4c) (hs : body.length + 1 < 0x4c)
    (hne : body.length + 1 ≠ key.length)
    (hC : Committed ht.toNat i e = true) (hch : changes ht.toNat i e tx)
    (wf : WFc tx) (wf' : WFc (apply e tx)) (hr : Regular ht.toNat i tx) (hr' : Regular ht.toNat i (apply e tx))
    (hcr : Crypto.hash256 (legacyPreimage (p2pkScript key) (apply e tx) i ht.toNat) =
             Crypto.hash256 (legacyPreimage (p2pkScript key) tx i ht.toNat) →
           legacyPreimage (p2pkScript key) (apply e tx) i ht.toNat = legacyPreimage (p2pkScript key) tx i ht.toNat)
    (hunf : (legacySighash (p2pkScript key) (apply e tx) i ht.toNat).1 ≠ (legacySighash (p2pkScript key) tx i ht.toNat).1 →
      ecdsa body key (legacySighash (p2pkScript key) (apply e tx) i ht.toNat).1 = false)
    (horacle : ecdsa body key (legacySighash (p2pkScript key) tx i ht.toNat).1 = true) :
    (verifyScript (txCtx hashes ecdsa tx i) fl (p2pkScriptSig (body ++ [ht])) (p2pkScript key) = .ok ()) ∧
    (verifyScript (txCtx hashes ecdsa (apply e tx) i) fl (p2pkScriptSig (body ++ [ht])) (p2pkScript key) =
      .error .verify) :=
  ⟨template_accepts_p2pk (txCtx hashes ecdsa tx i) fl body ht key hfl (txCtx_sigTotal ..) hk hs hne horacle,
    p2pk_committed_edit_rejects hashes ecdsa tx i e fl body ht key hfl hk hs hne hC hch wf wf' hr hr' hcr hunf⟩

theorem p2pkh_committed_edit_flips (body : Bytes) (ht : UInt8) (key : Bytes)
    (hfl : fl.admissible = true) (hk : key.length < 0x4c) (hs : body.length + 1 < 0x4c)
    (hhl : (hashes.hash160 key).length = 20) (hne : body.length + 1 ≠ 20)
    (hC : Committed ht.toNat i e = true) (hch : changes ht.toNat i e tx)
    (wf : WFc tx) (wf' : WFc (apply e tx)) (hr : Regular ht.toNat i tx) (hr' : Regular ht.toNat i (apply e tx))
    (hcr : Crypto.hash256 (legacyPreimage (p2pkhScript (hashes.hash160 key)) (apply e tx) i ht.toNat) =
             Crypto.hash256 (legacyPreimage (p2pkhScript (hashes.hash160 key)) tx i ht.toNat) →
           legacyPreimage (p2pkhScript (hashes.hash160 key)) (apply e tx) i ht.toNat =
             legacyPreimage (p2pkhScript (hashes.hash160 key)) tx i ht.toNat)
    (hunf : (legacySighash (p2pkhScript (hashes.hash160 key)) (apply e tx) i ht.toNat).1 ≠
        (legacySighash (p2pkhScript (hashes.hash160 key)) tx i ht.toNat).1 →
      ecdsa body key (legacySighash (p2pkhScript (hashes.hash160 key)) (apply e tx) i ht.toNat).1 = false)
    (horacle : ecdsa body key (legacySighash (p2pkhScript (hashes.hash160 key)) tx i ht.toNat).1 = true) :
    (verifyScript (txCtx hashes ecdsa tx i) fl (p2pkhScriptSig (body ++ [ht]) key)
        (p2pkhScript (hashes.hash160 key)) = .ok ()) ∧
    (verifyScript (txCtx hashes ecdsa (apply e tx) i) fl (p2pkhScriptSig (body ++ [ht]) key)
        (p2pkhScript (hashes.hash160 key)) = .error .verify) :=
  ⟨template_accepts_p2pkh (txCtx hashes ecdsa tx i) fl body ht key hfl (txCtx_sigTotal ..) hk hs hhl hne horacle,
    p2pkh_committed_edit_rejects hashes ecdsa tx i e fl body ht key hfl hk hs hhl hne hC hch wf wf' hr hr' hcr hunf⟩

theorem multisig_committed_edit_flips (m : Nat) (keys sigs : List Bytes)
    (hfl : fl.admissible = true) (hm1 : 1 ≤ m) (hmn : m ≤ keys.length) (hn : keys.length ≤ 20)
    (hsl : sigs.length = m) (hk : ∀ k ∈ keys, k.length < 0x4c) (hs : ∀ s ∈ sigs, s.length < 0x4c)
    (hs1 : ∀ s ∈ sigs, s.length ≠ 1) (hne : ∀ s ∈ sigs, ∀ k ∈ keys, s.length ≠ k.length)
    (wf : WFc tx) (wf' : WFc (apply e tx))
    (hB : ∀ s ∈ sigs, ∀ ht, s.getLast? = some ht →
      Committed ht.toNat i e = true ∧ changes ht.toNat i e tx ∧ Regular ht.toNat i tx ∧
      Regular ht.toNat i (apply e tx) ∧
      (Crypto.hash256 (legacyPreimage (multisigScript m keys) (apply e tx) i ht.toNat) =
          Crypto.hash256 (legacyPreimage (multisigScript m keys) tx i ht.toNat) →
        legacyPreimage (multisigScript m keys) (apply e tx) i ht.toNat =
          legacyPreimage (multisigScript m keys) tx i ht.toNat) ∧
      (∀ k ∈ keys, (legacySighash (multisigScript m keys) (apply e tx) i ht.toNat).1 ≠
          (legacySighash (multisigScript m keys) tx i ht.toNat).1 →
        ecdsa s.dropLast k (legacySighash (multisigScript m keys) (apply e tx) i ht.toNat).1 = false))
    (horacle : Matching (chkSig (txEnv hashes ecdsa tx i) (multisigScript m keys)) sigs keys) :
    (verifyScript (txCtx hashes ecdsa tx i) fl (multisigScriptSig sigs) (multisigScript m keys) = .ok ()) ∧
    (verifyScript (txCtx hashes ecdsa (apply e tx) i) fl (multisigScriptSig sigs) (multisigScript m keys) =
      .error .verify) :=
  ⟨template_accepts_multisig (txCtx hashes ecdsa tx i) fl m keys sigs hfl (txCtx_sigTotal ..) hm1 hmn hn hsl hk hs hs1 hne horacle,
    multisig_committed_edit_rejects hashes ecdsa tx i e fl m keys sigs hfl hm1 hmn hn hsl hk hs hs1 hne wf wf' hB⟩

theorem p2sh_p2pk_committed_edit_flips (body : Bytes) (ht : UInt8) (key : Bytes)
    (hfl : fl.admissible = true) (hp : fl.p2sh = true) (hk : key.length + 2 < 0x4c) (hs : body.length + 1 < 0x4c)
    (hhl : ∀ x, (hashes.hash160 x).length = 20) (hne : body.length + 1 ≠ key.length)
    (hC : Committed ht.toNat i e = true) (hch : changes ht.toNat i e tx)
    (wf : WFc tx) (wf' : WFc (apply e tx)) (hr : Regular ht.toNat i tx) (hr' : Regular ht.toNat i (apply e tx))
    (hcr : Crypto.hash256 (legacyPreimage (p2pkScript key) (apply e tx) i ht.toNat) =
             Crypto.hash256 (legacyPreimage (p2pkScript key) tx i ht.toNat) →
           legacyPreimage (p2pkScript key) (apply e tx) i ht.toNat = legacyPreimage (p2pkScript key) tx i ht.toNat)
    (hunf : (legacySighash (p2pkScript key) (apply e tx) i ht.toNat).1 ≠ (legacySighash (p2pkScript key) tx i ht.toNat).1 →
      ecdsa body key (legacySighash (p2pkScript key) (apply e tx) i ht.toNat).1 = false)
    (horacle : ecdsa body key (legacySighash (p2pkScript key) tx i ht.toNat).1 = true) :
    (verifyScript (txCtx hashes ecdsa tx i) fl
        (p2shScriptSig (p2pkScriptSig (body ++ [ht])) (p2pkScript key)) (p2shScript (hashes.hash160 (p2pkScript key))) = .ok ()) ∧
    (verifyScript (txCtx hashes ecdsa (apply e tx) i) fl
        (p2shScriptSig (p2pkScriptSig (body ++ [ht])) (p2pkScript key)) (p2shScript (hashes.hash160 (p2pkScript key))) =
      .error .verify) :=
  ⟨verdict_true (p2sh_p2pk_verify _ fl body ht key hfl hp (txCtx_sigTotal ..) hk hs hhl hne) horacle,
    p2sh_p2pk_committed_edit_rejects hashes ecdsa tx i e fl body ht key hfl hp hk hs hhl hne hC hch wf wf' hr hr' hcr hunf⟩

theorem p2sh_p2pkh_committed_edit_flips (body : Bytes) (ht : UInt8) (key : Bytes)
    (hfl : fl.admissible = true) (hp : fl.p2sh = true) (hk : key.length < 0x4c) (hs : body.length + 1 < 0x4c)
    (hhl : ∀ x, (hashes.hash160 x).length = 20) (hne : body.length + 1 ≠ 20)
    (hC : Committed ht.toNat i e = true) (hch : changes ht.toNat i e tx)
    (wf : WFc tx) (wf' : WFc (apply e tx)) (hr : Regular ht.toNat i tx) (hr' : Regular ht.toNat i (apply e tx))
    (hcr : Crypto.hash256 (legacyPreimage (p2pkhScript (hashes.hash160 key)) (apply e tx) i ht.toNat) =
             Crypto.hash256 (legacyPreimage (p2pkhScript (hashes.hash160 key)) tx i ht.toNat) →
           legacyPreimage (p2pkhScript (hashes.hash160 key)) (apply e tx) i ht.toNat =
             legacyPreimage (p2pkhScript (hashes.hash160 key)) tx i ht.toNat)
    (hunf : (legacySighash (p2pkhScript (hashes.hash160 key)) (apply e tx) i ht.toNat).1 ≠
        (legacySighash (p2pkhScript (hashes.hash160 key)) tx i ht.toNat).1 →
      ecdsa body key (legacySighash (p2pkhScript (hashes.hash160 key)) (apply e tx) i ht.toNat).1 = false)
    (horacle : ecdsa body key (legacySighash (p2pkhScript (hashes.hash160 key)) tx i ht.toNat).1 = true) :
    let redeem := p2pkhScript (hashes.hash160 key)
    (verifyScript (txCtx hashes ecdsa tx i) fl (p2shScriptSig (p2pkhScriptSig (body ++ [ht]) key) redeem)
        (p2shScript (hashes.hash160 redeem)) = .ok ()) ∧
    (verifyScript (txCtx hashes ecdsa (apply e tx) i) fl (p2shScriptSig (p2pkhScriptSig (body ++ [ht]) key) redeem)
        (p2shScript (hashes.hash160 redeem)) = .error .verify) :=
  ⟨verdict_true (p2sh_p2pkh_verify _ fl body ht key hfl hp (txCtx_sigTotal ..) hk hs hhl hne) horacle,
    p2sh_p2pkh_committed_edit_rejects hashes ecdsa tx i e fl body ht key hfl hp hk hs hhl hne hC hch wf wf' hr hr' hcr hunf⟩

theorem p2sh_multisig_committed_edit_flips (m : Nat) (keys sigs : List Bytes)
    (hfl : fl.admissible = true) (hp : fl.p2sh = true) (hm1 : 1 ≤ m) (hmn : m ≤ keys.length)
    (hn : keys.length ≤ 20) (hsl : sigs.length = m) (hk : ∀ k ∈ keys, k.length < 0x4c)
    (hs : ∀ s ∈ sigs, s.length < 0x4c) (hs1 : ∀ s ∈ sigs, s.length ≠ 1)
    (hne : ∀ s ∈ sigs, ∀ k ∈ keys, s.length ≠ k.length)
    (hrl : (multisigScript m keys).length ≤ 520) (hhl : ∀ x, (hashes.hash160 x).length = 20)
    (wf : WFc tx) (wf' : WFc (apply e tx))
    (hB : ∀ s ∈ sigs, ∀ ht, s.getLast? = some ht →
      Committed ht.toNat i e = true ∧ changes ht.toNat i e tx ∧ Regular ht.toNat i tx ∧
      Regular ht.toNat i (apply e tx) ∧
      (Crypto.hash256 (legacyPreimage (multisigScript m keys) (apply e tx) i ht.toNat) =
          Crypto.hash256 (legacyPreimage (multisigScript m keys) tx i ht.toNat) →
        legacyPreimage (multisigScript m keys) (apply e tx) i ht.toNat =
          legacyPreimage (multisigScript m keys) tx i ht.toNat) ∧
      (∀ k ∈ keys, (legacySighash (multisigScript m keys) (apply e tx) i ht.toNat).1 ≠
          (legacySighash (multisigScript m keys) tx i ht.toNat).1 →
        ecdsa s.dropLast k (legacySighash (multisigScript m keys) (apply e tx) i ht.toNat).1 = false))
    (horacle : Matching (chkSig (txEnv hashes ecdsa tx i) (multisigScript m keys)) sigs keys) :
    let redeem := multisigScript m keys
    (verifyScript (txCtx hashes ecdsa tx i) fl (p2shScriptSig (multisigScriptSig sigs) redeem)
        (p2shScript (hashes.hash160 redeem)) = .ok ()) ∧
    (verifyScript (txCtx hashes ecdsa (apply e tx) i) fl (p2shScriptSig (multisigScriptSig sigs) redeem)
        (p2shScript (hashes.hash160 redeem)) = .error .verify) :=
  ⟨(p2sh_multisig_verify (txCtx hashes ecdsa tx i) fl m keys sigs hfl hp (txCtx_sigTotal ..) hm1 hmn hn hsl hk hs hs1 hne hrl hhl).1 horacle,
    p2sh_multisig_committed_edit_rejects hashes ecdsa tx i e fl m keys sigs hfl hp hm1 hmn hn hsl hk hs hs1 hne hrl hhl wf wf' hB⟩

end edits

/-! ## PART 4 — the concrete environment of the library model

  `Model.ScriptEval.Real.realCtx tx i` (Model/ScriptEnvReal.lean) is the context the
  model of `VerifyScript(…, tx, i)` really runs in: `_CheckSig` computes
  `Model.Sighash.rawSignatureHash` — the MODEL of the library's `RawSignatureHash` (C03) — and checks
  the signature with SEC1 decoding, strict DER and ECDSA over secp256k1 (`Real.ecdsaCheck`); the hash
  opcodes are the executable SHA-1 / RIPEMD-160 / SHA-256.
  The theorems below compose the template verdicts of Part 2 with C03's `Model = Spec` theorem: the
  side conditions of `C03.raw_eq_spec` (script code tokenises, shorter than 2^64, one-byte hash type)
  are PROVED for every template script code; what remains is `FieldsWF tx` (fields in wire range),
  which also yields `(realCtx tx i).SigTotal` for the index `i ≥ 0` (`realCtx_sigTotal`).
  The HASH160 length hypothesis of Part 2 is discharged for the real hashes (Proofs/CryptoLen).
  So: the digest about which Part 1 speaks (`Spec.Sighash.legacySighash`) is the digest the modelled
  `_CheckSig` verifies, and the verdict of the modelled VerifyScript on a template is exactly
  "ECDSA accepts (signature, key, that digest)". -/

section real
open BtcVerif.Model.ScriptEval BtcVerif.Spec.Script BtcVerif.Spec.Templates BtcVerif.C05T
open BtcVerif.Model.ScriptEval.Real

variable (tx : Tx) (i : Nat) (fl : Flags)

/-- the concrete signature check is ECDSA over the reference digest, for every script code that
    tokenises (C03 `raw_eq_spec` composed with the definition of `realSigCheck`) -/
theorem realSigCheck_eq_spec (body key sc : Bytes) (ht : Nat) (hp : parses sc) (hsc : sc.length < 2 ^ 64)
    (hwf : FieldsWF tx) (hht : ht < 256) :
    (realCtx tx (i : Int)).env.sigCheck body key sc ht = ecdsaCheck body key (legacySighash sc tx i ht).1 :=
  real_sigCheck tx i body key sc ht hp hsc hwf hht

/-- the template script codes tokenise (side condition of C03 discharged) -/
theorem template_script_codes_parse :
    (∀ key : Bytes, key.length < 0x4c → parses (p2pkScript key)) ∧
    (∀ h : Bytes, h.length < 0x4c → parses (p2pkhScript h)) ∧
    (∀ (m : Nat) (keys : List Bytes), (∀ k ∈ keys, k.length < 0x4c) → parses (multisigScript m keys)) :=
  ⟨parses_p2pk, parses_p2pkh, parses_multisig⟩

theorem p2pk_verify_real (body : Bytes) (ht : UInt8) (key : Bytes)
    (hfl : fl.admissible = true) (hwf : FieldsWF tx) (hk : key.length < 0x4c) (hs : body.length + 1 < 0x4c)
    (hne : body.length + 1 ≠ key.length) :
    verifyScript (realCtx tx (i : Int)) fl (p2pkScriptSig (body ++ [ht])) (p2pkScript key) =
      if ecdsaCheck body key (legacySighash (p2pkScript key) tx i ht.toNat).1 then .ok () else .error .verify :=
  real_closed tx i (p2pk_verify _ fl body ht key hfl (realCtx_sigTotal tx i hwf) hk hs hne) (parses_p2pk key hk)
    (by rw [length_p2pkScript]; omega) hwf

theorem p2pkh_verify_real (body : Bytes) (ht : UInt8) (key : Bytes)
    (hfl : fl.admissible = true) (hwf : FieldsWF tx) (hk : key.length < 0x4c) (hs : body.length + 1 < 0x4c)
    (hne : body.length + 1 ≠ 20) :
    verifyScript (realCtx tx (i : Int)) fl (p2pkhScriptSig (body ++ [ht]) key) (p2pkhScript (realHashes.hash160 key)) =
      if ecdsaCheck body key (legacySighash (p2pkhScript (realHashes.hash160 key)) tx i ht.toNat).1 then .ok ()
      else .error .verify :=
  real_closed tx i (sc := p2pkhScript (realHashes.hash160 key))
    (p2pkh_verify _ fl body ht key hfl (realCtx_sigTotal tx i hwf) hk hs (real_hash160_length tx i key) hne)
    (parses_p2pkh _ (by rw [realHashes_hash160_length]; decide))
    (by rw [length_p2pkhScript, realHashes_hash160_length]; decide) hwf

/-- multisig: the oracle of the matcher is ECDSA over the reference digest -/
theorem multisig_verify_real (m : Nat) (keys sigs : List Bytes)
    (hfl : fl.admissible = true) (hwf : FieldsWF tx) (hm1 : 1 ≤ m) (hmn : m ≤ keys.length)
    (hn : keys.length ≤ 20) (hsl : sigs.length = m)
    (hk : ∀ k ∈ keys, k.length < 0x4c) (hs : ∀ s ∈ sigs, s.length < 0x4c) (hs1 : ∀ s ∈ sigs, s.length ≠ 1)
    (hne : ∀ s ∈ sigs, ∀ k ∈ keys, s.length ≠ k.length) :
    let chk := chkSig (txEnv realHashes ecdsaCheck tx i) (multisigScript m keys)
    (Matching chk sigs keys →
      verifyScript (realCtx tx (i : Int)) fl (multisigScriptSig sigs) (multisigScript m keys) = .ok ()) ∧
    (¬ Matching chk sigs keys →
      verifyScript (realCtx tx (i : Int)) fl (multisigScriptSig sigs) (multisigScript m keys) = .error .verify) := by
  have := multisig_verify (realCtx tx (i : Int)) fl m keys sigs hfl (realCtx_sigTotal tx i hwf) hm1 hmn hn hsl hk hs hs1 hne
  rwa [real_chkSig_fun tx i (parses_multisig m keys hk) (by have := multisig_length_le m keys hk; omega) hwf] at this

theorem p2sh_p2pk_verify_real (body : Bytes) (ht : UInt8) (key : Bytes)
    (hfl : fl.admissible = true) (hp : fl.p2sh = true) (hwf : FieldsWF tx) (hk : key.length + 2 < 0x4c)
    (hs : body.length + 1 < 0x4c) (hne : body.length + 1 ≠ key.length) :
    verifyScript (realCtx tx (i : Int)) fl (p2shScriptSig (p2pkScriptSig (body ++ [ht])) (p2pkScript key))
        (p2shScript (realHashes.hash160 (p2pkScript key))) =
      if ecdsaCheck body key (legacySighash (p2pkScript key) tx i ht.toNat).1 then .ok () else .error .verify :=
  real_closed tx i
    (p2sh_p2pk_verify _ fl body ht key hfl hp (realCtx_sigTotal tx i hwf) hk hs (real_hash160_length tx i) hne)
    (parses_p2pk key (by omega)) (by rw [length_p2pkScript]; omega) hwf

theorem p2sh_p2pkh_verify_real (body : Bytes) (ht : UInt8) (key : Bytes)
    (hfl : fl.admissible = true) (hp : fl.p2sh = true) (hwf : FieldsWF tx) (hk : key.length < 0x4c)
    (hs : body.length + 1 < 0x4c) (hne : body.length + 1 ≠ 20) :
    let redeem := p2pkhScript (realHashes.hash160 key)
    verifyScript (realCtx tx (i : Int)) fl (p2shScriptSig (p2pkhScriptSig (body ++ [ht]) key) redeem)
        (p2shScript (realHashes.hash160 redeem)) =
      if ecdsaCheck body key (legacySighash redeem tx i ht.toNat).1 then .ok () else .error .verify :=
  real_closed tx i (sc := p2pkhScript (realHashes.hash160 key))
    (p2sh_p2pkh_verify _ fl body ht key hfl hp (realCtx_sigTotal tx i hwf) hk hs (real_hash160_length tx i) hne)
    (parses_p2pkh _ (by rw [realHashes_hash160_length]; decide))
    (by rw [length_p2pkhScript, realHashes_hash160_length]; decide) hwf

theorem p2sh_multisig_verify_real (m : Nat) (keys sigs : List Bytes)
    (hfl : fl.admissible = true) (hp : fl.p2sh = true) (hwf : FieldsWF tx) (hm1 : 1 ≤ m) (hmn : m ≤ keys.length)
    (hn : keys.length ≤ 20) (hsl : sigs.length = m)
    (hk : ∀ k ∈ keys, k.length < 0x4c) (hs : ∀ s ∈ sigs, s.length < 0x4c) (hs1 : ∀ s ∈ sigs, s.length ≠ 1)
    (hne : ∀ s ∈ sigs, ∀ k ∈ keys, s.length ≠ k.length) (hrl : (multisigScript m keys).length ≤ 520) :
    let redeem := multisigScript m keys
    let chk := chkSig (txEnv realHashes ecdsaCheck tx i) redeem
    let spend := verifyScript (realCtx tx (i : Int)) fl (p2shScriptSig (multisigScriptSig sigs) redeem)
      (p2shScript (realHashes.hash160 redeem))
    (Matching chk sigs keys → spend = .ok ()) ∧ (¬ Matching chk sigs keys → spend = .error .verify) := by
  have := p2sh_multisig_verify (realCtx tx (i : Int)) fl m keys sigs hfl hp (realCtx_sigTotal tx i hwf) hm1 hmn hn hsl hk hs
    hs1 hne hrl (real_hash160_length tx i)
  simp only [real_chkSig_fun tx i (parses_multisig m keys hk) (by omega) hwf] at this
  exact this

end real

section realedits
open BtcVerif.Model.ScriptEval BtcVerif.Spec.Script BtcVerif.Spec.Templates BtcVerif.C05T
open BtcVerif.Model.ScriptEval.Real

/-! ### Part 3 for the real environment

  On every template the verdict in the real context equals the verdict in the reference context
  `txCtx realHashes ecdsaCheck tx i` (`*_real_eq_reference`), so the verdict-under-edit theorems of
  Part 3 hold for the model of the library verbatim (`ecdsa := Real.ecdsaCheck`). -/

variable (tx : Tx) (i : Nat) (e : Edit) (fl : Flags)

theorem fieldsWF_of_WFc {t : Tx} (h : WFc t) : FieldsWF t := by
  obtain ⟨a, b, c, d, e, f, g⟩ := h
  refine ⟨a, b, c, d, e, ?_, g⟩
  intro o ho
  obtain ⟨h1, h2, h3⟩ := f o ho
  exact ⟨h1, h2, by unfold maxSize at h3; omega⟩

theorem p2pk_real_eq_reference (body : Bytes) (ht : UInt8) (key : Bytes)
    (hfl : fl.admissible = true) (hwf : FieldsWF tx) (hk : key.length < 0x4c) (hs : body.length + 1 < 0x4c)
    (hne : body.length + 1 ≠ key.length) :
    verifyScript (realCtx tx (i : Int)) fl (p2pkScriptSig (body ++ [ht])) (p2pkScript key) =
      verifyScript (txCtx realHashes ecdsaCheck tx i) fl (p2pkScriptSig (body ++ [ht])) (p2pkScript key) :=
  (p2pk_verify_real tx i fl body ht key hfl hwf hk hs hne).trans
    (p2pk_verify (txCtx realHashes ecdsaCheck tx i) fl body ht key hfl (txCtx_sigTotal ..) hk hs hne).symm

theorem p2pkh_real_eq_reference (body : Bytes) (ht : UInt8) (key : Bytes)
    (hfl : fl.admissible = true) (hwf : FieldsWF tx) (hk : key.length < 0x4c) (hs : body.length + 1 < 0x4c)
    (hne : body.length + 1 ≠ 20) :
    verifyScript (realCtx tx (i : Int)) fl (p2pkhScriptSig (body ++ [ht]) key) (p2pkhScript (realHashes.hash160 key)) =
      verifyScript (txCtx realHashes ecdsaCheck tx i) fl (p2pkhScriptSig (body ++ [ht]) key)
        (p2pkhScript (realHashes.hash160 key)) :=
  (p2pkh_verify_real tx i fl body ht key hfl hwf hk hs hne).trans
    (p2pkh_verify (txCtx realHashes ecdsaCheck tx i) fl body ht key hfl (txCtx_sigTotal ..) hk hs
      (realHashes_hash160_length key) hne).symm

theorem multisig_real_eq_reference (m : Nat) (keys sigs : List Bytes)
    (hfl : fl.admissible = true) (hwf : FieldsWF tx) (hm1 : 1 ≤ m) (hmn : m ≤ keys.length)
    (hn : keys.length ≤ 20) (hsl : sigs.length = m)
    (hk : ∀ k ∈ keys, k.length < 0x4c) (hs : ∀ s ∈ sigs, s.length < 0x4c) (hs1 : ∀ s ∈ sigs, s.length ≠ 1)
    (hne : ∀ s ∈ sigs, ∀ k ∈ keys, s.length ≠ k.length) :
    verifyScript (realCtx tx (i : Int)) fl (multisigScriptSig sigs) (multisigScript m keys) =
      verifyScript (txCtx realHashes ecdsaCheck tx i) fl (multisigScriptSig sigs) (multisigScript m keys) := by
  rw [verify_multisig _ fl hfl (realCtx_sigTotal tx i hwf) m keys sigs hm1 hmn hn hsl hk hs hs1 hne,
    verify_multisig _ fl hfl (txCtx_sigTotal ..) m keys sigs hm1 hmn hn hsl hk hs hs1 hne,
    real_chkSig_fun tx i (parses_multisig m keys hk) (by have := multisig_length_le m keys hk; omega) hwf]
  rfl

theorem p2sh_p2pk_real_eq_reference (body : Bytes) (ht : UInt8) (key : Bytes)
    (hfl : fl.admissible = true) (hp : fl.p2sh = true) (hwf : FieldsWF tx) (hk : key.length + 2 < 0x4c)
    (hs : body.length + 1 < 0x4c) (hne : body.length + 1 ≠ key.length) :
    verifyScript (realCtx tx (i : Int)) fl (p2shScriptSig (p2pkScriptSig (body ++ [ht])) (p2pkScript key))
        (p2shScript (realHashes.hash160 (p2pkScript key))) =
      verifyScript (txCtx realHashes ecdsaCheck tx i) fl (p2shScriptSig (p2pkScriptSig (body ++ [ht])) (p2pkScript key))
        (p2shScript (realHashes.hash160 (p2pkScript key))) :=
  (p2sh_p2pk_verify_real tx i fl body ht key hfl hp hwf hk hs hne).trans
    (p2sh_p2pk_verify (txCtx realHashes ecdsaCheck tx i) fl body ht key hfl hp (txCtx_sigTotal ..) hk hs
      realHashes_hash160_length hne).symm

theorem p2sh_p2pkh_real_eq_reference (body : Bytes) (ht : UInt8) (key : Bytes)
    (hfl : fl.admissible = true) (hp : fl.p2sh = true) (hwf : FieldsWF tx) (hk : key.length < 0x4c)
    (hs : body.length + 1 < 0x4c) (hne : body.length + 1 ≠ 20) :
    let redeem := p2pkhScript (realHashes.hash160 key)
    verifyScript (realCtx tx (i : Int)) fl (p2shScriptSig (p2pkhScriptSig (body ++ [ht]) key) redeem)
        (p2shScript (realHashes.hash160 redeem)) =
      verifyScript (txCtx realHashes ecdsaCheck tx i) fl (p2shScriptSig (p2pkhScriptSig (body ++ [ht]) key) redeem)
        (p2shScript (realHashes.hash160 redeem)) :=
  (p2sh_p2pkh_verify_real tx i fl body ht key hfl hp hwf hk hs hne).trans
    (p2sh_p2pkh_verify (txCtx realHashes ecdsaCheck tx i) fl body ht key hfl hp (txCtx_sigTotal ..) hk hs
      realHashes_hash160_length hne).symm

theorem p2sh_multisig_real_eq_reference (m : Nat) (keys sigs : List Bytes)
    (hfl : fl.admissible = true) (hp : fl.p2sh = true) (hwf : FieldsWF tx) (hm1 : 1 ≤ m) (hmn : m ≤ keys.length)
    (hn : keys.length ≤ 20) (hsl : sigs.length = m)
    (hk : ∀ k ∈ keys, k.length < 0x4c) (hs : ∀ s ∈ sigs, s.length < 0x4c) (hs1 : ∀ s ∈ sigs, s.length ≠ 1)
    (hne : ∀ s ∈ sigs, ∀ k ∈ keys, s.length ≠ k.length) (hrl : (multisigScript m keys).length ≤ 520) :
    let redeem := multisigScript m keys
    verifyScript (realCtx tx (i : Int)) fl (p2shScriptSig (multisigScriptSig sigs) redeem)
        (p2shScript (realHashes.hash160 redeem)) =
      verifyScript (txCtx realHashes ecdsaCheck tx i) fl (p2shScriptSig (multisigScriptSig sigs) redeem)
        (p2shScript (realHashes.hash160 redeem)) := by
  have e1 := verify_p2sh_multisig (realCtx tx (i : Int)) fl hfl (realCtx_sigTotal tx i hwf) hp (real_hash160_length tx i)
    m keys sigs hm1 hmn hn hsl hk hs hs1 hne hrl
  simp only [real_chkSig_fun tx i (parses_multisig m keys hk) (by omega) hwf] at e1
  exact e1.trans (verify_p2sh_multisig (txCtx realHashes ecdsaCheck tx i) fl hfl (txCtx_sigTotal ..) hp realHashes_hash160_length
    m keys sigs hm1 hmn hn hsl hk hs hs1 hne hrl).symm

/-! uncommitted edits, real environment (wire range before and after the edit) -/

theorem p2pk_uncommitted_edit_same_verdict_real (body : Bytes) (ht : UInt8) (key : Bytes)
    (hfl : fl.admissible = true) (hwf : FieldsWF tx) (hwf' : FieldsWF (apply e tx))
    (hk : key.length < 0x4c) (hs : body.length + 1 < 0x4c) (hne : body.length + 1 ≠ key.length)
    (hU : Uncommitted ht.toNat i e = true) (hsafe : insertSafe i e tx = true) :
    verifyScript (realCtx (apply e tx) (i : Int)) fl (p2pkScriptSig (body ++ [ht])) (p2pkScript key) =
      verifyScript (realCtx tx (i : Int)) fl (p2pkScriptSig (body ++ [ht])) (p2pkScript key) := by
  rw [p2pk_real_eq_reference _ i fl body ht key hfl hwf' hk hs hne,
    p2pk_real_eq_reference _ i fl body ht key hfl hwf hk hs hne]
  exact p2pk_uncommitted_edit_same_verdict realHashes ecdsaCheck tx i e fl body ht key hfl hk hs hne hU hsafe

theorem p2pkh_uncommitted_edit_same_verdict_real (body : Bytes) (ht : UInt8) (key : Bytes)
    (hfl : fl.admissible = true) (hwf : FieldsWF tx) (hwf' : FieldsWF (apply e tx))
    (hk : key.length < 0x4c) (hs : body.length + 1 < 0x4c) (hne : body.length + 1 ≠ 20)
    (hU : Uncommitted ht.toNat i e = true) (hsafe : insertSafe i e tx = true) :
    verifyScript (realCtx (apply e tx) (i : Int)) fl (p2pkhScriptSig (body ++ [ht]) key)
        (p2pkhScript (realHashes.hash160 key)) =
      verifyScript (realCtx tx (i : Int)) fl (p2pkhScriptSig (body ++ [ht]) key)
        (p2pkhScript (realHashes.hash160 key)) := by
  rw [p2pkh_real_eq_reference _ i fl body ht key hfl hwf' hk hs hne,
    p2pkh_real_eq_reference _ i fl body ht key hfl hwf hk hs hne]
  exact p2pkh_uncommitted_edit_same_verdict realHashes ecdsaCheck tx i e fl body ht key hfl hk hs
    (realHashes_hash160_length key) hne hU hsafe

theorem multisig_uncommitted_edit_same_verdict_real (m : Nat) (keys sigs : List Bytes)
    (hfl : fl.admissible = true) (hwf : FieldsWF tx) (hwf' : FieldsWF (apply e tx))
    (hm1 : 1 ≤ m) (hmn : m ≤ keys.length) (hn : keys.length ≤ 20)
    (hsl : sigs.length = m) (hk : ∀ k ∈ keys, k.length < 0x4c) (hs : ∀ s ∈ sigs, s.length < 0x4c)
    (hs1 : ∀ s ∈ sigs, s.length ≠ 1) (hne : ∀ s ∈ sigs, ∀ k ∈ keys, s.length ≠ k.length)
    (hU : ∀ s ∈ sigs, ∀ ht, s.getLast? = some ht → Uncommitted ht.toNat i e = true)
    (hsafe : insertSafe i e tx = true) :
    verifyScript (realCtx (apply e tx) (i : Int)) fl (multisigScriptSig sigs) (multisigScript m keys) =
      verifyScript (realCtx tx (i : Int)) fl (multisigScriptSig sigs) (multisigScript m keys) := by
  rw [multisig_real_eq_reference _ i fl m keys sigs hfl hwf' hm1 hmn hn hsl hk hs hs1 hne,
    multisig_real_eq_reference _ i fl m keys sigs hfl hwf hm1 hmn hn hsl hk hs hs1 hne]
  exact multisig_uncommitted_edit_same_verdict realHashes ecdsaCheck tx i e fl m keys sigs hfl hm1 hmn hn hsl hk hs
    hs1 hne hU hsafe

theorem p2sh_p2pk_uncommitted_edit_same_verdict_real (body : Bytes) (ht : UInt8) (key : Bytes)
    (hfl : fl.admissible = true) (hp : fl.p2sh = true) (hwf : FieldsWF tx) (hwf' : FieldsWF (apply e tx))
    (hk : key.length + 2 < 0x4c) (hs : body.length + 1 < 0x4c) (hne : body.length + 1 ≠ key.length)
    (hU : Uncommitted ht.toNat i e = true) (hsafe : insertSafe i e tx = true) :
    verifyScript (realCtx (apply e tx) (i : Int)) fl
        (p2shScriptSig (p2pkScriptSig (body ++ [ht])) (p2pkScript key)) (p2shScript (realHashes.hash160 (p2pkScript key))) =
      verifyScript (realCtx tx (i : Int)) fl
        (p2shScriptSig (p2pkScriptSig (body ++ [ht])) (p2pkScript key)) (p2shScript (realHashes.hash160 (p2pkScript key))) := by
  rw [p2sh_p2pk_real_eq_reference _ i fl body ht key hfl hp hwf' hk hs hne,
    p2sh_p2pk_real_eq_reference _ i fl body ht key hfl hp hwf hk hs hne]
  exact p2sh_p2pk_uncommitted_edit_same_verdict realHashes ecdsaCheck tx i e fl body ht key hfl hp hk hs
    realHashes_hash160_length hne hU hsafe

theorem p2sh_p2pkh_uncommitted_edit_same_verdict_real (body : Bytes) (ht : UInt8) (key : Bytes)
    (hfl : fl.admissible = true) (hp : fl.p2sh = true) (hwf : FieldsWF tx) (hwf' : FieldsWF (apply e tx))
    (hk : key.length < 0x4c) (hs : body.length + 1 < 0x4c) (hne : body.length + 1 ≠ 20)
    (hU : Uncommitted ht.toNat i e = true) (hsafe : insertSafe i e tx = true) :
    let redeem := p2pkhScript (realHashes.hash160 key)
    verifyScript (realCtx (apply e tx) (i : Int)) fl (p2shScriptSig (p2pkhScriptSig (body ++ [ht]) key) redeem)
        (p2shScript (realHashes.hash160 redeem)) =
      verifyScript (realCtx tx (i : Int)) fl (p2shScriptSig (p2pkhScriptSig (body ++ [ht]) key) redeem)
        (p2shScript (realHashes.hash160 redeem)) :=
  (p2sh_p2pkh_real_eq_reference (apply e tx) i fl body ht key hfl hp hwf' hk hs hne).trans
    ((p2sh_p2pkh_uncommitted_edit_same_verdict realHashes ecdsaCheck tx i e fl body ht key hfl hp hk hs
      realHashes_hash160_length hne hU hsafe).trans
      (p2sh_p2pkh_real_eq_reference tx i fl body ht key hfl hp hwf hk hs hne).symm)

theorem p2sh_multisig_uncommitted_edit_same_verdict_real (m : Nat) (keys sigs : List Bytes)
    (hfl : fl.admissible = true) (hp : fl.p2sh = true) (hwf : FieldsWF tx) (hwf' : FieldsWF (apply e tx))
    (hm1 : 1 ≤ m) (hmn : m ≤ keys.length) (hn : keys.length ≤ 20) (hsl : sigs.length = m)
    (hk : ∀ k ∈ keys, k.length < 0x4c) (hs : ∀ s ∈ sigs, s.length < 0x4c) (hs1 : ∀ s ∈ sigs, s.length ≠ 1)
    (hne : ∀ s ∈ sigs, ∀ k ∈ keys, s.length ≠ k.length) (hrl : (multisigScript m keys).length ≤ 520)
    (hU : ∀ s ∈ sigs, ∀ ht, s.getLast? = some ht → Uncommitted ht.toNat i e = true)
    (hsafe : insertSafe i e tx = true) :
    let redeem := multisigScript m keys
    verifyScript (realCtx (apply e tx) (i : Int)) fl (p2shScriptSig (multisigScriptSig sigs) redeem)
        (p2shScript (realHashes.hash160 redeem)) =
      verifyScript (realCtx tx (i : Int)) fl (p2shScriptSig (multisigScriptSig sigs) redeem)
        (p2shScript (realHashes.hash160 redeem)) :=
  (p2sh_multisig_real_eq_reference (apply e tx) i fl m keys sigs hfl hp hwf' hm1 hmn hn hsl hk hs hs1 hne hrl).trans
    ((p2sh_multisig_uncommitted_edit_same_verdict realHashes ecdsaCheck tx i e fl m keys sigs hfl hp hm1 hmn hn hsl
      hk hs hs1 hne hrl realHashes_hash160_length hU hsafe).trans
      (p2sh_multisig_real_eq_reference tx i fl m keys sigs hfl hp hwf hm1 hmn hn hsl hk hs hs1 hne hrl).symm)

/-! committed edits, real environment: `hunf` speaks about the real verifier `Real.ecdsaCheck`
    (same remark: composition of `committed_edit_changes_digest` with the template's closed form) -/

theorem p2pk_committed_edit_rejects_real (body : Bytes) (ht : UInt8) (key : Bytes)
    (hfl : fl.admissible = true) (hk : key.length < 0x4c) (hs : body.length + 1 < 0x4c)
    (hne : body.length + 1 ≠ key.length)
    (hC : Committed ht.toNat i e = true) (hch : changes ht.toNat i e tx)
    (wf : WFc tx) (wf' : WFc (apply e tx)) (hr : Regular ht.toNat i tx) (hr' : Regular ht.toNat i (apply e tx))
    (hcr : Crypto.hash256 (legacyPreimage (p2pkScript key) (apply e tx) i ht.toNat) =
             Crypto.hash256 (legacyPreimage (p2pkScript key) tx i ht.toNat) →
           legacyPreimage (p2pkScript key) (apply e tx) i ht.toNat = legacyPreimage (p2pkScript key) tx i ht.toNat)
    (hunf : (legacySighash (p2pkScript key) (apply e tx) i ht.toNat).1 ≠ (legacySighash (p2pkScript key) tx i ht.toNat).1 →
      ecdsaCheck body key (legacySighash (p2pkScript key) (apply e tx) i ht.toNat).1 = false) :
    verifyScript (realCtx (apply e tx) (i : Int)) fl (p2pkScriptSig (body ++ [ht])) (p2pkScript key) =
      .error .verify := by
  rw [p2pk_real_eq_reference _ i fl body ht key hfl (fieldsWF_of_WFc wf') hk hs hne]
  exact p2pk_committed_edit_rejects realHashes ecdsaCheck tx i e fl body ht key hfl hk hs hne hC hch wf wf' hr hr'
    hcr hunf

theorem p2pkh_committed_edit_rejects_real (body : Bytes) (ht : UInt8) (key : Bytes)
    (hfl : fl.admissible = true) (hk : key.length < 0x4c) (hs : body.length + 1 < 0x4c) (hne : body.length + 1 ≠ 20)
    (hC : Committed ht.toNat i e = true) (hch : changes ht.toNat i e tx)
    (wf : WFc tx) (wf' : WFc (apply e tx)) (hr : Regular ht.toNat i tx) (hr' : Regular ht.toNat i (apply e tx))
    (hcr : Crypto.hash256 (legacyPreimage (p2pkhScript (realHashes.hash160 key)) (apply e tx) i ht.toNat) =
             Crypto.hash256 (legacyPreimage (p2pkhScript (realHashes.hash160 key)) tx i ht.toNat) →
           legacyPreimage (p2pkhScript (realHashes.hash160 key)) (apply e tx) i ht.toNat =
             legacyPreimage (p2pkhScript (realHashes.hash160 key)) tx i ht.toNat)
    (hunf : (legacySighash (p2pkhScript (realHashes.hash160 key)) (apply e tx) i ht.toNat).1 ≠
        (legacySighash (p2pkhScript (realHashes.hash160 key)) tx i ht.toNat).1 →
      ecdsaCheck body key (legacySighash (p2pkhScript (realHashes.hash160 key)) (apply e tx) i ht.toNat).1 = false) :
    verifyScript (realCtx (apply e tx) (i : Int)) fl (p2pkhScriptSig (body ++ [ht]) key)
        (p2pkhScript (realHashes.hash160 key)) = .error .verify := by
  rw [p2pkh_real_eq_reference _ i fl body ht key hfl (fieldsWF_of_WFc wf') hk hs hne]
  exact p2pkh_committed_edit_rejects realHashes ecdsaCheck tx i e fl body ht key hfl hk hs
    (realHashes_hash160_length key) hne hC hch wf wf' hr hr' hcr hunf

theorem multisig_committed_edit_rejects_real (m : Nat) (keys sigs : List Bytes)
    (hfl : fl.admissible = true) (hm1 : 1 ≤ m) (hmn : m ≤ keys.length) (hn : keys.length ≤ 20)
    (hsl : sigs.length = m) (hk : ∀ k ∈ keys, k.length < 0x4c) (hs : ∀ s ∈ sigs, s.length < 0x4c)
    (hs1 : ∀ s ∈ sigs, s.length ≠ 1) (hne : ∀ s ∈ sigs, ∀ k ∈ keys, s.length ≠ k.length)
    (wf : WFc tx) (wf' : WFc (apply e tx))
    (hB : ∀ s ∈ sigs, ∀ ht, s.getLast? = some ht →
      Committed ht.toNat i e = true ∧ changes ht.toNat i e tx ∧ Regular ht.toNat i tx ∧
      Regular ht.toNat i (apply e tx) ∧
      (Crypto.hash256 (legacyPreimage (multisigScript m keys) (apply e tx) i ht.toNat) =
          Crypto.hash256 (legacyPreimage (multisigScript m keys) tx i ht.toNat) →
        legacyPreimage (multisigScript m keys) (apply e tx) i ht.toNat =
          legacyPreimage (multisigScript m keys) tx i ht.toNat) ∧
      (∀ k ∈ keys, (legacySighash (multisigScript m keys) (apply e tx) i ht.toNat).1 ≠
          (legacySighash (multisigScript m keys) tx i ht.toNat).1 →
        ecdsaCheck s.dropLast k (legacySighash (multisigScript m keys) (apply e tx) i ht.toNat).1 = false)) :
    verifyScript (realCtx (apply e tx) (i : Int)) fl (multisigScriptSig sigs) (multisigScript m keys) =
      .error .verify := by
  rw [multisig_real_eq_reference _ i fl m keys sigs hfl (fieldsWF_of_WFc wf') hm1 hmn hn hsl hk hs hs1 hne]
  exact multisig_committed_edit_rejects realHashes ecdsaCheck tx i e fl m keys sigs hfl hm1 hmn hn hsl hk hs hs1 hne
    wf wf' hB

theorem p2sh_p2pk_committed_edit_rejects_real (body : Bytes) (ht : UInt8) (key : Bytes)
    (hfl : fl.admissible = true) (hp : fl.p2sh = true) (hk : key.length + 2 < 0x4c) (hs : body.length + 1 < 0x4c)
    (hne : body.length + 1 ≠ key.length)
    (hC : Committed ht.toNat i e = true) (hch : changes ht.toNat i e tx)
    (wf : WFc tx) (wf' : WFc (apply e tx)) (hr : Regular ht.toNat i tx) (hr' : Regular ht.toNat i (apply e tx))
    (hcr : Crypto.hash256 (legacyPreimage (p2pkScript key) (apply e tx) i ht.toNat) =
             Crypto.hash256 (legacyPreimage (p2pkScript key) tx i ht.toNat) →
           legacyPreimage (p2pkScript key) (apply e tx) i ht.toNat = legacyPreimage (p2pkScript key) tx i ht.toNat)
    (hunf : (legacySighash (p2pkScript key) (apply e tx) i ht.toNat).1 ≠ (legacySighash (p2pkScript key) tx i ht.toNat).1 →
      ecdsaCheck body key (legacySighash (p2pkScript key) (apply e tx) i ht.toNat).1 = false) :
    verifyScript (realCtx (apply e tx) (i : Int)) fl
        (p2shScriptSig (p2pkScriptSig (body ++ [ht])) (p2pkScript key)) (p2shScript (realHashes.hash160 (p2pkScript key))) =
      .error .verify := by
  rw [p2sh_p2pk_real_eq_reference _ i fl body ht key hfl hp (fieldsWF_of_WFc wf') hk hs hne]
  exact p2sh_p2pk_committed_edit_rejects realHashes ecdsaCheck tx i e fl body ht key hfl hp hk hs
    realHashes_hash160_length hne hC hch wf wf' hr hr' hcr hunf

theorem p2sh_p2pkh_committed_edit_rejects_real (body : Bytes) (ht : UInt8) (key : Bytes)
    (hfl : fl.admissible = true) (hp : fl.p2sh = true) (hk : key.length < 0x4c) (hs : body.length + 1 < 0x4c)
    (hne : body.length + 1 ≠ 20)
    (hC : Committed ht.toNat i e = true) (hch : changes ht.toNat i e tx)
    (wf : WFc tx) (wf' : WFc (apply e tx)) (hr : Regular ht.toNat i tx) (hr' : Regular ht.toNat i (apply e tx))
    (hcr : Crypto.hash256 (legacyPreimage (p2pkhScript (realHashes.hash160 key)) (apply e tx) i ht.toNat) =
             Crypto.hash256 (legacyPreimage (p2pkhScript (realHashes.hash160 key)) tx i ht.toNat) →
           legacyPreimage (p2pkhScript (realHashes.hash160 key)) (apply e tx) i ht.toNat =
             legacyPreimage (p2pkhScript (realHashes.hash160 key)) tx i ht.toNat)
    (hunf : (legacySighash (p2pkhScript (realHashes.hash160 key)) (apply e tx) i ht.toNat).1 ≠
        (legacySighash (p2pkhScript (realHashes.hash160 key)) tx i ht.toNat).1 →
      ecdsaCheck body key (legacySighash (p2pkhScript (realHashes.hash160 key)) (apply e tx) i ht.toNat).1 = false) :
    let redeem := p2pkhScript (realHashes.hash160 key)
    verifyScript (realCtx (apply e tx) (i : Int)) fl (p2shScriptSig (p2pkhScriptSig (body ++ [ht]) key) redeem)
        (p2shScript (realHashes.hash160 redeem)) = .error .verify :=
  (p2sh_p2pkh_real_eq_reference (apply e tx) i fl body ht key hfl hp (fieldsWF_of_WFc wf') hk hs hne).trans
    (p2sh_p2pkh_committed_edit_rejects realHashes ecdsaCheck tx i e fl body ht key hfl hp hk hs
      realHashes_hash160_length hne hC hch wf wf' hr hr' hcr hunf)

theorem p2sh_multisig_committed_edit_rejects_real (m : Nat) (keys sigs : List Bytes)
    (hfl : fl.admissible = true) (hp : fl.p2sh = true) (hm1 : 1 ≤ m) (hmn : m ≤ keys.length)
    (hn : keys.length ≤ 20) (hsl : sigs.length = m) (hk : ∀ k ∈ keys, k.length < 0x4c)
    (hs : ∀ s ∈ sigs, s.length < 0x4c) (hs1 : ∀ s ∈ sigs, s.length ≠ 1)
    (hne : ∀ s ∈ sigs, ∀ k ∈ keys, s.length ≠ k.length) (hrl : (multisigScript m keys).length ≤ 520)
    (wf : WFc tx) (wf' : WFc (apply e tx))
    (hB : ∀ s ∈ sigs, ∀ ht, s.getLast? = some ht →
      Committed ht.toNat i e = true ∧ changes ht.toNat i e tx ∧ Regular ht.toNat i tx ∧
      Regular ht.toNat i (apply e tx) ∧
      (Crypto.hash256 (legacyPreimage (multisigScript m keys) (apply e tx) i ht.toNat) =
          Crypto.hash256 (legacyPreimage (multisigScript m keys) tx i ht.toNat) →
        legacyPreimage (multisigScript m keys) (apply e tx) i ht.toNat =
          legacyPreimage (multisigScript m keys) tx i ht.toNat) ∧
      (∀ k ∈ keys, (legacySighash (multisigScript m keys) (apply e tx) i ht.toNat).1 ≠
          (legacySighash (multisigScript m keys) tx i ht.toNat).1 →
        ecdsaCheck s.dropLast k (legacySighash (multisigScript m keys) (apply e tx) i ht.toNat).1 = false)) :
    let redeem := multisigScript m keys
    verifyScript (realCtx (apply e tx) (i : Int)) fl (p2shScriptSig (multisigScriptSig sigs) redeem)
        (p2shScript (realHashes.hash160 redeem)) = .error .verify :=
  (p2sh_multisig_real_eq_reference (apply e tx) i fl m keys sigs hfl hp (fieldsWF_of_WFc wf') hm1 hmn hn hsl
    hk hs hs1 hne hrl).trans
    (p2sh_multisig_committed_edit_rejects realHashes ecdsaCheck tx i e fl m keys sigs hfl hp hm1 hmn hn hsl hk hs
      hs1 hne hrl realHashes_hash160_length wf wf' hB)

/-! accepted before ∧ rejected after, real environment -/

theorem p2pk_committed_edit_flips_real (body : Bytes) (ht : UInt8) (key : Bytes)
    (hfl : fl.admissible = true) (hk : key.length < 0x4c) (hs : body.length + 1 < 0x4c)
    (hne : body.length + 1 ≠ key.length)
    (hC : Committed ht.toNat i e = true) (hch : changes ht.toNat i e tx)
    (wf : WFc tx) (wf' : WFc (apply e tx)) (hr : Regular ht.toNat i tx) (hr' : Regular ht.toNat i (apply e tx))
    (hcr : Crypto.hash256 (legacyPreimage (p2pkScript key) (apply e tx) i ht.toNat) =
             Crypto.hash256 (legacyPreimage (p2pkScript key) tx i ht.toNat) →
           legacyPreimage (p2pkScript key) (apply e tx) i ht.toNat = legacyPreimage (p2pkScript key) tx i ht.toNat)
    (hunf : (legacySighash (p2pkScript key) (apply e tx) i ht.toNat).1 ≠ (legacySighash (p2pkScript key) tx i ht.toNat).1 →
      ecdsaCheck body key (legacySighash (p2pkScript key) (apply e tx) i ht.toNat).1 = false)
    (horacle : ecdsaCheck body key (legacySighash (p2pkScript key) tx i ht.toNat).1 = true) :
    (verifyScript (realCtx tx (i : Int)) fl (p2pkScriptSig (body ++ [ht])) (p2pkScript key) = .ok ()) ∧
    (verifyScript (realCtx (apply e tx) (i : Int)) fl (p2pkScriptSig (body ++ [ht])) (p2pkScript key) =
      .error .verify) :=
  ⟨verdict_true (p2pk_verify_real tx i fl body ht key hfl (fieldsWF_of_WFc wf) hk hs hne) horacle,
    p2pk_committed_edit_rejects_real tx i e fl body ht key hfl hk hs hne hC hch wf wf' hr hr' hcr hunf⟩

theorem p2pkh_committed_edit_flips_real (body : Bytes) (ht : UInt8) (key : Bytes)
    (hfl : fl.admissible = true) (hk : key.length < 0x4c) (hs : body.length + 1 < 0x4c) (hne : body.length + 1 ≠ 20)
    (hC : Committed ht.toNat i e = true) (hch : changes ht.toNat i e tx)
    (wf : WFc tx) (wf' : WFc (apply e tx)) (hr : Regular ht.toNat i tx) (hr' : Regular ht.toNat i (apply e tx))
    (hcr : Crypto.hash256 (legacyPreimage (p2pkhScript (realHashes.hash160 key)) (apply e tx) i ht.toNat) =
             Crypto.hash256 (legacyPreimage (p2pkhScript (realHashes.hash160 key)) tx i ht.toNat) →
           legacyPreimage (p2pkhScript (realHashes.hash160 key)) (apply e tx) i ht.toNat =
             legacyPreimage (p2pkhScript (realHashes.hash160 key)) tx i ht.toNat)
    (hunf : (legacySighash (p2pkhScript (realHashes.hash160 key)) (apply e tx) i ht.toNat).1 ≠
        (legacySighash (p2pkhScript (realHashes.hash160 key)) tx i ht.toNat).1 →
      ecdsaCheck body key (legacySighash (p2pkhScript (realHashes.hash160 key)) (apply e tx) i ht.toNat).1 = false)
    (horacle : ecdsaCheck body key (legacySighash (p2pkhScript (realHashes.hash160 key)) tx i ht.toNat).1 = true) :
    (verifyScript (realCtx tx (i : Int)) fl (p2pkhScriptSig (body ++ [ht]) key)
        (p2pkhScript (realHashes.hash160 key)) = .ok ()) ∧
    (verifyScript (realCtx (apply e tx) (i : Int)) fl (p2pkhScriptSig (body ++ [ht]) key)
        (p2pkhScript (realHashes.hash160 key)) = .error .verify) :=
  ⟨verdict_true (p2pkh_verify_real tx i fl body ht key hfl (fieldsWF_of_WFc wf) hk hs hne) horacle,
    p2pkh_committed_edit_rejects_real tx i e fl body ht key hfl hk hs hne hC hch wf wf' hr hr' hcr hunf⟩

theorem multisig_committed_edit_flips_real (m : Nat) (keys sigs : List Bytes)
    (hfl : fl.admissible = true) (hm1 : 1 ≤ m) (hmn : m ≤ keys.length) (hn : keys.length ≤ 20)
    (hsl : sigs.length = m) (hk : ∀ k ∈ keys, k.length < 0x4c) (hs : ∀ s ∈ sigs, s.length < 0x4c)
    (hs1 : ∀ s ∈ sigs, s.length ≠ 1) (hne : ∀ s ∈ sigs, ∀ k ∈ keys, s.length ≠ k.length)
    (wf : WFc tx) (wf' : WFc (apply e tx))
    (hB : ∀ s ∈ sigs, ∀ ht, s.getLast? = some ht →
      Committed ht.toNat i e = true ∧ changes ht.toNat i e tx ∧ Regular ht.toNat i tx ∧
      Regular ht.toNat i (apply e tx) ∧
      (Crypto.hash256 (legacyPreimage (multisigScript m keys) (apply e tx) i ht.toNat) =
          Crypto.hash256 (legacyPreimage (multisigScript m keys) tx i ht.toNat) →
        legacyPreimage (multisigScript m keys) (apply e tx) i ht.toNat =
          legacyPreimage (multisigScript m keys) tx i ht.toNat) ∧
      (∀ k ∈ keys, (legacySighash (multisigScript m keys) (apply e tx) i ht.toNat).1 ≠
          (legacySighash (multisigScript m keys) tx i ht.toNat).1 →
        ecdsaCheck s.dropLast k (legacySighash (multisigScript m keys) (apply e tx) i ht.toNat).1 = false))
    (horacle : Matching (chkSig (txEnv realHashes ecdsaCheck tx i) (multisigScript m keys)) sigs keys) :
    (verifyScript (realCtx tx (i : Int)) fl (multisigScriptSig sigs) (multisigScript m keys) = .ok ()) ∧
    (verifyScript (realCtx (apply e tx) (i : Int)) fl (multisigScriptSig sigs) (multisigScript m keys) =
      .error .verify) :=
  ⟨(multisig_verify_real tx i fl m keys sigs hfl (fieldsWF_of_WFc wf) hm1 hmn hn hsl hk hs hs1 hne).1 horacle,
    multisig_committed_edit_rejects_real tx i e fl m keys sigs hfl hm1 hmn hn hsl hk hs hs1 hne wf wf' hB⟩

theorem p2sh_p2pk_committed_edit_flips_real (body : Bytes) (ht : UInt8) (key : Bytes)
    (hfl : fl.admissible = true) (hp : fl.p2sh = true) (hk : key.length + 2 < 0x4c) (hs : body.length + 1 < 0x4c)
    (hne : body.length + 1 ≠ key.length)
    (hC : Committed ht.toNat i e = true) (hch : changes ht.toNat i e tx)
    (wf : WFc tx) (wf' : WFc (apply e tx)) (hr : Regular ht.toNat i tx) (hr' : Regular ht.toNat i (apply e tx))
    (hcr : Crypto.hash256 (legacyPreimage (p2pkScript key) (apply e tx) i ht.toNat) =
             Crypto.hash256 (legacyPreimage (p2pkScript key) tx i ht.toNat) →
           legacyPreimage (p2pkScript key) (apply e tx) i ht.toNat = legacyPreimage (p2pkScript key) tx i ht.toNat)
    (hunf : (legacySighash (p2pkScript key) (apply e tx) i ht.toNat).1 ≠ (legacySighash (p2pkScript key) tx i ht.toNat).1 →
      ecdsaCheck body key (legacySighash (p2pkScript key) (apply e tx) i ht.toNat).1 = false)
    (horacle : ecdsaCheck body key (legacySighash (p2pkScript key) tx i ht.toNat).1 = true) :
    (verifyScript (realCtx tx (i : Int)) fl
        (p2shScriptSig (p2pkScriptSig (body ++ [ht])) (p2pkScript key)) (p2shScript (realHashes.hash160 (p2pkScript key))) = .ok ()) ∧
    (verifyScript (realCtx (apply e tx) (i : Int)) fl
        (p2shScriptSig (p2pkScriptSig (body ++ [ht])) (p2pkScript key)) (p2shScript (realHashes.hash160 (p2pkScript key))) =
      .error .verify) :=
  ⟨verdict_true (p2sh_p2pk_verify_real tx i fl body ht key hfl hp (fieldsWF_of_WFc wf) hk hs hne) horacle,
    p2sh_p2pk_committed_edit_rejects_real tx i e fl body ht key hfl hp hk hs hne hC hch wf wf' hr hr' hcr hunf⟩

theorem p2sh_p2pkh_committed_edit_flips_real (body : Bytes) (ht : UInt8) (key : Bytes)
    (hfl : fl.admissible = true) (hp : fl.p2sh = true) (hk : key.length < 0x4c) (hs : body.length + 1 < 0x4c)
    (hne : body.length + 1 ≠ 20)
    (hC : Committed ht.toNat i e = true) (hch : changes ht.toNat i e tx)
    (wf : WFc tx) (wf' : WFc (apply e tx)) (hr : Regular ht.toNat i tx) (hr' : Regular ht.toNat i (apply e tx))
    (hcr : Crypto.hash256 (legacyPreimage (p2pkhScript (realHashes.hash160 key)) (apply e tx) i ht.toNat) =
             Crypto.hash256 (legacyPreimage (p2pkhScript (realHashes.hash160 key)) tx i ht.toNat) →
           legacyPreimage (p2pkhScript (realHashes.hash160 key)) (apply e tx) i ht.toNat =
             legacyPreimage (p2pkhScript (realHashes.hash160 key)) tx i ht.toNat)
    (hunf : (legacySighash (p2pkhScript (realHashes.hash160 key)) (apply e tx) i ht.toNat).1 ≠
        (legacySighash (p2pkhScript (realHashes.hash160 key)) tx i ht.toNat).1 →
      ecdsaCheck body key (legacySighash (p2pkhScript (realHashes.hash160 key)) (apply e tx) i ht.toNat).1 = false)
    (horacle : ecdsaCheck body key (legacySighash (p2pkhScript (realHashes.hash160 key)) tx i ht.toNat).1 = true) :
    let redeem := p2pkhScript (realHashes.hash160 key)
    (verifyScript (realCtx tx (i : Int)) fl (p2shScriptSig (p2pkhScriptSig (body ++ [ht]) key) redeem)
        (p2shScript (realHashes.hash160 redeem)) = .ok ()) ∧
    (verifyScript (realCtx (apply e tx) (i : Int)) fl (p2shScriptSig (p2pkhScriptSig (body ++ [ht]) key) redeem)
        (p2shScript (realHashes.hash160 redeem)) = .error .verify) :=
  ⟨verdict_true (p2sh_p2pkh_verify_real tx i fl body ht key hfl hp (fieldsWF_of_WFc wf) hk hs hne) horacle,
    p2sh_p2pkh_committed_edit_rejects_real tx i e fl body ht key hfl hp hk hs hne hC hch wf wf' hr hr' hcr hunf⟩

theorem p2sh_multisig_committed_edit_flips_real (m : Nat) (keys sigs : List Bytes)
    (hfl : fl.admissible = true) (hp : fl.p2sh = true) (hm1 : 1 ≤ m) (hmn : m ≤ keys.length)
    (hn : keys.length ≤ 20) (hsl : sigs.length = m) (hk : ∀ k ∈ keys, k.length < 0x4c)
    (hs : ∀ s ∈ sigs, s.length < 0x4c) (hs1 : ∀ s ∈ sigs, s.length ≠ 1)
    (hne : ∀ s ∈ sigs, ∀ k ∈ keys, s.length ≠ k.length) (hrl : (multisigScript m keys).length ≤ 520)
    (wf : WFc tx) (wf' : WFc (apply e tx))
    (hB : ∀ s ∈ sigs, ∀ ht, s.getLast? = some ht →
      Committed ht.toNat i e = true ∧ changes ht.toNat i e tx ∧ Regular ht.toNat i tx ∧
      Regular ht.toNat i (apply e tx) ∧
      (Crypto.hash256 (legacyPreimage (multisigScript m keys) (apply e tx) i ht.toNat) =
          Crypto.hash256 (legacyPreimage (multisigScript m keys) tx i ht.toNat) →
        legacyPreimage (multisigScript m keys) (apply e tx) i ht.toNat =
          legacyPreimage (multisigScript m keys) tx i ht.toNat) ∧
      (∀ k ∈ keys, (legacySighash (multisigScript m keys) (apply e tx) i ht.toNat).1 ≠
          (legacySighash (multisigScript m keys) tx i ht.toNat).1 →
        ecdsaCheck s.dropLast k (legacySighash (multisigScript m keys) (apply e tx) i ht.toNat).1 = false))
    (horacle : Matching (chkSig (txEnv realHashes ecdsaCheck tx i) (multisigScript m keys)) sigs keys) :
    let redeem := multisigScript m keys
    (verifyScript (realCtx tx (i : Int)) fl (p2shScriptSig (multisigScriptSig sigs) redeem)
        (p2shScript (realHashes.hash160 redeem)) = .ok ()) ∧
    (verifyScript (realCtx (apply e tx) (i : Int)) fl (p2shScriptSig (multisigScriptSig sigs) redeem)
        (p2shScript (realHashes.hash160 redeem)) = .error .verify) :=
  ⟨(p2sh_multisig_verify_real tx i fl m keys sigs hfl hp (fieldsWF_of_WFc wf) hm1 hmn hn hsl hk hs hs1 hne hrl).1 horacle,
    p2sh_multisig_committed_edit_rejects_real tx i e fl m keys sigs hfl hp hm1 hmn hn hsl hk hs hs1 hne hrl wf wf' hB⟩

end realedits

/-! ### non-vacuity of Parts 2 and 3 -/

section examples
open BtcVerif.Model.ScriptEval BtcVerif.Spec.Script BtcVerif.Spec.Templates BtcVerif.C05T

/-- a toy oracle: "signature j was made by key j" is read off the second byte -/
def exEnv : Env :=
  { hashes := { sha1 := fun _ => [], ripemd160 := fun _ => List.replicate 20 7, sha256 := fun x => x }
    sigCheck := fun body key _ _ => body[1]? == key[1]? }
def exCtx : Ctx :=
  { hashes := exEnv.hashes, sigHash := fun _ _ => .ok [], sigVerify := fun body key _ => body[1]? == key[1]? }
theorem exCtx_total : exCtx.SigTotal := ⟨fun _ _ _ _ _ => ⟨_, rfl⟩⟩
def exKey (j : UInt8) : Bytes := 2 :: List.replicate 32 j
def exBody (j : UInt8) : Bytes := 0x30 :: j :: List.replicate 68 0
def exFlags : Flags := { p2sh := true, nullDummy := true, cleanStack := true, discourageNops := false }

example : verifyScript exCtx exFlags (p2pkScriptSig (exBody 5 ++ [0x83])) (p2pkScript (exKey 5)) = .ok () :=
  template_accepts_p2pk exCtx exFlags (exBody 5) 0x83 (exKey 5) (by decide) exCtx_total (by decide) (by decide)
    (by decide) (by decide)

example : verifyScript exCtx exFlags (p2pkScriptSig (exBody 6 ++ [0x83])) (p2pkScript (exKey 5)) = .error .verify :=
  template_rejects_wrong_key_p2pk exCtx exFlags (exBody 6) 0x83 (exKey 5) (by decide) exCtx_total (by decide)
    (by decide) (by decide) (by decide)

example : verifyScript exCtx exFlags (p2pkhScriptSig (exBody 5 ++ [1]) (exKey 5))
    (p2pkhScript (exEnv.hashes.hash160 (exKey 5))) = .ok () :=
  template_accepts_p2pkh exCtx exFlags (exBody 5) 1 (exKey 5) (by decide) exCtx_total (by decide) (by decide)
    (by decide) (by decide) (by decide)

/-- 2-of-3 with the signatures of keys 1 and 3, in key order: accepted … -/
example : verifyScript exCtx exFlags (multisigScriptSig [exBody 1 ++ [1], exBody 3 ++ [2]])
    (multisigScript 2 [exKey 1, exKey 2, exKey 3]) = .ok () :=
  template_accepts_multisig exCtx exFlags 2 [exKey 1, exKey 2, exKey 3] [exBody 1 ++ [1], exBody 3 ++ [2]]
    (by decide) exCtx_total (by decide) (by decide) (by decide) (by decide) (by decide) (by decide) (by decide)
    (by decide) (.take (by decide) (.skip (.take (by decide) (.nil _))))

/-- … out of key order, or the same signature twice: rejected -/
example : verifyScript exCtx exFlags (multisigScriptSig [exBody 3 ++ [1], exBody 1 ++ [1]])
    (multisigScript 2 [exKey 1, exKey 2, exKey 3]) = .error .verify :=
  template_rejects_wrong_key_multisig exCtx exFlags 2 [exKey 1, exKey 2, exKey 3] [exBody 3 ++ [1], exBody 1 ++ [1]]
    (by decide) exCtx_total (by decide) (by decide) (by decide) (by decide) (by decide) (by decide) (by decide)
    (by decide) (by rw [← matching_iff_greedy_reverse]; decide)

example : verifyScript exCtx exFlags (multisigScriptSig [exBody 1 ++ [1], exBody 1 ++ [1]])
    (multisigScript 2 [exKey 1, exKey 2, exKey 3]) = .error .verify :=
  template_rejects_wrong_key_multisig exCtx exFlags 2 [exKey 1, exKey 2, exKey 3] [exBody 1 ++ [1], exBody 1 ++ [1]]
    (by decide) exCtx_total (by decide) (by decide) (by decide) (by decide) (by decide) (by decide) (by decide)
    (by decide) (by rw [← matching_iff_greedy_reverse]; decide)

/-- the hypotheses of the edit theorems are met: under SINGLE|ANYONECANPAY, signing input 1 of `exTx`,
    changing output 0 is uncommitted, changing output 1 is committed and changes a committed part -/
example : Uncommitted (0x83 : UInt8).toNat 1 (.setValue 0 5) = true := by decide
example : Committed (0x83 : UInt8).toNat 1 (.setValue 1 5) = true ∧ changes (0x83 : UInt8).toNat 1 (.setValue 1 5) exTx ∧
    Regular (0x83 : UInt8).toNat 1 exTx ∧ Regular (0x83 : UInt8).toNat 1 (apply (.setValue 1 5) exTx) :=
  ⟨by decide, ⟨.value 1, by decide, by decide⟩, by decide, by decide⟩

end examples

/-! ### non-vacuity of Part 3: a toy signature scheme on a concrete transaction

  `toySig key d` "signs" the digest `d` by writing it down behind a tag of the key; `toyEcdsa` accepts
  exactly that string.  (For this toy scheme a signature IS valid for one digest only — the property
  that real ECDSA lacks, see the header of Part 3 — which is why `hunf` can be proved outright here.)
  SHA-256d is not evaluated by the kernel, so the one thing that stays a hypothesis of the example is
  `hcr` for the two concrete messages (true when evaluated by the compiled code; not provable in the
  kernel). -/

section toy
open BtcVerif.Model.ScriptEval BtcVerif.Spec.Script BtcVerif.Spec.Templates BtcVerif.C05T

def toySig (key d : Bytes) : Bytes := 0x30 :: (key.take 8 ++ d)
def toyEcdsa (sig key d : Bytes) : Bool := decide (sig = toySig key d)
def toyCtx (t : Tx) : Ctx := txCtx exEnv.hashes toyEcdsa t 1

/-- the digest input 1 of `exTx` signs for pay-to-pubkey to `exKey 5` under SINGLE|ANYONECANPAY -/
def exDigest (t : Tx) : Bytes := (legacySighash (p2pkScript (exKey 5)) t 1 (0x83 : UInt8).toNat).1

theorem exDigest_length (t : Tx) (h : Regular (0x83 : UInt8).toNat 1 t) : (exDigest t).length = 32 := by
  unfold exDigest
  rw [regular_sighash _ _ _ _ h]
  exact Crypto.hash256_length _

theorem exKey_take (j : UInt8) : (exKey j).take 8 = [2, j, j, j, j, j, j, j] := rfl

theorem toySig_size (j : UInt8) (t : Tx) (h : Regular (0x83 : UInt8).toNat 1 t) :
    (toySig (exKey j) (exDigest t)).length + 1 < 0x4c ∧ (toySig (exKey j) (exDigest t)).length + 1 ≠ (exKey 5).length := by
  simp [toySig, exDigest_length t h, exKey]

/-- ACCEPTS: the input signed by the toy signer is accepted (`template_accepts_p2pk`, all hypotheses met) -/
example : verifyScript (toyCtx exTx) exFlags (p2pkScriptSig (toySig (exKey 5) (exDigest exTx) ++ [0x83]))
    (p2pkScript (exKey 5)) = .ok () :=
  template_accepts_p2pk (toyCtx exTx) exFlags _ 0x83 (exKey 5) (by decide) (txCtx_sigTotal ..) (by decide)
    (toySig_size 5 exTx (by decide)).1 (toySig_size 5 exTx (by decide)).2
    (by simp [toyCtx, txCtx, Ctx.env, toyEcdsa, exDigest])

/-- REJECTS, wrong key: the same digest signed by key 6 does not spend an output of key 5 -/
example : verifyScript (toyCtx exTx) exFlags (p2pkScriptSig (toySig (exKey 6) (exDigest exTx) ++ [0x83]))
    (p2pkScript (exKey 5)) = .error .verify :=
  template_rejects_wrong_key_p2pk (toyCtx exTx) exFlags _ 0x83 (exKey 5) (by decide) (txCtx_sigTotal ..) (by decide)
    (toySig_size 6 exTx (by decide)).1 (toySig_size 6 exTx (by decide)).2
    (by simp [toyCtx, txCtx, Ctx.env, toyEcdsa, toySig, exKey_take])

/-- UNCOMMITTED edit: output 0 is not committed under SINGLE|ANYONECANPAY at input 1 — still accepted -/
example : verifyScript (toyCtx (apply (.setValue 0 5) exTx)) exFlags
    (p2pkScriptSig (toySig (exKey 5) (exDigest exTx) ++ [0x83])) (p2pkScript (exKey 5)) = .ok () := by
  have h := p2pk_uncommitted_edit_same_verdict exEnv.hashes toyEcdsa exTx 1 (.setValue 0 5) exFlags
    (toySig (exKey 5) (exDigest exTx)) 0x83 (exKey 5) (by decide) (by decide)
    (toySig_size 5 exTx (by decide)).1 (toySig_size 5 exTx (by decide)).2 (by decide) (by decide)
  show verifyScript (txCtx exEnv.hashes toyEcdsa (apply (.setValue 0 5) exTx) 1) _ _ _ = _
  rw [h]
  exact template_accepts_p2pk (toyCtx exTx) exFlags _ 0x83 (exKey 5) (by decide) (txCtx_sigTotal ..) (by decide)
    (toySig_size 5 exTx (by decide)).1 (toySig_size 5 exTx (by decide)).2
    (by simp [toyCtx, txCtx, Ctx.env, toyEcdsa, exDigest])

theorem exTx_edited_wf : WFc (apply (.setValue 1 5) exTx) := by
  refine ⟨by decide, by decide, by decide, by decide, ?_, ?_, by decide⟩
  · intro x hx
    have : (apply (.setValue 1 5) exTx).vin = exTx.vin := rfl
    rw [this] at hx
    simp only [exTx, List.mem_cons, List.not_mem_nil, or_false] at hx
    rcases hx with rfl | rfl | rfl <;> exact ⟨⟨by decide, by decide⟩, by decide⟩
  · intro o ho
    have : (apply (.setValue 1 5) exTx).vout =
        [ { nValue := 1000, scriptPubKey := [0x51] }, { nValue := 5, scriptPubKey := [0x52] },
          { nValue := 0, scriptPubKey := [0x6a] } ] := by decide
    rw [this] at ho
    simp only [List.mem_cons, List.not_mem_nil, or_false] at ho
    rcases ho with rfl | rfl | rfl <;> exact ⟨by decide, by decide, by decide⟩

/-- REJECTS, committed edit: output 1 IS committed; with the signature kept the spend is rejected.
    Every hypothesis of `p2pk_committed_edit_rejects` is discharged for the toy scheme except `hcr`
    (SHA-256d does not collide on the two concrete messages), which the kernel cannot evaluate. -/
example
    (hcr : Crypto.hash256 (legacyPreimage (p2pkScript (exKey 5)) (apply (.setValue 1 5) exTx) 1 (0x83 : UInt8).toNat) =
             Crypto.hash256 (legacyPreimage (p2pkScript (exKey 5)) exTx 1 (0x83 : UInt8).toNat) →
           legacyPreimage (p2pkScript (exKey 5)) (apply (.setValue 1 5) exTx) 1 (0x83 : UInt8).toNat =
             legacyPreimage (p2pkScript (exKey 5)) exTx 1 (0x83 : UInt8).toNat) :
    verifyScript (toyCtx (apply (.setValue 1 5) exTx)) exFlags
      (p2pkScriptSig (toySig (exKey 5) (exDigest exTx) ++ [0x83])) (p2pkScript (exKey 5)) = .error .verify :=
  p2pk_committed_edit_rejects exEnv.hashes toyEcdsa exTx 1 (.setValue 1 5) exFlags
    (toySig (exKey 5) (exDigest exTx)) 0x83 (exKey 5) (by decide) (by decide)
    (toySig_size 5 exTx (by decide)).1 (toySig_size 5 exTx (by decide)).2
    (by decide) ⟨.value 1, by decide, by decide⟩ exTx_wf exTx_edited_wf (by decide) (by decide) hcr
    (by
      intro hne
      simp only [toyEcdsa, toySig, decide_eq_false_iff_not, List.cons.injEq, true_and, List.append_cancel_left_eq]
      exact fun h => hne h.symm)

end toy

/-! ### a `_real` theorem instantiated: everything discharged but the cryptographic hypotheses -/

section realexample
open BtcVerif.Model.ScriptEval BtcVerif.Spec.Script BtcVerif.Spec.Templates BtcVerif.C05T
open BtcVerif.Model.ScriptEval.Real

/-- the model of the library (`Real.realCtx`: modelled RawSignatureHash + Lean ECDSA + real hashes),
    pay-to-pubkey, input 1 of `exTx`, SINGLE|ANYONECANPAY, output 1 edited: all structural hypotheses
    of `p2pk_committed_edit_flips_real` hold; what remains are exactly the three cryptographic ones —
    the verifier accepts the signature for the original digest (`horacle`), SHA-256d does not collide
    on the two messages (`hcr`), the kept signature does not verify for the new digest (`hunf`) -/
example (body : Bytes) (hs : body.length + 1 < 0x4c) (hne : body.length + 1 ≠ 33)
    (horacle : ecdsaCheck body (exKey 5) (legacySighash (p2pkScript (exKey 5)) exTx 1 (0x83 : UInt8).toNat).1 = true)
    (hcr : Crypto.hash256 (legacyPreimage (p2pkScript (exKey 5)) (apply (.setValue 1 5) exTx) 1 (0x83 : UInt8).toNat) =
             Crypto.hash256 (legacyPreimage (p2pkScript (exKey 5)) exTx 1 (0x83 : UInt8).toNat) →
           legacyPreimage (p2pkScript (exKey 5)) (apply (.setValue 1 5) exTx) 1 (0x83 : UInt8).toNat =
             legacyPreimage (p2pkScript (exKey 5)) exTx 1 (0x83 : UInt8).toNat)
    (hunf : (legacySighash (p2pkScript (exKey 5)) (apply (.setValue 1 5) exTx) 1 (0x83 : UInt8).toNat).1 ≠
        (legacySighash (p2pkScript (exKey 5)) exTx 1 (0x83 : UInt8).toNat).1 →
      ecdsaCheck body (exKey 5) (legacySighash (p2pkScript (exKey 5)) (apply (.setValue 1 5) exTx) 1 (0x83 : UInt8).toNat).1 = false) :
    verifyScript (realCtx exTx (1 : Nat)) exFlags (p2pkScriptSig (body ++ [0x83])) (p2pkScript (exKey 5)) = .ok () ∧
    verifyScript (realCtx (apply (.setValue 1 5) exTx) (1 : Nat)) exFlags (p2pkScriptSig (body ++ [0x83]))
      (p2pkScript (exKey 5)) = .error .verify :=
  p2pk_committed_edit_flips_real exTx 1 (.setValue 1 5) exFlags body 0x83 (exKey 5) (by decide) (by decide) hs
    (by simpa [exKey] using hne) (by decide) ⟨.value 1, by decide, by decide⟩ exTx_wf exTx_edited_wf (by decide)
    (by decide) hcr hunf horacle

end realexample

end BtcVerif.C05

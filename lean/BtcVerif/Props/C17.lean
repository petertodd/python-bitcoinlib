/-
  C17 — compact targets and the proof-of-work check: property theorems.
  Statements use only Model.* (mirror of the Python), Spec.* (Bitcoin Core's definitions) and the byte
  length `nbytes` / `bitLength` of Basic/NatBytes.
  Helper lemmas live in Proofs/Compact.lean.
-/
import BtcVerif.Proofs.Compact

namespace BtcVerif.C17
open BtcVerif

/-- decoding a compact value whose sign bit is clear yields mantissa·256^(exponent−3),
    floor for exponents below 3 (all 32-bit compact values) -/
theorem decode_spec (c : Nat) (hc : c < 2 ^ 32) (hs : (c / 2 ^ 23) % 2 = 0) :
    Model.fromCompact c = Spec.decodeMantExp (c % 2 ^ 23) (c / 2 ^ 24) := by
  have he : (c / 2 ^ 24) % 256 = c / 2 ^ 24 := by omega
  have hm : c % 2 ^ 24 = c % 2 ^ 23 := by omega
  unfold Model.fromCompact Spec.decodeMantExp
  simp only [he, hm, pow8]

/-- encoding any 256-bit integer yields a canonical compact value … -/
theorem toCompact_canonical (v : Nat) (hv : v < 2 ^ 256) : Spec.canonical (Model.toCompact v) := by
  by_cases h0 : v = 0
  · subst h0; left; simp [Model.toCompact, nbytes_zero]
  · obtain ⟨m1, m2⟩ := mant_bounds h0
    have hle := nbytes_le32 v hv
    have hpos : 1 ≤ nbytes v := by rw [nbytes_pos h0]; omega
    rw [toCompact_eq h0]
    split
    · refine canonical_mk _ _ m2 (by omega) ⟨hpos, by omega, by omega, ?_⟩
      unfold mant
      split
      · exact Nat.mul_mod_left _ _
      · rw [show 3 - nbytes v = 0 by omega, Nat.pow_zero, Nat.mod_one]
    · refine canonical_mk _ _ (by omega) (by omega) ⟨by omega, by omega, by omega, ?_⟩
      rw [mant_div_256]
      split
      · rw [show 3 - (nbytes v + 1) = 2 - nbytes v by omega]; exact Nat.mul_mod_left _ _
      · rw [show 3 - (nbytes v + 1) = 0 by omega, Nat.pow_zero, Nat.mod_one]

/-- … in particular the sign bit is never set -/
theorem compact_signbit_clear (v : Nat) (hv : v < 2 ^ 256) : (Model.toCompact v / 2 ^ 23) % 2 = 0 := by
  rcases toCompact_canonical v hv with h | ⟨_, _, _, h, _⟩
  · rw [h]; simp
  · omega

/-- decoding the encoding of a 256-bit integer gives the integer truncated to its three most
    significant (sign-magnitude) bytes -/
theorem decode_encode (v : Nat) (hv : v < 2 ^ 256) :
    Model.fromCompact (Model.toCompact v) = Spec.truncTop3 v := by
  by_cases h0 : v = 0
  · subst h0; simp [Model.toCompact, Model.fromCompact, Spec.truncTop3, nbytes_zero]
  · obtain ⟨m1, m2⟩ := mant_bounds h0
    have hle := nbytes_le32 v hv
    have hP : ∀ k, 0 < 256 ^ k := fun k => Nat.pow_pos (by omega)
    unfold Spec.truncTop3
    simp only [← mant_top h0]
    rw [toCompact_eq h0]
    by_cases hq : mant v < 2 ^ 23
    · -- window and length stored as they are
      rw [if_pos hq, fromCompact_mk _ _ m2 (by omega), if_neg (show ¬ mant v / 2 ^ 16 ≥ 0x80 by omega)]
      unfold mant
      split
      · exact Nat.mul_div_cancel _ (hP _)
      · rfl
    · -- top bit set: window shifted down one byte, length one more
      rw [if_neg hq, fromCompact_mk _ _ (by omega) (by omega), if_pos (show mant v / 2 ^ 16 ≥ 0x80 by omega), mant_div_256]
      by_cases h2 : nbytes v ≤ 2
      · rw [if_pos h2, if_pos (show nbytes v + 1 ≤ 3 by omega), if_pos h2, show 3 - (nbytes v + 1) = 2 - nbytes v by omega]
        exact Nat.mul_div_cancel _ (hP _)
      · rw [if_neg h2, if_neg (show ¬ nbytes v + 1 ≤ 3 by omega), if_neg h2, show nbytes v + 1 - 3 = nbytes v - 2 by omega]

/-- decoding then re-encoding is the identity on canonical compact values (all exponents 1..255) -/
theorem encode_decode (c : Nat) (hc : Spec.canonical c) :
    Model.toCompact (Model.fromCompact c) = c := by
  rcases hc with rfl | ⟨he1, he255, hm1, hm2, hlow⟩
  · simp [Model.toCompact, Model.fromCompact, nbytes_zero]
  · generalize hE : c / 2 ^ 24 = e at *
    generalize hM : c % 2 ^ 24 = m at *
    have hcm : c = m + e * 2 ^ 24 := by omega
    have hm0 : m ≠ 0 := by omega
    rw [hcm, fromCompact_mk m e (by omega) (by omega)]
    -- the decoded value is `m` with zero bytes removed or appended: same window, length shifted by `e - 3`
    by_cases h3 : e ≤ 3
    · obtain ⟨v, hv⟩ : ∃ v, m = v * 256 ^ (3 - e) := ⟨_, (Nat.div_mul_cancel (Nat.dvd_of_mod_eq_zero hlow)).symm⟩
      have hv0 : v ≠ 0 := by rintro rfl; simp at hv; exact hm0 hv
      rw [if_pos h3, hv, Nat.mul_div_cancel _ (Nat.pow_pos (by omega)), ← hv]
      refine toCompact_of_mant hv0 ⟨hm1, hm2⟩ ?_ ?_
      · rw [hv, nbytes_mul_pow hv0]; omega
      · rw [hv, mant_mul_pow hv0]
    · rw [if_neg h3]
      refine toCompact_of_mant (Nat.mul_ne_zero hm0 (Nat.ne_of_gt (Nat.pow_pos (by omega)))) ⟨hm1, hm2⟩ ?_ ?_
      · rw [nbytes_mul_pow hm0]; omega
      · exact mant_mul_pow hm0 _

/-- the proof-of-work check accepts exactly when Bitcoin Core's does: not negative, not
    overflowing, non-zero, at most the chain limit, and hash (little-endian) ≤ target -/
theorem pow_iff (limit : Nat) (hl : limit < 2 ^ 256) (hash : Bytes) (hh : hash.length = 32)
    (bits : Nat) (hb : bits < 2 ^ 32) :
    Model.checkPoW limit hash bits = .ok ↔ Spec.powValid limit hash bits := by
  have htake : hash.take 32 = hash := by rw [← hh]; exact List.take_length
  have he : (bits / 2 ^ 24) % 256 = bits / 2 ^ 24 := by omega
  rw [checkPoW_ok_iff, htake]
  unfold Spec.powValid Spec.compactNeg Spec.compactOvf Spec.compactValue Model.fromCompact
  simp only [he]
  generalize leNat hash = L
  generalize hW : bits % 2 ^ 23 = w
  have hw : w < 2 ^ 23 := by omega
  generalize hS : bits / 2 ^ 24 = s
  by_cases hs : (bits / 2 ^ 23) % 2 = 1
  · -- sign bit set: the model rejects; Core says negative (nWord ≠ 0) or zero (nWord = 0)
    constructor
    · intro h; omega
    · rintro ⟨hn, _, hv, _⟩
      have hw0 : w = 0 := Classical.byContradiction fun h => hn ⟨h, hs⟩
      subst hw0; simp at hv
  · have hm : bits % 2 ^ 24 = w := by omega
    rw [hm]
    by_cases h3 : s ≤ 3
    · simp only [h3, if_true]
      generalize w / 2 ^ (8 * (3 - s)) = v
      omega
    · -- Core's overflow flag is the model's comparison with a limit below 2²⁵⁶
      simp only [h3, if_false, ovf_iff w s hw (by omega)]
      generalize w * 2 ^ (8 * (s - 3)) = U
      omega

/-- rejection is a validation error: for a hash of at least 32 bytes (a digest) the only outcomes
    are acceptance and `CheckProofOfWorkError`; the `struct.error` branch of `uint256_from_str` is dead -/
theorem pow_reject_is_validation (limit : Nat) (hash : Bytes) (hh : 32 ≤ hash.length) (bits : Nat) :
    Model.checkPoW limit hash bits = .ok ∨ Model.checkPoW limit hash bits = .errPow := by
  have hlen : ¬ (hash.length < 32) := by omega
  unfold Model.checkPoW Model.uint256FromStr
  simp only [hlen, if_false]
  split
  · right; rfl
  · split
    · right; rfl
    · split
      · right; rfl
      · left; rfl

/-- outside the property's domain, recorded so that the model is not totalised: a hash shorter than
    32 bytes with an admissible target makes `struct.error` escape -/
theorem pow_short_hash (limit : Nat) (hash : Bytes) (hh : hash.length < 32) (bits : Nat)
    (hs : (bits / 2 ^ 23) % 2 = 0) (ht : 0 < Model.fromCompact bits ∧ Model.fromCompact bits ≤ limit) :
    Model.checkPoW limit hash bits = .pyStructError := by
  unfold Model.checkPoW Model.uint256FromStr
  have h1 : ¬ ((bits / 2 ^ 23) % 2 = 1) := by omega
  have h2 : ¬ ¬ (0 < Model.fromCompact bits ∧ Model.fromCompact bits ≤ limit) := fun h => h ht
  simp only [h1, if_false, h2, hh, if_true]

/-- the byte length used by `compact_from_uint256` is Python's `(v.bit_length() + 7) >> 3` -/
theorem nbytes_is_python (v : Nat) : nbytes v = (bitLength v + 7) / 8 := nbytes_eq_bitlength v

/-- the proof-of-work clause in the property's own words: accepted exactly when the compact value has
    its sign bit clear and denotes (mantissa·256^(exponent−3), floor below 3) a positive target no
    greater than the chain's limit that the little-endian hash does not exceed.  ("Non-overflowing" is
    subsumed: a target ≤ limit < 2²⁵⁶ fits 256 bits.) -/
theorem pow_iff_target (limit : Nat) (hash : Bytes) (hh : hash.length = 32) (bits : Nat) (hb : bits < 2 ^ 32) :
    Model.checkPoW limit hash bits = .ok ↔
      (bits / 2 ^ 23) % 2 = 0 ∧
      0 < Spec.decodeMantExp (bits % 2 ^ 23) (bits / 2 ^ 24) ∧
      Spec.decodeMantExp (bits % 2 ^ 23) (bits / 2 ^ 24) ≤ limit ∧
      leNat hash ≤ Spec.decodeMantExp (bits % 2 ^ 23) (bits / 2 ^ 24) := by
  have htake : hash.take 32 = hash := by rw [← hh]; exact List.take_length
  rw [checkPoW_ok_iff, htake]
  by_cases hs : (bits / 2 ^ 23) % 2 = 0
  · rw [← decode_spec bits hb hs]
    exact ⟨fun ⟨_, a, b, _, c⟩ => ⟨hs, a, b, c⟩, fun ⟨_, a, b, c⟩ => ⟨hs, a, b, by omega, c⟩⟩
  · exact ⟨fun h => absurd h.1 hs, fun h => absurd h.1 hs⟩

/-! ### what "truncated" means quantitatively (Spec sanity + consequences for the model) -/

/-- truncation never rounds up … -/
theorem truncTop3_le (v : Nat) : Spec.truncTop3 v ≤ v := by
  unfold Spec.truncTop3
  simp only []
  split <;> split <;> first | exact Nat.le_refl _ | exact Nat.div_mul_le_self _ _

/-- … and drops less than one unit of the lowest kept byte (256^(nbytes−2) bounds both branches) -/
theorem truncTop3_close (v : Nat) : v - Spec.truncTop3 v < 256 ^ (nbytes v - 2) := by
  unfold Spec.truncTop3
  simp only []
  have hp2 : 0 < 256 ^ (nbytes v - 2) := Nat.pow_pos (by omega)
  have hp3 : 0 < 256 ^ (nbytes v - 3) := Nat.pow_pos (by omega)
  have hmono : 256 ^ (nbytes v - 3) ≤ 256 ^ (nbytes v - 2) := Nat.pow_le_pow_right (by omega) (by omega)
  split <;> split
  · omega
  · have := Nat.mod_lt v hp2
    have := Nat.div_add_mod v (256 ^ (nbytes v - 2))
    have := Nat.mul_comm (256 ^ (nbytes v - 2)) (v / 256 ^ (nbytes v - 2))
    omega
  · omega
  · have := Nat.mod_lt v hp3
    have := Nat.div_add_mod v (256 ^ (nbytes v - 3))
    have := Nat.mul_comm (256 ^ (nbytes v - 3)) (v / 256 ^ (nbytes v - 3))
    omega

/-- the decoded encoding of a 256-bit integer never exceeds the integer … -/
theorem decode_encode_le (v : Nat) (hv : v < 2 ^ 256) : Model.fromCompact (Model.toCompact v) ≤ v := by
  rw [decode_encode v hv]; exact truncTop3_le v

/-- … so a hash accepted against the encoded target is below the un-truncated integer as well -/
theorem pow_accept_below_value (limit : Nat) (hash : Bytes) (hh : hash.length = 32) (v : Nat) (hv : v < 2 ^ 256)
    (hok : Model.checkPoW limit hash (Model.toCompact v) = .ok) : leNat hash ≤ v := by
  have h := ((checkPoW_ok_iff _ _ _).mp hok).2.2.2.2
  rw [List.take_of_length_le (Nat.le_of_eq hh)] at h
  exact Nat.le_trans h (decode_encode_le v hv)

/-- encoding is idempotent through decoding: re-encoding the decoded encoding changes nothing -/
theorem encode_decode_encode (v : Nat) (hv : v < 2 ^ 256) :
    Model.toCompact (Model.fromCompact (Model.toCompact v)) = Model.toCompact v :=
  encode_decode _ (toCompact_canonical v hv)

/-! ### non-vacuity: concrete values meeting the hypotheses -/

example : Spec.canonical 0x1d00ffff := by right; decide
example : Spec.canonical 0x207fffff := by right; decide
example : ¬ Spec.canonical 0x1c800001 := by
  intro h; rcases h with h | h
  · exact absurd h (by decide)
  · exact absurd h.2.2.2.1 (by decide)
/-- the reading of "three most significant bytes" fixed in DESIGN §6 C17 -/
example : Spec.truncTop3 0x80ffff = 0x80ff00 := by
  have h : nbytes 0x80ffff = 3 := nbytes_eq (k := 2) (by decide) (by decide)
  simp [Spec.truncTop3, h]
example : Model.fromCompact (Model.toCompact 0x80ffff) = 0x80ff00 := by
  have h : nbytes 0x80ffff = 3 := nbytes_eq (k := 2) (by decide) (by decide)
  simp [Model.toCompact, Model.fromCompact, h]
/-- D13: a compact value with the sign bit set is rejected whatever the hash -/
example (h : Bytes) : Model.checkPoW (2 ^ 255) h 0x1c800001 = .errPow := by
  simp [Model.checkPoW]

/-- the limit is compared on VALUES, not on compact words: a non-canonical compact
    word numerically above the encoded limit still denotes a target below the limit and is accepted -/
example : Model.toCompact (2 ^ 224 - 1) < 0x1e000001 ∧
    Model.checkPoW (2 ^ 224 - 1) (List.replicate 32 0) 0x1e000001 = .ok := by
  have hn : nbytes (2 ^ 224 - 1) = 28 := nbytes_eq (k := 27) (by decide) (by decide)
  constructor
  · unfold Model.toCompact; rw [hn]; decide
  · decide

end BtcVerif.C17

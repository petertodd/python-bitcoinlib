/-
  Discharge of the digest-length hypotheses that property theorems of C10, C15, C16, C18 and C06/C07
  carry, for the executable hash functions of Crypto/ (lengths proved in Proofs/CryptoLen.lean).
  Nothing here unfolds a compression function: the digest is written out as a fixed-size literal.
-/
import BtcVerif.Proofs.CryptoLen
import BtcVerif.Props.C10
import BtcVerif.Props.C15
import BtcVerif.Props.C16
import BtcVerif.Props.C18
import BtcVerif.Proofs.ScriptEvalInv
import BtcVerif.Model.ScriptEnvReal
import BtcVerif.Props.Coherence

namespace BtcVerif.Concrete
open BtcVerif BtcVerif.Crypto

/-- C15: SHA-256d digests are 32 bytes -/
theorem c15_hashLen : C15.HashLen := hash256_length

/-- C16: the same fact under C16's name -/
theorem c16_hashLen : C16.HashLen := hash256_length

/-- C18: the checksum field (first four bytes of SHA-256d) has four bytes -/
theorem c18_checksumLen : Spec.Msg.ChecksumLen := by
  intro p
  simp [Spec.Msg.checksum, hash256_length]

/-- C10: the Base58Check round trip with the real checksum hash SHA-256d, no hypothesis left -/
theorem c10_check_roundtrip_sha256 (v : UInt8) (p : Bytes) :
    ∃ d, Model.Base58.fromBytes p (v.toNat : Int) = .ok d ∧ d = ⟨v, p⟩ ∧
      Model.Base58.new hash256 (Model.Base58.str hash256 d) = .ok ⟨v, p⟩ :=
  C10.check_roundtrip hash256 hash256_four_le v p

/-- C06/C07: outputs of the real hash opcodes fit a stack element (20, 20 and 32 ≤ 520 bytes), for the
    record of hash primitives the concrete environment (`Model.ScriptEval.Real.realHashes`, the one the
    C06/C07 model driver runs with) is built from -/
theorem hashesOK_real : Model.ScriptEval.HashesOK Model.ScriptEval.Real.realHashes := by
  intro x
  simp [Model.ScriptEval.Real.realHashes, sha1_length, ripemd160_length, sha256_length]

/-- derived primitives of that record: HASH160 is 20 bytes, HASH256 is 32 bytes -/
theorem real_hash160_length (x : Bytes) : (Model.ScriptEval.Real.realHashes.hash160 x).length = 20 :=
  ripemd160_length _
theorem real_hash256_length (x : Bytes) : (Model.ScriptEval.Real.realHashes.hash256 x).length = 32 :=
  sha256_length _

/-- C13, text level with the real checksum hash: the WIF string of a 32-byte secret under each chain's
    SECRET_KEY version byte parses back to the same secret and flag — hence the same public key -/
theorem c13_wif_text_roundtrip_sha256 (p : Spec.ChainParams) (hp : p ∈ Spec.chainTable) (secret : Bytes) (c : Bool)
    (hs : secret.length = 32) :
    ∃ d, Model.Base58.fromBytes (Model.Keys.wifPayload secret c) (p.secretKey : Int) = .ok d ∧
      ∃ d', Model.Base58.new hash256 (Model.Base58.str hash256 d) = .ok d' ∧
        ∃ sec c', Model.Keys.wifParse p.secretKey d'.nVersion.toNat d'.data = .ok (sec, c') ∧
          sec = secret ∧ c' = c ∧ Model.Keys.pubOfSecret sec c' = Model.Keys.pubOfSecret secret c := by
  obtain ⟨d, h1, d', h2, h3⟩ :=
    BtcVerif.Coherence.wif_text_roundtrip_chains hash256 hash256_four_le p hp secret c hs
  exact ⟨d, h1, d', h2, secret, c, h3, rfl, rfl, rfl⟩

end BtcVerif.Concrete

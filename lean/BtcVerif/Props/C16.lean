/-
  C16 — context-free transaction and block checks: property theorems.
  Statements use only Model.BlockCheck.* (mirror of the Python, with the repairs of D3/D10/D11/D12),
  Spec.BlockCheck.* (the rules of the property text) and the range predicates TxRange / BlockRange.
  Helper lemmas live in Proofs/BlockCheck.lean.  `hash256` is opaque throughout.
-/
import BtcVerif.Proofs.BlockCheck

namespace BtcVerif.C16
open BtcVerif BtcVerif.Crypto BtcVerif.Model.BlockCheck BtcVerif.Spec
open BtcVerif.Spec.Merkle (TxRange BlockRange)

/-- every digest is 32 bytes long (the header hash is read as a 256-bit integer): a hypothesis of the
    header and block theorems below; `Crypto.hash256_length` (Proofs/CryptoLen.lean) proves it of the
    executable SHA-256d -/
def HashLen : Prop := ∀ x : Bytes, (hash256 x).length = 32

/-- `GetSigOpCount(False)` (count up to the first malformed push) equals Core's
    `GetSigOpCount(false)`, for every byte string -/
theorem sigops_eq_spec (s : Bytes) : sigOpCount s = Spec.BlockCheck.sigOps s :=
  BlockCheckProofs.sigOpCount_eq s

theorem tx_sigops_eq_spec (t : Tx) : legacySigOpCount t = Spec.BlockCheck.txSigOps t :=
  BlockCheckProofs.legacySigOpCount_eq t

/-- the transaction check accepts exactly the rule-conforming transactions -/
theorem checkTx_iff (p : ChainParams) (t : Tx) (h : TxRange t) :
    checkTx p t = .ok () ↔ Spec.BlockCheck.ValidTx p t :=
  (BlockCheckProofs.checkTx_decides p t h).iff

/-- … and every rejection is a validation error: no struct.error / IndexError / AssertionError
    outcome of the model is reachable on fields in wire range -/
theorem checkTx_reject_is_validation (p : ChainParams) (t : Tx) (h : TxRange t) :
    checkTx p t = .ok () ∨ checkTx p t = .error .validation :=
  (BlockCheckProofs.checkTx_decides p t h).verdict

/-- the duplicate-input test on the set of COutPoint (hash/eq of the serialisation) is equality of
    the pairs (hash, n) -/
theorem outpoint_key_inj (a b : OutPoint) (ha : Spec.Wire.WFOutPoint a) (hb : Spec.Wire.WFOutPoint b) :
    Model.Wire.serOutPoint a = Model.Wire.serOutPoint b ↔ (a.hash, a.n) = (b.hash, b.n) := by
  rw [Codec.serOutPoint_ok ha, Codec.serOutPoint_ok hb]
  constructor
  · intro h; exact (BlockCheckProofs.outPoint_inj a b ha hb).mp (Except.ok.inj h)
  · intro h; rw [(BlockCheckProofs.outPoint_inj a b ha hb).mpr h]

/-- the header check: proof of work (Core's rule, C17) and `nTime ≤ cur_time + 7200` -/
theorem checkHeader_iff (p : ChainParams) (hlim : p.powLimit < 2 ^ 256) (hH : HashLen) (h : Header)
    (hh : Spec.Wire.WFHeader h) (fPoW : Bool) (now : Int) :
    checkBlockHeader p h fPoW now = .ok () ↔ Spec.BlockCheck.ValidHeader p now fPoW h :=
  (BlockCheckProofs.checkBlockHeader_decides p hlim h hh fPoW now).iff

/-- `get_witness_commitment_index` finds the LAST output whose script is ≥ 38 bytes and starts
    6a24aa21a9ed (ValueError when there is none); the index is always valid -/
theorem commitment_index_last (cb : Tx) (rest : List Tx) :
    (∀ i, witnessCommitmentIndex (cb :: rest) = .ok i →
      ∃ o, cb.vout[i]? = some o ∧ Spec.BlockCheck.commitScript? cb = some o.scriptPubKey) ∧
    (Spec.BlockCheck.commitScript? cb = none → witnessCommitmentIndex (cb :: rest) = .error .valueerr) := by
  have hres := BlockCheckProofs.commitLoop_result cb
  rw [BlockCheckProofs.witnessCommitmentIndex_cons]
  cases hc : commitLoop cb.vout 0 none with
  | none =>
    exact ⟨fun i hi => (nomatch hi), fun _ => rfl⟩
  | some j =>
    rw [hc] at hres
    obtain ⟨o, ho, hs, _⟩ := hres
    exact ⟨fun i hi => Except.ok.inj hi ▸ ⟨o, ho, hs⟩, fun hnone => by rw [hnone] at hs; cases hs⟩

/-- the block check accepts exactly the rule-conforming blocks (both switches general; the
    property's statement is `fPoW = fMerkle = true`) -/
theorem checkBlock_iff (p : ChainParams) (hlim : p.powLimit < 2 ^ 256) (hH : HashLen) (b : Block)
    (hb : BlockRange b) (fPoW fMerkle : Bool) (now : Int) :
    checkBlock p b fPoW fMerkle now = .ok () ↔ Spec.BlockCheck.ValidBlock p now fPoW fMerkle b :=
  (BlockCheckProofs.checkBlock_decides p hlim b hb fPoW fMerkle now).iff

/-- every rejection is signalled by the validation-error family: on blocks with fields in wire
    range none of the model's `py` outcomes (IndexError at `vtx[0]`, `vtxinwit[0]`, `stack[0]`,
    `vout[index]`, `tree[-1]`; struct.error / AssertionError of the serialisers) is reachable -/
theorem reject_is_validation (p : ChainParams) (hlim : p.powLimit < 2 ^ 256) (hH : HashLen) (b : Block)
    (hb : BlockRange b) (fPoW fMerkle : Bool) (now : Int) :
    checkBlock p b fPoW fMerkle now = .ok () ∨ checkBlock p b fPoW fMerkle now = .error .validation :=
  (BlockCheckProofs.checkBlock_decides p hlim b hb fPoW fMerkle now).verdict

/-- the Spec's coinbase, spelled out on the fields: exactly one input, whose outpoint is 32 zero bytes
    with index 2³² − 1; the Python-mirroring helper `Tx.isCoinbase` (what the model calls) decides it -/
theorem isCoinbase_char (t : Tx) :
    (Spec.BlockCheck.IsCoinbase t ↔
      ∃ i, t.vin = [i] ∧ i.prevout.hash = List.replicate 32 0 ∧ i.prevout.n = 0xffffffff) ∧
    (t.isCoinbase = true ↔ Spec.BlockCheck.IsCoinbase t) := by
  refine ⟨?_, BlockCheckProofs.isCoinbase_iff t⟩
  unfold Spec.BlockCheck.IsCoinbase Spec.BlockCheck.NullOutPoint Spec.Merkle.zero32
  rcases t.vin with _ | ⟨i, _ | ⟨j, r⟩⟩
  · simp
  · simp
  · simp

/-- switching a flag off never turns acceptance into rejection -/
theorem checkBlock_mono_flags (p : ChainParams) (hlim : p.powLimit < 2 ^ 256) (hH : HashLen) (b : Block)
    (hb : BlockRange b) (f g f' g' : Bool) (now : Int) (hf : f' = true → f = true) (hg : g' = true → g = true)
    (h : checkBlock p b f g now = .ok ()) : checkBlock p b f' g' now = .ok () := by
  rw [checkBlock_iff p hlim hH b hb] at h ⊢
  obtain ⟨h1, h2, h3, h4, h5, h6, h7, h8, h9, h10⟩ := h
  exact ⟨fun hh => h1 (hf hh), h2, h3, h4, h5, h6, h7, h8, h9, fun hh => h10 (hg hh)⟩

/-- CVE-2012-2459 at the block level: the block obtained by repeating the last transaction has (for an
    odd count > 1) the same merkle root (`C15.merkle_mutation_cve`) but is never valid — the txid
    uniqueness rule rejects it -/
theorem mutated_block_invalid (p : ChainParams) (now : Int) (f g : Bool) (b : Block) (l : List Tx) (t : Tx)
    (hv : b.vtx = l ++ [t] ++ [t]) : ¬ Spec.BlockCheck.ValidBlock p now f g b := by
  intro h
  have hn := h.2.2.2.2.2.2.2.1
  rw [hv] at hn
  simp [List.nodup_append] at hn

/-- the work limit of each of the four chains is a 256-bit number -/
theorem chain_limits : ∀ p ∈ Spec.chainTable, p.powLimit < 2 ^ 256 := by decide

/-! ### non-vacuity -/

def exCoinbase (scriptLen : Nat) : Tx :=
  { nVersion := 1,
    vin := [{ prevout := { hash := List.replicate 32 0, n := 0xffffffff },
              scriptSig := List.replicate scriptLen 7, nSequence := 0xffffffff }],
    vout := [{ nValue := 5000000000, scriptPubKey := [0x51] }],
    wit := [], nLockTime := 0 }

def exTx : Tx :=
  { nVersion := 2,
    vin := [{ prevout := { hash := List.replicate 32 7, n := 1 }, scriptSig := [0x51], nSequence := 0 },
            { prevout := { hash := List.replicate 32 7, n := 2 }, scriptSig := [], nSequence := 5 }],
    vout := [{ nValue := 2100000000000000 - 5, scriptPubKey := [0xac] }, { nValue := 5, scriptPubKey := [] }],
    wit := [[[1, 2, 3]], []], nLockTime := 0 }

def exBlock : Block :=
  { hdr := { nVersion := 2, hashPrevBlock := List.replicate 32 1, hashMerkleRoot := List.replicate 32 2,
             nTime := 1700000000, nBits := 0x207fffff, nNonce := 0 },
    vtx := [exCoinbase 2, exTx] }

example : TxRange exTx := by decide
example : BlockRange exBlock := by decide
example : (exCoinbase 2).isCoinbase = true ∧ exTx.isCoinbase = false := by decide
/-- both sides of the coinbase-script bound and of the money bound -/
example : Spec.BlockCheck.ValidTx Spec.regtest (exCoinbase 2) := by decide
set_option maxRecDepth 20000 in
example : Spec.BlockCheck.ValidTx Spec.regtest (exCoinbase 100) := by decide
example : ¬ Spec.BlockCheck.ValidTx Spec.regtest (exCoinbase 1) := by decide
set_option maxRecDepth 20000 in
example : ¬ Spec.BlockCheck.ValidTx Spec.regtest (exCoinbase 101) := by decide
example : Spec.BlockCheck.ValidTx Spec.mainnet exTx := by decide
set_option maxRecDepth 20000 in
example : ¬ Spec.BlockCheck.ValidTx Spec.mainnet
    { exTx with vout := exTx.vout ++ [{ nValue := 1, scriptPubKey := [] }] } := by decide
example : checkTx Spec.mainnet exTx = .ok () := (checkTx_iff _ _ (by decide)).mpr (by decide)
/-- D10 in the model: a block whose coinbase has a 1-byte script is rejected with a validation
    error, whatever the switches, the clock and the hashes -/
example (hH : HashLen) (f g : Bool) (now : Int) :
    checkBlock Spec.regtest { exBlock with vtx := [exCoinbase 1, exTx] } f g now = .error .validation := by
  have hb : BlockRange { exBlock with vtx := [exCoinbase 1, exTx] } := by decide
  rcases reject_is_validation Spec.regtest (by decide) hH _ hb f g now with h | h
  · have := (checkBlock_iff Spec.regtest (by decide) hH _ hb f g now).mp h
    exact absurd (this.2.2.2.2.2.2.1 (exCoinbase 1) (by simp)) (by decide)
  · exact h
example : Spec.BlockCheck.sigOps [0xac, 0x05, 0x61, 0x62] = 1 := by
  simp [Spec.BlockCheck.sigOps, Spec.BlockCheck.getOp, Spec.BlockCheck.opSigOps]

end BtcVerif.C16

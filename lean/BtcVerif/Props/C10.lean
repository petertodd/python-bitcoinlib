/-
  C10 — Base58/Base58Check are exact inverses and reject exactly the invalid strings.

  Statements use only Model.Base58.* (mirror of bitcoin/base58.py) and Spec.Base58.* (the
  big-integer definition and the version+checksum rule).  Strings are `List Char`; the hash `H`
  (bitcoin.core.Hash) is an opaque parameter.  Helper lemmas live in Proofs/Base58.lean.
-/
import BtcVerif.Proofs.Base58
import BtcVerif.Proofs.CryptoLen

namespace BtcVerif.C10
open BtcVerif BtcVerif.Base58Proofs
open BtcVerif.Spec.Base58 (alphabetChars enc dec CheckRule checkSplit? checkEnc)
open BtcVerif.Model.Base58 (encode decode fromBytes str B58Data)

/-- the encoder equals the reference: `'1'^z ++ numeral58 (big-endian value)` — every byte string -/
theorem encode_eq_spec (b : Bytes) : encode b = enc b := encode_eq_enc b

/-- the decoder equals the reference on every string: the reference value on strings over the
    alphabet, InvalidBase58Error otherwise (in particular never `binascii.Error`) -/
theorem decode_eq_spec (s : List Char) :
    decode s = match dec s with
               | some b => .ok b
               | none => .error .b58err := decode_eq_dec s

/-- decoding an encoding returns the byte string (leading zero bytes preserved) — every byte string -/
theorem decode_encode (b : Bytes) : decode (encode b) = .ok b := by
  rw [decode_eq_spec, encode_eq_spec, spec_dec_enc]

/-- every string over the alphabet decodes, and encoding the result returns the string
    (leading '1' characters preserved; all-'1' strings included) -/
theorem encode_decode (s : List Char) (hs : ∀ c ∈ s, c ∈ alphabetChars) :
    ∃ b, decode s = .ok b ∧ encode b = s := by
  cases hd : dec s with
  | none => exact absurd ((dec_eq_none_iff s).1 hd) (fun ⟨c, hc, hn⟩ => hn (hs c hc))
  | some b => exact ⟨b, (decode_ok_iff s b).2 hd, by rw [encode_eq_spec]; exact Base58Proofs.spec_enc_dec s b hd⟩

/-- the invalid-base58 error is raised exactly for strings with a character outside the alphabet -/
theorem decode_invalid_char (s : List Char) :
    decode s = .error .b58err ↔ ∃ c ∈ s, c ∉ alphabetChars := by
  rw [decode_eq_spec, ← dec_eq_none_iff]
  cases dec s <;> simp

/-- `decode` raises no Python-level exception on any string (the `unhexlify` site is dead) -/
theorem decode_no_python_error (s : List Char) (cls : String) : decode s ≠ .error (.py cls) := by
  rw [decode_eq_spec]; cases dec s <;> simp

/-- the reference decoder inverts the reference encoder … -/
theorem spec_dec_enc (b : Bytes) : dec (enc b) = some b := Base58Proofs.spec_dec_enc b

/-- … and vice versa: the reference codec is a bijection bytes ↔ alphabet strings -/
theorem spec_enc_dec (s : List Char) (b : Bytes) (h : dec s = some b) : enc b = s :=
  Base58Proofs.spec_enc_dec s b h

/-- consequence of the two inverse laws: encoding is injective on byte strings … -/
theorem encode_injective (a b : Bytes) (h : encode a = encode b) : a = b := by
  have ha := decode_encode a
  rw [h, decode_encode b] at ha
  injection ha with ha
  exact ha.symm

/-- … and decoding is injective on the strings it accepts (no two texts denote one byte string) -/
theorem decode_injective (s t : List Char) (b : Bytes) (hs : decode s = .ok b) (ht : decode t = .ok b) :
    s = t := by
  rw [decode_ok_iff] at hs ht
  rw [← spec_enc_dec s b hs, ← spec_enc_dec t b ht]

/-- `CBase58Data(s)` = reference decoding followed by the reference check rule, on every string -/
theorem check_eq_spec (H : Bytes → Bytes) (s : List Char) :
    Model.Base58.new H s =
      match dec s with
      | none => .error .b58err
      | some k => match checkSplit? H k with
                  | some (v, p) => .ok ⟨v, p⟩
                  | none => .error .b58checksum := new_eq_spec H s

/-- a string is accepted as (version, payload) exactly when it decodes to `version ‖ payload ‖ c`
    with `c` the first four bytes of `H (version ‖ payload)` -/
theorem check_accepts_iff (H : Bytes → Bytes) (s : List Char) (v : UInt8) (p : Bytes) :
    Model.Base58.new H s = .ok ⟨v, p⟩ ↔ ∃ k, dec s = some k ∧ CheckRule H v p k := by
  rw [check_eq_spec]
  cases hd : dec s with
  | none => simp
  | some k =>
    simp only [Option.some.injEq, exists_eq_left']
    rw [← checkSplit_iff]
    cases hc : checkSplit? H k with
    | none => simp
    | some vp =>
      obtain ⟨v', p'⟩ := vp
      simp [B58Data.mk.injEq]

/-- a decodable string that does not satisfy the rule for any (version, payload) raises the checksum
    error; this includes every decoded string shorter than five bytes -/
theorem check_rejects (H : Bytes → Bytes) (s : List Char) (k : Bytes) (hd : dec s = some k)
    (hno : ¬ ∃ v p, CheckRule H v p k) : Model.Base58.new H s = .error .b58checksum := by
  rw [check_eq_spec, hd]
  cases hc : checkSplit? H k with
  | none => simp [hc]
  | some vp =>
    obtain ⟨v, p⟩ := vp
    exact absurd ⟨v, p, (checkSplit_iff H k v p).mp hc⟩ hno

/-- nothing else can happen: a value, the checksum error or the invalid-base58 error
    (the `verbyte[0]` IndexError site and the `from_bytes` ValueError are dead) -/
theorem check_outcomes (H : Bytes → Bytes) (s : List Char) :
    (∃ d, Model.Base58.new H s = .ok d) ∨ Model.Base58.new H s = .error .b58checksum ∨
      Model.Base58.new H s = .error .b58err := by
  rw [check_eq_spec]
  cases dec s with
  | none => simp
  | some k =>
    cases hc : checkSplit? H k with
    | none => simp [hc]
    | some vp => obtain ⟨v, p⟩ := vp; simp [hc]

/-- the text form of `from_bytes(payload, v)` is the reference encoding of
    `v ‖ payload ‖ H(v ‖ payload)[:4]`; `from_bytes` accepts exactly `0 ≤ v ≤ 255` -/
theorem str_eq_spec (H : Bytes → Bytes) (v : Int) (p : Bytes) :
    (0 ≤ v ∧ v ≤ 255 → ∃ d, fromBytes p v = .ok d ∧ d = ⟨UInt8.ofNat v.toNat, p⟩ ∧
        str H d = checkEnc H (UInt8.ofNat v.toNat) p) ∧
    (¬ (0 ≤ v ∧ v ≤ 255) → fromBytes p v = .error .valueerr) := by
  constructor
  · intro hv
    refine ⟨⟨UInt8.ofNat v.toNat, p⟩, by simp [fromBytes, hv], rfl, ?_⟩
    simp [str, checkEnc, encode_eq_spec]
  · intro hv; simp [fromBytes, hv]

/-- the text form of every (version, payload) decodes back to the same version and payload:
    all versions 0..255, all payloads of any length.  `hH`: the hash returns at least four bytes. -/
theorem check_roundtrip (H : Bytes → Bytes) (hH : ∀ x, 4 ≤ (H x).length) (v : UInt8) (p : Bytes) :
    ∃ d, fromBytes p (v.toNat : Int) = .ok d ∧ d = ⟨v, p⟩ ∧
      Model.Base58.new H (str H d) = .ok ⟨v, p⟩ := by
  have hv : (v.toNat : Int) ≤ 255 := by have := v.toNat_lt; omega
  refine ⟨⟨v, p⟩, by simp [fromBytes, UInt8.ofNat_toNat, hv], rfl, ?_⟩
  rw [check_accepts_iff]
  refine ⟨v :: p ++ (H (v :: p)).take 4, ?_, (H (v :: p)).take 4, rfl, ?_, rfl⟩
  · simp only [str, encode_eq_spec]; exact Base58Proofs.spec_dec_enc _
  · rw [List.length_take]; have := hH (v :: p); omega

/-- `check_roundtrip` for the real hash (SHA-256d): no hypothesis on the hash is left -/
theorem check_roundtrip_sha256d (v : UInt8) (p : Bytes) :
    ∃ d, fromBytes p (v.toNat : Int) = .ok d ∧ d = ⟨v, p⟩ ∧
      Model.Base58.new Crypto.hash256 (str Crypto.hash256 d) = .ok ⟨v, p⟩ :=
  check_roundtrip Crypto.hash256 Crypto.hash256_four_le v p

/-! ### non-vacuity -/

-- leading zero bytes / '1' characters: "11" + numeral of 0x61 for 00 00 61, and back
example : decode (encode [0, 0, 0x61]) = .ok [0, 0, 0x61] := decode_encode _
example : ∃ b, decode ['1', '1', '2', 'g'] = .ok b ∧ encode b = ['1', '1', '2', 'g'] :=
  encode_decode _ (by decide)
example : decode ['1', 'l'] = .error .b58err := (decode_invalid_char _).mpr (by decide)
-- the hypotheses of `encode_decode` / `decode_invalid_char` are satisfiable
example : ∀ c ∈ ['1', '1', '2', 'g'], c ∈ alphabetChars := by decide
example : ∃ c ∈ ['1', 'l'], c ∉ alphabetChars := by decide
-- the rule accepts a five-byte string and refuses the four-byte string of D8 for every hash:
-- with a constant hash `H _ = [1,2,3,4]`, `7 ‖ 1 2 3 4` is (version 7, empty payload) …
example : CheckRule (fun _ => [1, 2, 3, 4]) 7 [] [7, 1, 2, 3, 4] := ⟨[1, 2, 3, 4], rfl, rfl, rfl⟩
-- … and no (version, payload) is read out of the four bytes `1 2 3 4`
example : checkSplit? (fun _ => [1, 2, 3, 4]) [1, 2, 3, 4] = none := by decide

end BtcVerif.C10

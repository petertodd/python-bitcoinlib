/-
  C04 — BIP143 witness-v0 signature hash: property theorems.
  `Model.Sighash.signatureHashWitnessV0` mirrors the SIGVERSION_WITNESS_V0 branch of
  `SignatureHash` (with nLockTime packed as '<I', the repair of D1); `Spec.Sighash.bip143Sighash`
  is the BIP143 text.  Helper lemmas live in Proofs/Sighash.lean.
-/
import BtcVerif.Proofs.Sighash

namespace BtcVerif.C04
open BtcVerif Spec.Sighash Model.Sighash SighashProofs

/-- For every transaction whose fields lie in their wire ranges, every existing input, every script
    code (any length below 2^64), every amount in [0, 2^63) and every hash-type byte, the modelled
    code returns exactly the BIP143 digest. -/
theorem bip143_eq_spec (sc : Bytes) (tx : Tx) (i : Nat) (ht : Nat) (amount : Int)
    (hwf : FieldsWF tx) (hi : i < tx.vin.length) (hsc : sc.length < 2 ^ 64)
    (ha : 0 ≤ amount ∧ amount < 2 ^ 63) (hht : ht < 256) :
    ∃ d, bip143Sighash sc tx i ht amount = some d ∧
         signatureHashWitnessV0 sc tx i (ht : Int) (some amount) = .ok d := by
  have hget : tx.vin[i]? = some tx.vin[i] := List.getElem?_eq_getElem hi
  refine ⟨Crypto.hash256 (bip143Preimage sc tx i tx.vin[i] ht amount), ?_, ?_⟩
  · simp [bip143Sighash, hget]
  · exact bip143_eq sc tx i _ ht amount hwf hget hsc (by omega) ha.2 (htRel_cast ht) (packI_ht (by omega))

/-- the same under the wire-format well-formedness predicate of C01 -/
theorem bip143_eq_spec_wf (sc : Bytes) (tx : Tx) (i : Nat) (ht : Nat) (amount : Int)
    (hwf : Spec.Wire.WFTx tx) (hi : i < tx.vin.length) (hsc : sc.length ≤ Spec.Wire.maxSize)
    (ha : 0 ≤ amount ∧ amount < 2 ^ 63) (hht : ht < 256) :
    ∃ d, bip143Sighash sc tx i ht amount = some d ∧
         signatureHashWitnessV0 sc tx i (ht : Int) (some amount) = .ok d :=
  bip143_eq_spec sc tx i ht amount (fieldsWF_of_WFTx hwf) hi
    (by unfold Spec.Wire.maxSize at hsc; omega) ha hht

/-- "Defined for the whole wire range of every field": on an in-range transaction, an existing
    input, an amount in the int64 range and a hash type in the int32 range the code returns a digest —
    no struct.error / IndexError / AssertionError branch is reachable.  In particular lock times and
    sequence numbers up to 2^32−1 and amounts up to 2^63−1.
    (False for the shipped code, D1: `'<i'` on nLockTime.) -/
theorem bip143_defined (sc : Bytes) (tx : Tx) (i : Nat) (ht : Nat) (amount : Int)
    (hwf : FieldsWF tx) (hi : i < tx.vin.length) (hsc : sc.length < 2 ^ 64)
    (ha : -(2 ^ 63 : Int) ≤ amount ∧ amount < 2 ^ 63) (hht : ht < 2 ^ 31) :
    ∃ d, signatureHashWitnessV0 sc tx i (ht : Int) (some amount) = .ok d := by
  have hget : tx.vin[i]? = some tx.vin[i] := List.getElem?_eq_getElem hi
  exact ⟨_, bip143_eq sc tx i _ ht amount hwf hget hsc ha.1 ha.2 (htRel_cast ht) (packI_ht hht)⟩

/-- … stated as "the stray-exception branches are unreachable" -/
theorem bip143_no_pyexc (sc : Bytes) (tx : Tx) (i : Nat) (ht : Nat) (amount : Int)
    (hwf : FieldsWF tx) (hi : i < tx.vin.length) (hsc : sc.length < 2 ^ 64)
    (ha : -(2 ^ 63 : Int) ≤ amount ∧ amount < 2 ^ 63) (hht : ht < 2 ^ 31) (e : Exc) :
    signatureHashWitnessV0 sc tx i (ht : Int) (some amount) ≠ .error e := by
  obtain ⟨d, h⟩ := bip143_defined sc tx i ht amount hwf hi hsc ha hht
  rw [h]; intro he; cases he

/-- Python ints as hash type, negative ones included: for every `h` in the int32 range the digest is
    the BIP143 digest for the two's-complement reading `h mod 2^32`. -/
theorem bip143_eq_spec_int (sc : Bytes) (tx : Tx) (i : Nat) (h : Int) (amount : Int)
    (hwf : FieldsWF tx) (hi : i < tx.vin.length) (hsc : sc.length < 2 ^ 64)
    (ha : -(2 ^ 63 : Int) ≤ amount ∧ amount < 2 ^ 63) (h1 : -(2 ^ 31 : Int) ≤ h) (h2 : h < 2 ^ 31) :
    ∃ d, bip143Sighash sc tx i (h % 4294967296).toNat amount = some d ∧
         signatureHashWitnessV0 sc tx i h (some amount) = .ok d := by
  have hget : tx.vin[i]? = some tx.vin[i] := List.getElem?_eq_getElem hi
  refine ⟨Crypto.hash256 (bip143Preimage sc tx i tx.vin[i] (h % 4294967296).toNat amount), ?_, ?_⟩
  · simp [bip143Sighash, hget]
  · exact bip143_eq sc tx i _ _ amount hwf hget hsc ha.1 ha.2 (htRel_int32 h) (packI_int32 h1 h2)

/-- The BIP143 digest depends on the transaction only through the committed fields: version, the
    inputs' outpoints and sequence numbers, the outputs and the lock time.  Two transactions that
    differ only in scriptSigs and / or witness data have the same digest (for every input, script
    code, amount and hash type). -/
theorem bip143_ignores_scriptSig_witness (sc : Bytes) (t t' : Tx) (i ht : Nat) (amount : Int)
    (hv : t'.nVersion = t.nVersion)
    (hin : t'.vin.map (fun x => (x.prevout, x.nSequence)) = t.vin.map (fun x => (x.prevout, x.nSequence)))
    (hout : t'.vout = t.vout) (hl : t'.nLockTime = t.nLockTime) :
    bip143Sighash sc t' i ht amount = bip143Sighash sc t i ht amount := by
  have hp := congrArg (List.map (fun p : OutPoint × Nat => Spec.Wire.outPoint p.1)) hin
  have hs := congrArg (List.map (fun p : OutPoint × Nat => leBytes 4 p.2)) hin
  have hi := congrArg (·[i]?) hin
  simp only [List.map_map, List.getElem?_map, Function.comp_def] at hp hs hi
  unfold bip143Sighash
  rcases h' : t'.vin[i]? with _ | x' <;> rcases h0 : t.vin[i]? with _ | x <;> rw [h', h0] at hi <;>
    simp only [Option.map_none, Option.map_some, reduceCtorEq, Option.some.injEq, Prod.mk.injEq] at hi ⊢
  unfold bip143Preimage hashPrevouts hashSequence hashOutputs
  rw [hv, hp, hs, hout, hl, hi.1, hi.2]

/-- a non-existing input index is the only failure on in-range data: IndexError (`txTo.vin[inIdx]`) -/
theorem bip143_index_error (sc : Bytes) (tx : Tx) (i : Nat) (ht : Nat) (amount : Option Int)
    (hwf : FieldsWF tx) (hi : tx.vin.length ≤ i) :
    signatureHashWitnessV0 sc tx i (ht : Int) amount = .error indexError := by
  have hp := v0HashPrevouts_eq tx ht (htRel_cast ht) hwf
  have hs := v0HashSequence_eq tx ht (htRel_cast ht) hwf
  have ho := v0HashOutputs_eq tx i ht (htRel_cast ht) hwf
  obtain ⟨hv1, hv2, _⟩ := hwf
  have hver : Model.Wire.packI 4 tx.nVersion = .ok (leBytesInt 4 tx.nVersion) :=
    Codec.packI_ok (by simpa using hv1) (by simpa using hv2)
  have hget : pyGetNat tx.vin i = .error indexError := by
    simp [pyGetNat, List.getElem?_eq_none_iff.mpr hi]
  simp only [signatureHashWitnessV0, hp, hs, ho, hver, hget, bind_ok, bind_err]

/-! ### non-vacuity -/

/-- a two-input witness transaction with nLockTime = 2^32−1, nSequence = 2^31 -/
def exTx : Tx :=
  { nVersion := 2
    vin := [ { prevout := { hash := List.replicate 32 0xaa, n := 0 }, scriptSig := [], nSequence := 2 ^ 31 },
             { prevout := { hash := List.replicate 32 0xbb, n := 0xffffffff }, scriptSig := [0x51], nSequence := 0xffffffff } ]
    vout := [ { nValue := 5000000000, scriptPubKey := [0x00, 0x14] ++ List.replicate 20 0xcc } ]
    wit := [[[0x01]], []]
    nLockTime := 0xffffffff }

example : FieldsWF exTx := by
  refine ⟨by decide, by decide, by decide, by decide, ?_, ?_, by decide⟩
  · intro i hi
    simp only [exTx, List.mem_cons, List.not_mem_nil, or_false] at hi
    rcases hi with rfl | rfl <;> refine ⟨⟨by decide, by decide⟩, by decide⟩
  · intro o ho
    simp only [exTx, List.mem_cons, List.not_mem_nil, or_false] at ho
    subst ho
    refine ⟨by decide, by decide, by decide⟩

example : (1 : Nat) < exTx.vin.length := by decide

end BtcVerif.C04

/-
  C11 — Bech32 segwit addresses: BIP173 codec and guaranteed corruption detection.  Property theorems.

  `Model.Bech32.*` mirrors bitcoin/segwit_addr.py and bitcoin/bech32.py; `Spec.Bech32.*` is BIP173
  (validity predicate `Decodes` / `ValidSegwit`, reference encoding `encodeAddr`, checksum function).
  Helper lemmas live in Proofs/Bech32{Code,Scale,Code4,Bits,Str,Addr,Detect,Bch,Case}.lean and
  Proofs/Bech32Code4Shards/ (the kernel-evaluated exhaustive check behind `detects_le4`).
  Strings are lists of code points.  `hamming a b` counts the positions at which two strings differ;
  `substitute s subs` applies character substitutions; corruption is measured on the lowercase form
  (BIP173: "the lowercase form is used when determining a character's value"), a pure change of letter
  case being the business of `mixed_case_rejected`.

  What is and is not proved about corruption: the BCH code guarantees detection of up to four
  character SUBSTITUTIONS (`detects_le2`, `detects_le4`, all strings, all lengths ≤ 90).  It gives no such
  guarantee for insertions, deletions, truncations or extensions, and none is claimed here: for those the
  theorems only say that the outcome is whatever BIP173's predicate says (`decode_accepts_iff`), and the
  property's "every truncation and extension" is covered by the behavioural correspondence (T2) alone —
  the check enumerates every truncation/extension/deletion/insertion of sampled valid addresses and
  compares the implementation with the model.
-/
import BtcVerif.Proofs.Bech32Detect
import BtcVerif.Proofs.Bech32Code4
import BtcVerif.Proofs.Bech32Bch
import BtcVerif.Proofs.Bech32Case

namespace BtcVerif.C11
open BtcVerif BtcVerif.Bech32
open BtcVerif.Spec.Bech32 (Decodes ValidSegwit validHrp Regroup lowerStr)

/-! ### checksum -/

/-- the checksum function of the code is BIP173's -/
theorem polymod_eq_spec (vs : List Nat) : Model.Bech32.polymod vs = Spec.Bech32.polymod vs :=
  Bech32.polymod_eq_spec vs

/-- one checksum step is affine over GF(2): `step c v = T c xor v` with `T` xor-linear, and `T` is
    injective on 30-bit states -/
theorem polymod_affine :
    ∃ T : Nat → Nat,
      (∀ c v, Model.Bech32.polymodStep c v = T c ^^^ v) ∧
      (∀ a b, T (a ^^^ b) = T a ^^^ T b) ∧
      (∀ a b, a < 2 ^ 30 → b < 2 ^ 30 → T a = T b → a = b) :=
  ⟨Bech32.T, polymodStep_eq, T_linear, fun _ _ ha hb h => T_injective ha hb h⟩

/-- the checksum is the BIP173 BCH code over GF(32): on 5-bit values the 30-bit state of the code's
    `polymod` is the residue of the message polynomial modulo
    g(x) = x⁶ + {29}x⁵ + {22}x⁴ + {20}x³ + {21}x² + {29}x + {18} over GF(2)[a]/(a⁵+a³+1) -/
theorem polymod_is_bch (vs : List Nat) (hvs : ∀ v ∈ vs, v < 32) :
    Spec.Bech32.unpack (Model.Bech32.polymod vs) = Spec.Bech32.bchResidue vs := by
  rw [Bech32.polymod_eq_spec]
  exact unpack_polymod vs hvs

/-- … hence a checksum verifies exactly when that residue is the constant polynomial 1 -/
theorem verify_iff_bch (hrp : List Char) (data : List Nat) (hh : ∀ c ∈ hrp, c.toNat < 1024)
    (hd : ∀ v ∈ data, v < 32) :
    Model.Bech32.verifyChecksum hrp data = true ↔
      Spec.Bech32.bchResidue (Spec.Bech32.hrpExpand hrp ++ data) = ⟨0, 0, 0, 0, 0, 1⟩ := by
  have hvs : ∀ v ∈ Spec.Bech32.hrpExpand hrp ++ data, v < 32 := by
    intro v hv
    rcases List.mem_append.1 hv with hv | hv
    · unfold Spec.Bech32.hrpExpand at hv
      simp only [List.mem_append, List.mem_map, List.mem_singleton] at hv
      rcases hv with (⟨c, hc, rfl⟩ | rfl) | ⟨c, _, rfl⟩
      · have := hh c hc; omega
      · omega
      · omega
    · exact hd v hv
  rw [verifyChecksum_iff, hrpExpand_eq_spec, Bech32.polymod_eq_spec, ← unpack_polymod _ hvs]
  have h1 : Spec.Bech32.unpack 1 = ⟨0, 0, 0, 0, 0, 1⟩ := by decide
  have hlt : Spec.Bech32.polymod (Spec.Bech32.hrpExpand hrp ++ data) < 2 ^ 30 := by
    rw [← Bech32.polymod_eq_spec, polymod_eq_run]
    exact run_lt (by omega) (fun v hv => by have := hvs v hv; omega)
  constructor
  · intro h; rw [h, h1]
  · intro h; rw [← h1] at h; exact unpack_inj hlt (by omega) h

/-- the checksum appended by `bech32_create_checksum` verifies, for every prefix and all 5-bit data -/
theorem checksum_verifies (hrp : List Char) (data : List Nat) (hd : ∀ v ∈ data, v < 32) :
    Model.Bech32.verifyChecksum hrp (data ++ Model.Bech32.createChecksum hrp data) = true :=
  verify_create hrp data hd

/-! ### bit regrouping -/

/-- `convertbits(·, 5, 8, False)` accepts exactly the 5-bit strings that are a byte string followed by
    fewer than five padding bits, all zero, and returns those bytes -/
theorem convertbits_padding_rule (d p : List Nat) (hd : ∀ v ∈ d, v < 32) :
    Model.Bech32.convertbits d 5 8 false = some p ↔ Regroup d p :=
  convertbits58_iff d p hd

/-- 8→5 with padding followed by 5→8 without padding is the identity on byte strings; the intermediate
    groups are the reference ones -/
theorem convertbits_roundtrip (p : Bytes) :
    ∃ d, Model.Bech32.convertbits (p.map UInt8.toNat) 8 5 true = some d ∧
      d = Spec.Bech32.toBase32 (p.map UInt8.toNat) ∧ (∀ x ∈ d, x < 32) ∧
      Model.Bech32.convertbits d 5 8 false = some (p.map UInt8.toNat) := by
  have hb := map_toNat_lt p
  obtain ⟨d, h1, h2, h3⟩ := convertbits_roundtrip_nat _ hb
  have := convertbits85_eq_spec _ hb
  rw [h1] at this
  exact ⟨d, h1, Option.some.inj this, h2, h3⟩

/-! ### decoding -/

/-- `decode` never raises (the `data[0]` IndexError site is dead) -/
theorem decode_total (h s : List Char) : ∃ r, Model.Bech32.decodeR h s = .ok r := decodeR_ok h s

/-- `decode` returns (version, program) exactly for the strings BIP173 declares valid for that
    version and program -/
theorem decode_returns (h s : List Char) (v : Nat) (p : List Nat) :
    Model.Bech32.decode h s = some (v, p) ↔ Decodes h s v p := decode_eq_some_iff h s v p

/-- `decode` accepts a string exactly when BIP173 does -/
theorem decode_accepts_iff (h s : List Char) : Model.Bech32.decode h s ≠ none ↔ ValidSegwit h s :=
  decode_ne_none_iff h s

/-! ### the expected prefix is the whole prefix -/

/-- a string is a valid address for AT MOST ONE expected prefix: the prefix is everything before the last
    '1', so a string valid for "bc1x" is not valid for "bc" (nor for any other proper prefix, extension or
    variant) -/
theorem prefix_unique (h h' s : List Char) (v v' : Nat) (p p' : List Nat)
    (a : Decodes h s v p) (b : Decodes h' s v' p') : h = h' :=
  decodes_prefix_unique a b

/-- … for the decoder: accepted under two expected prefixes only if they are the same prefix -/
theorem decode_prefix_unique (h h' s : List Char)
    (a : Model.Bech32.decode h s ≠ none) (b : Model.Bech32.decode h' s ≠ none) : h = h' := by
  obtain ⟨v, p, d⟩ := (decode_accepts_iff h s).1 a
  obtain ⟨v', p', d'⟩ := (decode_accepts_iff h' s).1 b
  exact prefix_unique h h' s v v' p p' d d'

/-- in particular whatever is valid for `base ++ "1" ++ extra` is refused under `base` -/
theorem decode_rejects_shorter_prefix (base extra s : List Char)
    (a : Model.Bech32.decode (base ++ '1' :: extra) s ≠ none) : Model.Bech32.decode base s = none := by
  by_contra hne
  have := decode_prefix_unique _ _ s a hne
  have hl := congrArg List.length this
  simp at hl

/-- every mixed-case rendering is rejected -/
theorem mixed_case_rejected (h s : List Char) (hl : ∃ c ∈ s, c.isLower = true)
    (hu : ∃ c ∈ s, c.isUpper = true) : Model.Bech32.decode h s = none := by
  cases hd : Model.Bech32.decode h s with
  | none => rfl
  | some vp =>
    obtain ⟨v, p⟩ := vp
    exact absurd ⟨hl, hu⟩ ((decode_returns h s v p).1 hd).2.1

/-- BIP173: the all-upper-case rendering of a valid address is valid and decodes to the same pair
    (and validity in general depends on the string only through its lowercase form) -/
theorem uppercase_accepted (h s : List Char) (v : Nat) (p : List Nat)
    (hd : Model.Bech32.decode h s = some (v, p)) :
    Model.Bech32.decode h (s.map Char.toUpper) = some (v, p) :=
  (decode_returns h _ v p).2 (upper_decodes h s v p ((decode_returns h s v p).1 hd))

/-! ### encoding -/

/-- encoding any admissible (version, program) under a valid prefix (total length ≤ 90) succeeds, gives
    the reference BIP173 string, which is lower case, and decodes to the original pair -/
theorem encode_decode_all (h : List Char) (v : Nat) (prog : Bytes)
    (hh : validHrp h) (hv : v ≤ 16) (hl2 : 2 ≤ prog.length) (hl40 : prog.length ≤ 40)
    (hv0 : v = 0 → prog.length = 20 ∨ prog.length = 32)
    (hlen : h.length + 1 + (1 + (8 * prog.length + 4) / 5 + 6) ≤ 90) :
    ∃ a, Model.Bech32.encodeR h v prog = .ok (some a) ∧
      Spec.Bech32.encodeAddr h v (prog.map UInt8.toNat) = some a ∧
      Model.Bech32.decode h a = some (v, prog.map UInt8.toNat) ∧
      lowerStr a = a ∧ (∀ c ∈ a, c.isUpper = false) := by
  obtain ⟨a, h1, h2, h3, h4⟩ := encode_spec h v prog hh hv hl2 hl40 hv0 hlen
  exact ⟨a, h1, h2, (decode_returns _ _ _ _).2 h3, lowerStr_eq_self a h4, h4⟩

/-- the property's headline: a version-0 program of 20 or 32 bytes -/
theorem encode_decode (h : List Char) (prog : Bytes) (hh : validHrp h)
    (hp : prog.length = 20 ∨ prog.length = 32)
    (hlen : h.length + 1 + (1 + (8 * prog.length + 4) / 5 + 6) ≤ 90) :
    ∃ a, Model.Bech32.encode h 0 prog = some a ∧
      Spec.Bech32.encodeAddr h 0 (prog.map UInt8.toNat) = some a ∧
      Model.Bech32.decode h a = some (0, prog.map UInt8.toNat) ∧ lowerStr a = a := by
  obtain ⟨a, h1, h2, h3, h4, _⟩ := encode_decode_all h 0 prog hh (by omega) (by omega) (by omega)
    (fun _ => hp) hlen
  refine ⟨a, ?_, h2, h3, h4⟩
  unfold Model.Bech32.encode
  rw [h1]

/-- `encode` never raises for a version below 32 (the `CHARSET[d]` IndexError needs `witver ≥ 32`,
    `[witver] + None` needs a non-byte) -/
theorem encode_total (h : List Char) (v : Nat) (prog : Bytes) (hv : v < 32) :
    ∃ r, Model.Bech32.encodeR h v prog = .ok r := by
  obtain ⟨conv, hconv, hconv32, _⟩ := convertbits85 _ (map_toNat_lt prog)
  have hall : ∀ x ∈ (v :: conv) ++ Model.Bech32.createChecksum h (v :: conv), x < 32 := by
    intro x hx
    rcases List.mem_append.1 hx with hx | hx
    · rcases List.mem_cons.1 hx with rfl | hx
      · exact hv
      · exact hconv32 x hx
    · exact (createChecksum_facts h (v :: conv)).2 x hx
  obtain ⟨cs, hcs, _⟩ := mapM_charsetAt _ hall
  unfold Model.Bech32.encodeR
  rw [hconv]
  have henc : Model.Bech32.bech32Encode h (v :: conv) = .ok (h ++ ['1'] ++ cs) := by
    unfold Model.Bech32.bech32Encode
    simp only []
    rw [hcs]
    rfl
  simp only [henc, decodeR_eq]
  cases Model.Bech32.decode h (h ++ ['1'] ++ cs) <;> exact ⟨_, rfl⟩

/-! ### CBech32Data under the selected chain's prefix -/

/-- `CBech32Data(s)` yields (witver, program bytes) exactly for the valid strings of the selected
    prefix … -/
theorem cbech32_new_iff (h s : List Char) (v : Nat) (b : Bytes) :
    Model.Bech32.cbech32New h s = .ok (v, b) ↔ Decodes h s v (b.map UInt8.toNat) := by
  rw [cbech32New_eq]
  cases hd : Model.Bech32.decode h s with
  | none =>
    simp only [reduceCtorEq, false_iff]
    intro hD
    rw [(decode_returns h s v _).2 hD] at hd
    cases hd
  | some vp =>
    obtain ⟨v', p'⟩ := vp
    have hD := (decode_returns h s v' p').1 hd
    simp only [Except.ok.injEq, Prod.mk.injEq]
    constructor
    · rintro ⟨rfl, rfl⟩
      rwa [map_ofNat_toNat p' (decodes_prog_lt hD)]
    · intro hD'
      rw [(decode_returns h s v _).2 hD'] at hd
      simp only [Option.some.injEq, Prod.mk.injEq] at hd
      obtain ⟨rfl, rfl⟩ := hd
      exact ⟨rfl, map_toNat_ofNat b⟩

/-- … and raises `Bech32Error` — nothing else — for every other string -/
theorem cbech32_new_rejects (h s : List Char) :
    ¬ ValidSegwit h s ↔ Model.Bech32.cbech32New h s = .error .bech32err := by
  rw [← decode_accepts_iff, cbech32New_eq]
  cases Model.Bech32.decode h s with
  | none => simp
  | some vp => simp

/-- `CBech32Data(s)` has exactly two kinds of outcome: an object, or `Bech32Error`.  In particular the
    ValueError sites of `from_bytes` (`witver > 16`, `bytes(witprog)` with an element ≥ 256) and the
    IndexError site of `decode` are dead on this path -/
theorem cbech32_new_outcomes (h s : List Char) :
    (∃ v b, Model.Bech32.cbech32New h s = .ok (v, b)) ∨
      Model.Bech32.cbech32New h s = .error .bech32err := by
  rw [cbech32New_eq]
  cases Model.Bech32.decode h s with
  | none => exact Or.inr rfl
  | some vp => exact Or.inl ⟨vp.1, _, rfl⟩

/-- `CBech32Data(str(CBech32Data.from_bytes(v, prog)))` gives back `(v, prog)` for every admissible pair
    under every valid prefix -/
theorem cbech32_roundtrip (h : List Char) (v : Nat) (prog : Bytes)
    (hh : validHrp h) (hv : v ≤ 16) (hl2 : 2 ≤ prog.length) (hl40 : prog.length ≤ 40)
    (hv0 : v = 0 → prog.length = 20 ∨ prog.length = 32)
    (hlen : h.length + 1 + (1 + (8 * prog.length + 4) / 5 + 6) ≤ 90) :
    ∃ a, Model.Bech32.cbech32Str h v prog = .ok a ∧ Model.Bech32.cbech32New h a = .ok (v, prog) := by
  obtain ⟨a, h1, _, h3, _⟩ := encode_spec h v prog hh hv hl2 hl40 hv0 hlen
  refine ⟨a, ?_, (cbech32_new_iff h a v prog).2 h3⟩
  unfold Model.Bech32.cbech32Str
  rw [h1]

/-! ### error detection -/

/-- a valid address and any string of the same length whose lowercase form differs from it in exactly
    one or two characters (anywhere: prefix, separator or data part): the latter is rejected.
    Only computation: 31·88 kernel-evaluated steps of the linear map (`Bech32.orbitCheck_true`). -/
theorem detects_le2 (h s s' : List Char) (hv : Model.Bech32.decode h s ≠ none)
    (hl : s'.length = s.length)
    (hd : hamming (lowerStr s) (lowerStr s') = 1 ∨ hamming (lowerStr s) (lowerStr s') = 2) :
    Model.Bech32.decode h s' = none := by
  cases hd' : Model.Bech32.decode h s' with
  | none => rfl
  | some vp =>
    have hs' : ValidSegwit h s' := (decode_accepts_iff h s').1 (by rw [hd']; simp)
    have := valid_hamming_gt2 h s s' ((decode_accepts_iff h s).1 hv) hs' hl
    rcases hd with hd | hd
    · exact absurd hd this.1
    · exact absurd hd this.2

/-- a valid address and any string of the same length whose lowercase form differs from it in exactly
    three or four characters (anywhere): the latter is rejected.
    Standard axioms only: the exhaustive part (no zero syndrome of weight 3 or 4 within 89 positions) is cut
    down by the GF(32)-scaling symmetry of the checksum to the patterns whose first error has the value 1
    (≈ 119 k table look-ups) and evaluated by the KERNEL in three `decide +kernel` theorems
    (Proofs/Bech32Code4Shards/Check.lean). -/
theorem detects_le4 (h s s' : List Char) (hv : Model.Bech32.decode h s ≠ none)
    (hl : s'.length = s.length)
    (hd : hamming (lowerStr s) (lowerStr s') = 3 ∨ hamming (lowerStr s) (lowerStr s') = 4) :
    Model.Bech32.decode h s' = none := by
  cases hd' : Model.Bech32.decode h s' with
  | none => rfl
  | some vp =>
    have hs : ValidSegwit h s := (decode_accepts_iff h s).1 hv
    have hs' : ValidSegwit h s' := (decode_accepts_iff h s').1 (by rw [hd']; simp)
    obtain ⟨E, hE, hEl, hw, hrun⟩ := valid_pair_syndrome h s s' hs hs' hl
    exact absurd hrun (syndrome_ne_zero_34 E hE (by omega) (by omega))

/-- in terms of explicit substitutions: after at most four character substitutions a valid address
    is rejected, unless the substitutions changed nothing but letter case -/
theorem detects_substitutions_le4 (h s : List Char) (subs : List (Nat × Char))
    (hv : Model.Bech32.decode h s ≠ none) (hn : subs.length ≤ 4) :
    Model.Bech32.decode h (substitute s subs) = none ∨ lowerStr (substitute s subs) = lowerStr s := by
  have hl := substitute_length s subs
  have hle := hamming_substitute_le s subs
  by_cases h0 : hamming (lowerStr s) (lowerStr (substitute s subs)) = 0
  · right
    exact (hamming_eq_zero _ _ (by simp [lowerStr, hl]) h0).symm
  · left
    by_cases h2 : hamming (lowerStr s) (lowerStr (substitute s subs)) ≤ 2
    · exact detects_le2 h s _ hv hl (by omega)
    · exact detects_le4 h s _ hv hl (by omega)

/-- the same in terms of explicit substitutions: after at most two character substitutions a valid
    address is rejected, unless the substitutions changed nothing but letter case (then
    `mixed_case_rejected` applies, or the string is the same address in the other case) -/
theorem detects_substitutions_le2 (h s : List Char) (subs : List (Nat × Char))
    (hv : Model.Bech32.decode h s ≠ none) (hn : subs.length ≤ 2) :
    Model.Bech32.decode h (substitute s subs) = none ∨ lowerStr (substitute s subs) = lowerStr s :=
  detects_substitutions_le4 h s subs hv (by omega)

/-! ### non-vacuity -/

/-- the hypotheses of `encode_decode` are met by the prefix "bc" and a 20-byte program -/
example : validHrp ['b', 'c'] ∧ ((List.replicate 20 (7 : UInt8)).length = 20 ∨ False) ∧
    ['b', 'c'].length + 1 + (1 + (8 * 20 + 4) / 5 + 6) ≤ 90 := by
  refine ⟨⟨by decide, by decide, ?_⟩, Or.inl (by simp), by decide⟩
  intro c hc
  simp only [List.mem_cons, List.not_mem_nil, or_false] at hc
  rcases hc with rfl | rfl <;> decide

/-- BIP173's first test vector is accepted by the model (so `detects_le2` is not vacuous) … -/
example : Model.Bech32.decode "bc".toList "BC1QW508D6QEJXTDG4Y5R3ZARVARY0C5XW7KV8F3T4".toList
    = some (0, [0x75, 0x1e, 0x76, 0xe8, 0x19, 0x91, 0x96, 0xd4, 0x54, 0x94, 0x1c, 0x45, 0xd1, 0xb3, 0xa3, 0x23,
                0xf1, 0x43, 0x3b, 0xd6]) := by decide +kernel

/-- … and a single substitution of it is rejected -/
example : Model.Bech32.decode "bc".toList "bc1qw508d6qejxtdg4y5r3zarvary0c5xw7kv8f3t5".toList = none := by
  decide +kernel

/-- the padding rule: `bc1zw508…du` has more than 4 padding bits -/
example : Model.Bech32.decode "bc".toList "bc1zw508d6qejxtdg4y5r3zarvaryvqyzf3du".toList = none := by
  decide +kernel

end BtcVerif.C11

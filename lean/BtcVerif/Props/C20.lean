/-
  C20 — Bloom filter: property theorems.
  Statements use only Model.Bloom.* (mirror of bitcoin/bloom.py, with the CVE-2013-5700 guard of D16)
  and Spec.Bloom.* (MurmurHash3 x86_32 on UInt32, the BIP37 bit schedule, a filter as the set of its
  bit indices).  Helper lemmas live in Proofs/Bloom.lean.

  Partial by design (DESIGN §6 C20): `math.log` and the float products of the constructor are the
  abstract rationals `x`, `y` of `Model.Bloom.create`; `caps` holds for all of them.  The exact size
  for a given (nElements, nFPRate) is not claimed by the property.
-/
import BtcVerif.Proofs.Bloom

namespace BtcVerif.C20
open BtcVerif Model.Bloom
open BtcVerif.Bloom

/-- the model's field ranges on the wire (`struct '<IIB'`, `ser_read`'s MAX_SIZE) -/
def WF (f : Filter) : Prop :=
  f.vData.length ≤ Model.Wire.MAX_SIZE ∧ f.nHashFuncs < 2 ^ 32 ∧ f.nTweak < 2 ^ 32 ∧ f.nFlags < 2 ^ 8

/-- `MurmurHash3(seed, data)` on unbounded Python ints with late masking: for every 32-bit seed and
    every byte string (all four tail lengths, any number of blocks) neither `assert` fires, no slice is
    short, no index is out of range, and the value is the reference MurmurHash3 x86_32. -/
theorem murmur_eq_spec (seed : Nat) (hs : seed < 2 ^ 32) (data : Bytes) :
    murmurHash3 seed data = .ok (Spec.Bloom.murmur3 (UInt32.ofNat seed) data).toNat :=
  murmurHash3_eq seed hs data

/-- `bloom_hash(i, e)` is the BIP37 schedule: reference Murmur with seed `i*0xFBA4C795 + nTweak`
    (uint32 wrap-around), modulo the number of filter bits — for any tweak, even one outside 32 bits. -/
theorem bloom_hash_eq_schedule (f : Filter) (i : Nat) (e : Bytes) (hne : f.vData.length ≠ 0) :
    bloomHash f i e = .ok (Spec.Bloom.bitIndex (f.vData.length * 8) (UInt32.ofNat f.nTweak) i e) :=
  bloomHash_eq f i e hne

/-- `insert` never fails (any data, any hash-function count, any tweak), keeps length and parameters,
    and the bits set afterwards are exactly the old bits plus the bits the BIP37 schedule selects. -/
theorem bits_eq_schedule (f : Filter) (e : Bytes) :
    ∃ g, Model.Bloom.insert f e = .ok g ∧ g.vData.length = f.vData.length ∧ g.nHashFuncs = f.nHashFuncs ∧
      g.nTweak = f.nTweak ∧ g.nFlags = f.nFlags ∧
      ∀ j, Spec.Bloom.bitSet g.vData j ↔ (Spec.Bloom.bitSet f.vData j ∨ (f.vData ≠ [] ∧
        j ∈ Spec.Bloom.bitsOf (f.vData.length * 8) f.nHashFuncs (UInt32.ofNat f.nTweak) e)) :=
  insert_spec f e

/-- `contains` never fails and answers exactly the BIP37 membership predicate (all scheduled bits set,
    or no data at all). -/
theorem contains_eq_spec (f : Filter) (e : Bytes) :
    ∃ b, Model.Bloom.contains f e = .ok b ∧
      (b = true ↔ Spec.Bloom.specMatches f.vData f.nHashFuncs (UInt32.ofNat f.nTweak) e) :=
  contains_spec f e

/-- no false negatives: after any history of inserts (bytes or outpoints) and serialise/deserialise
    round trips that ran, every element inserted anywhere in the history is reported as contained. -/
theorem no_false_negative : ∀ (history : List Op) (f0 f : Filter) (x : Elem),
    f0.vData.length ≤ Model.Wire.MAX_SIZE → run f0 history = .ok f → Op.insert x ∈ history →
    containsElem f x = .ok true := by
  intro history f0 f x hlen hrun hmem
  obtain ⟨⟨hl, hk, ht, _⟩, hser, hb⟩ := run_spec history f0 f hlen hrun
  obtain ⟨e, he⟩ := hser x hmem
  obtain ⟨b, hc, hbi⟩ := contains_spec f e
  rw [containsElem_ok f he, hc, hbi.2 ?_]
  by_cases hne : f0.vData = []
  · exact Or.inl (by rw [← List.length_eq_zero_iff] at *; exact hl.trans hne)
  · unfold Spec.Bloom.specMatches
    rw [hl, hk, ht]
    exact Or.inr fun j hj => (hb j).2 (Or.inr ⟨x, e, hmem, he, hne, hj⟩)

/-- histories always run on well-formed filters with well-formed outpoints: the hypothesis
    `run f0 history = .ok f` of `no_false_negative` is never the reason it holds -/
theorem run_ok : ∀ (history : List Op) (f0 : Filter), WF f0 →
    (∀ o, Op.insert (.outpoint o) ∈ history → o.hash.length = 32 ∧ o.n < 2 ^ 32) →
    ∃ f, run f0 history = .ok f
  | [], f0, _, _ => ⟨f0, rfl⟩
  | op :: ops, f0, hwf, hops => by
    have hstep : ∃ g, step f0 op = .ok g ∧ WF g := by
      cases op with
      | insert x =>
        have hx : ∃ e, x.toBytes = .ok e := by
          cases x with
          | bytes b => exact ⟨b, rfl⟩
          | outpoint o => exact ⟨_, Codec.serOutPoint_ok (hops o List.mem_cons_self)⟩
        obtain ⟨e, he⟩ := hx
        obtain ⟨g, hg, hl, hk, ht, hfl, _⟩ := insert_spec f0 e
        refine ⟨g, (insertElem_ok f0 he).trans hg, ?_⟩
        unfold WF at *; rw [hl, hk, ht, hfl]; exact hwf
      | reload => exact ⟨f0, reload_ok f0 hwf.1 hwf.2, hwf⟩
    obtain ⟨g, hg, hwg⟩ := hstep
    obtain ⟨f, hf⟩ := run_ok ops g hwg (fun o ho => hops o (List.mem_cons_of_mem _ ho))
    exact ⟨f, (run_cons_ok ops hg).trans hf⟩

/-- size and hash-function count respect the protocol maxima, whatever the float expressions of the
    constructor evaluate to — including when they raise (PARTIAL: `x`, `y` abstract `math.log` and the
    float products; `y` may depend on the size just built) -/
theorem caps (x : Res Rat) (y : Nat → Res Rat) (nTweak nFlags : Nat) (f : Filter)
    (h : create x y nTweak nFlags = .ok f) :
    f.vData.length ≤ 36000 ∧ f.nHashFuncs ≤ 50 ∧ isWithinSizeConstraints f = true := by
  obtain ⟨xv, n, yv, k, _, hn, _, hk, rfl⟩ := create_eq_ok.1 h
  have h1 := sizeBytes_le xv n hn
  have h2 := hashFuncs_le yv k hk
  rw [← List.length_replicate (n := n) (a := (0 : UInt8))] at h1
  exact ⟨h1, h2, Bool.and_eq_true_iff.2 ⟨decide_eq_true h1, decide_eq_true h2⟩⟩

/-- the filter built is never larger than requested: for non-negative values of the float
    expressions, `8·|vData| ≤ x` and `nHashFuncs ≤ y(|vData|)` — the caps only ever shrink it -/
theorem created_le_requested (x : Rat) (hx : 0 ≤ x) (y : Nat → Rat) (hy : ∀ n, 0 ≤ y n) (nTweak nFlags : Nat)
    (f : Filter) (h : create (.ok x) (fun n => .ok (y n)) nTweak nFlags = .ok f) :
    ((f.vData.length : Int) : Rat) * 8 ≤ x ∧ ((f.nHashFuncs : Int) : Rat) ≤ y f.vData.length := by
  obtain ⟨_, n, _, k, hx', hn, hy', hk, rfl⟩ := create_eq_ok.1 h
  cases hx'; cases hy'
  simp only [List.length_replicate]
  exact ⟨sizeBytes_bits_le x hx n hn, hashFuncs_le_y (y n) (hy n) k hk⟩

/-- the constructor does not fail on the property's domain (non-negative float values) and the
    exceptions of the float expressions (`math.log` domain error, division by `nElements = 0`) and of
    `bytearray(negative)` are outcomes of the model, not hidden -/
theorem create_ok (x : Rat) (hx : 0 ≤ x) (y : Nat → Rat) (hy : ∀ n, 0 ≤ y n) (nTweak nFlags : Nat) :
    ∃ f, create (.ok x) (fun n => .ok (y n)) nTweak nFlags = .ok f := by
  obtain ⟨n, hn⟩ := sizeBytes_ok hx
  obtain ⟨k, hk⟩ := hashFuncs_ok (hy n)
  exact ⟨_, create_eq_ok.2 ⟨x, n, y n, k, rfl, hn, rfl, hk, rfl⟩⟩

/-- the constructor's exceptions are decided by the model from its arguments: a rate ≤ 0 is refused by
    `math.log` (ValueError) before anything else … -/
theorem ctor_rate_nonpos (n : Int) (rate lg c l2 : Rat) (t fl : Nat) (h : rate ≤ 0) :
    createPy n rate lg c l2 t fl = .error .valueerr := by
  unfold createPy
  rw [if_pos h]
  rfl

/-- … and `nElements = 0` (with a valid rate) divides by zero when the hash-function count is computed -/
theorem ctor_zero_elements (rate lg c l2 : Rat) (t fl : Nat) (h : 0 < rate) :
    createPy 0 rate lg c l2 t fl = .error zeroDivisionError := by
  unfold createPy
  have hr : ¬ rate ≤ 0 := by grind
  rw [if_neg hr]
  have hx : -c * ((0 : Int) : Rat) * lg = 0 := by grind
  rw [hx]
  obtain ⟨n, hn⟩ := sizeBytes_ok (x := 0) (by decide)
  exact create_y_error t fl hn (if_pos rfl)

/-- … and whenever it does build a filter, the caps hold -/
theorem ctor_caps (n : Int) (rate lg c l2 : Rat) (t fl : Nat) (f : Filter)
    (h : createPy n rate lg c l2 t fl = .ok f) :
    f.vData.length ≤ 36000 ∧ f.nHashFuncs ≤ 50 ∧ isWithinSizeConstraints f = true :=
  caps _ _ t fl f h

/-- the bits set after any history are *exactly* the initial bits plus the bits the BIP37 schedule
    selects for the elements inserted in it (serialise/deserialise round trips change nothing) -/
theorem bits_after_history (history : List Op) (f0 f : Filter) (hlen : f0.vData.length ≤ Model.Wire.MAX_SIZE)
    (hrun : run f0 history = .ok f) (j : Nat) :
    Spec.Bloom.bitSet f.vData j ↔ (Spec.Bloom.bitSet f0.vData j ∨
      ∃ x e, Op.insert x ∈ history ∧ x.toBytes = .ok e ∧ f0.vData ≠ [] ∧
        j ∈ Spec.Bloom.bitsOf (f0.vData.length * 8) f0.nHashFuncs (UInt32.ofNat f0.nTweak) e) :=
  (run_spec history f0 f hlen hrun).2.2 j

/-- the wire form is lossless: whatever `serialize` emits (it refuses fields outside `'<IIB'`)
    deserialises, from any stream position, to the same data, hash count, tweak and flags, consuming
    exactly the encoding; `deserialize` of exactly the encoding succeeds -/
theorem ser_roundtrip (f : Filter) (enc rest : Bytes) (h : ser f = .ok enc)
    (hlen : f.vData.length ≤ Model.Wire.MAX_SIZE) :
    de (enc ++ rest) = .ok (f, rest) ∧ deserialize enc = .ok f :=
  ⟨de_ser f enc rest h hlen, deserialize_ser f enc h hlen⟩

/-- … hence every membership answer is preserved by a round trip -/
theorem reload_preserves_answers (f g : Filter) (hlen : f.vData.length ≤ Model.Wire.MAX_SIZE)
    (h : reload f = .ok g) (x : Elem) : containsElem g x = containsElem f x := by
  rw [reload_eq f g hlen h]

/-- a filter whose data is empty (as can arrive from the wire, with any hash-function count) matches
    every element and ignores inserts instead of failing (the CVE-2013-5700 rule, D16: both methods
    return early when `len(self.vData) == 0`) -/
theorem empty_matches_all (f : Filter) (h : f.vData = []) (e : Bytes) :
    Model.Bloom.contains f e = .ok true ∧ Model.Bloom.insert f e = .ok f := by
  have h0 : f.vData.length = 0 := by rw [h]; rfl
  unfold Model.Bloom.contains Model.Bloom.insert
  rw [if_pos h0, if_pos h0]
  exact ⟨rfl, rfl⟩

/-- the deserialiser accepts empty data with any `nHashFuncs`: such filters do arrive -/
theorem empty_arrives (k t : Nat) (fl : Nat) (hk : k < 2 ^ 32) (ht : t < 2 ^ 32) (hf : fl < 2 ^ 8) :
    deserialize ([0x00] ++ leBytes 4 k ++ leBytes 4 t ++ leBytes 1 fl) =
      .ok { vData := [], nHashFuncs := k, nTweak := t, nFlags := fl } := by
  exact (dec_de ⟨[], k, t, fl⟩ (Nat.zero_le _) ⟨hk, ht, hf⟩).deserialize_exact _

/-! ### non-vacuity -/

example : create (.error .valueerr) (fun _ => .ok 1) 0 0 = .error .valueerr := rfl
example : create (.ok 100) (fun _ => .error zeroDivisionError) 0 0 = .error zeroDivisionError := by
  obtain ⟨n, hn⟩ := sizeBytes_ok (x := 100) (by decide)
  exact create_y_error 0 0 hn rfl

/-- the D16 replay: `00 03000000 00000000 01` is a well-formed filter with no data and k = 3 … -/
example : deserialize [0x00, 3, 0, 0, 0, 0, 0, 0, 0, 1] =
    .ok { vData := [], nHashFuncs := 3, nTweak := 0, nFlags := 1 } := by
  have := empty_arrives 3 0 1 (by omega) (by omega) (by omega)
  simpa [leBytes] using this
/-- … which matches `b"abc"` -/
example : Model.Bloom.contains { vData := [], nHashFuncs := 3, nTweak := 0, nFlags := 1 } [0x61, 0x62, 0x63] =
    .ok true := (empty_matches_all _ rfl _).1

example : WF { vData := [0, 0, 0], nHashFuncs := 5, nTweak := 0xffffffff, nFlags := 1 } := by
  unfold WF; simp [Model.Wire.MAX_SIZE]
/-- a history meeting the hypotheses of `no_false_negative` / `run_ok` -/
example : ∃ f, run { vData := [0, 0, 0], nHashFuncs := 5, nTweak := 7, nFlags := 1 }
    [.insert (.bytes [1, 2, 3, 4, 5]), .reload, .insert (.outpoint { hash := List.replicate 32 9, n := 1 })]
      = .ok f := by
  apply run_ok
  · unfold WF; simp [Model.Wire.MAX_SIZE]
  · intro o ho
    simp at ho
    subst ho
    simp
/-- seeds of the schedule are below 2^32, as `murmur_eq_spec` requires -/
example (i t : Nat) : (i * 0xFBA4C795 + t) &&& 0xFFFFFFFF < 2 ^ 32 := by
  rw [and_M32]; exact Nat.mod_lt _ (by omega)
/-- the reference vectors of MurmurHash3 x86_32 -/
example : Spec.Bloom.murmur3 0 [] = 0 := by decide
example : Spec.Bloom.murmur3 0xFBA4C795 [0] = 0xea3f0b17 := by decide
example : Spec.Bloom.murmur3 0 [0x00, 0x11, 0x22, 0x33, 0x44, 0x55, 0x66] = 0xb074502c := by decide

end BtcVerif.C20

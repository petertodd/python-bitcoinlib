/-
  C18 — P2P messages: framing, payload layout and stream parsing exact and invertible.
  Statements use only Model.Msg.* (mirror of bitcoin/messages.py + bitcoin/net.py, with the
  stream position part of every outcome) and Spec.Msg.* (the protocol documentation's layout).
  Helper lemmas live in Proofs/Messages.lean.

  Spec and Model are written independently: the Spec's command table, its 12-byte command field
  ("name then NULs up to 12"), its checksum (first four bytes of SHA-256d) and its protocol-version
  constants are its own; the Model has its own transcription of the `command` class attributes, pads
  with `b"\x00" * (12 - len(command))`, chains two SHA-256 calls and carries net.py's constants.
  `frame_eq_spec` is where they meet.  `ChecksumLen` (SHA-256d digests are 32 bytes) is proved
  (`checksum_len`, from Proofs/CryptoLen.lean); no theorem carries it as a hypothesis.
  No theorem needs collision resistance: `bad_checksum_rejected` is stated for a checksum field that
  differs from the checksum of the payload actually carried.

  Domain.  `WFMsg` is "field values the protocol version carries" for EVERY protocol version of
  `version` (fields from 106 / 209 / 70001 as the protocol documentation and BIP37 prescribe; 10300
  included and carried as 10300: that the reference client and the library read it as 300 is finding
  D24).  All theorems, framing and parsing, hold on all of it.  (The shipped `msg_ser` writes every
  field whatever nVersion, so its frames differ below 70001 — finding D20; the model is written for
  the repaired code.)
-/
import BtcVerif.Proofs.Messages

namespace BtcVerif.C18
open BtcVerif Model.Wire Model.Msg Spec.Msg

/-- the four chains' magic values are 4 bytes long (so the theorems below apply to each chain) -/
theorem chain_magic_length : ∀ p ∈ BtcVerif.Spec.chainTable, (p.messageStart.map UInt8.ofNat).length = 4 := by
  decide

/-! ### framing produces the prescribed bytes -/

/-- `msg_ser` of every type writes the payload the protocol prescribes -/
theorem payload_eq_spec (m : Msg) (hwf : WFMsg m) : msgSer m = .ok (payload m) := msgSer_ok m hwf

/-- `to_bytes` = magic ‖ NUL-padded command ‖ u32 length ‖ checksum ‖ prescribed payload -/
theorem frame_eq_spec (magic : Bytes) (m : Msg) (hwf : WFMsg m)
    (hlen : (payload m).length < 2 ^ 32) :
    toBytes magic m = .ok (frameMsg magic m) := by
  obtain ⟨hc, _⟩ := command_props m
  unfold toBytes
  rw [msgSer_ok m hwf]
  simp only [Res.ok_bind, Model.Msg.frame, frameMsg, Spec.Msg.frame, checksum_eq, command_eq,
    commandField_eq _ hc]
  rw [Codec.packU_ok (show (payload m).length < 256 ^ 4 from hlen)]
  simp

/-- the checksum field is four bytes long: SHA-256d digests have 32 -/
theorem checksum_len : ChecksumLen := checksumLen

/-- the model's command constants (its transcription of the `command` class attributes) are the
    protocol's command names -/
theorem command_eq_spec (m : Msg) : Model.Msg.command m = Spec.Msg.command m := command_eq m

/-! ### parsing inverts framing -/

/-- the `messagemap` entry for the type's command parses the prescribed payload back to the same
    field values (`norm`: an all-empty transaction witness comes back as no witness), whatever
    bytes follow -/
theorem payload_roundtrip (pv : Nat) (m : Msg) (hwf : WFMsg m) (hpv : AddrProto pv m) :
    ∃ p, msgDeser pv (Spec.Msg.command m) = some p ∧ ∀ rest, p (payload m ++ rest) = .ok (norm m, rest) := by
  obtain ⟨p, hp, hd⟩ := payload_parse pv m hwf hpv
  exact ⟨p, hp, hd.1⟩

/-- parsing a frame followed by anything returns the message and leaves exactly what followed -/
theorem parse_frame (pv : Nat) (magic : Bytes) (hm : magic.length = 4) (m : Msg)
    (hwf : WFMsg m) (hpv : AddrProto pv m) (hlen : (payload m).length ≤ Spec.Wire.maxSize) (rest : Bytes) :
    streamDeserialize magic pv (frameMsg magic m ++ rest) = (.ok (some (norm m)), rest) := by
  obtain ⟨hc, hz⟩ := command_props m
  obtain ⟨p, hp, hd⟩ := payload_parse pv m hwf hpv
  unfold frameMsg
  rw [streamDeserialize_frame magic pv (Spec.Msg.command m) (payload m) rest hm hc hz hlen]
  simp only [dispatch, hp, hd.exact]

/-- re-framing what parsing yields is byte-identical to framing the original -/
theorem reframe_identical (magic : Bytes) (m : Msg) : toBytes magic (norm m) = toBytes magic m := by
  unfold toBytes
  rw [msgSer_norm, command_norm]

/-- frame → parse → frame reproduces the frame -/
theorem parse_reframe (pv : Nat) (magic : Bytes) (hm : magic.length = 4) (m : Msg)
    (hwf : WFMsg m) (hpv : AddrProto pv m) (hlen : (payload m).length ≤ Spec.Wire.maxSize) (rest : Bytes) :
    ∃ m', streamDeserialize magic pv (frameMsg magic m ++ rest) = (.ok (some m'), rest) ∧
      toBytes magic m' = .ok (frameMsg magic m) := by
  refine ⟨norm m, parse_frame pv magic hm m hwf hpv hlen rest, ?_⟩
  rw [reframe_identical]
  exact frame_eq_spec magic m hwf (by
    have : Spec.Wire.maxSize < 2 ^ 32 := by decide
    omega)

/-- `from_bytes` ignores what follows the first frame -/
theorem fromBytes_frame (pv : Nat) (magic : Bytes) (hm : magic.length = 4) (m : Msg)
    (hwf : WFMsg m) (hpv : AddrProto pv m) (hlen : (payload m).length ≤ Spec.Wire.maxSize) (extra : Bytes) :
    fromBytes magic pv (frameMsg magic m ++ extra) = .ok (some (norm m)) := by
  unfold fromBytes
  rw [parse_frame pv magic hm m hwf hpv hlen extra]

/-- the loop with positions: after the i-th message exactly the frames that follow it (and `tail`)
    remain unread; `parse_stream_append` is its projection -/
theorem parse_stream_trace (pv : Nat) (magic : Bytes) (hm : magic.length = 4) (ms : List Msg)
    (h : ∀ m ∈ ms, WFMsg m ∧ AddrProto pv m ∧ (payload m).length ≤ Spec.Wire.maxSize) (tail : Bytes) :
    parseTrace magic pv ((ms.map (frameMsg magic)).flatten ++ tail) =
      (streamTrace magic ms tail ++ (parseTrace magic pv tail).1, (parseTrace magic pv tail).2) := by
  induction ms with
  | nil => rfl
  | cons m ms ih =>
    obtain ⟨hwf, hpv, hlen⟩ := h m (by simp)
    rw [streamTrace_norm, List.map_cons, List.flatten_cons, List.append_assoc,
      parseTrace_cons magic pv (frameMsg_ne_nil magic m _ hm) (parse_frame pv magic hm m hwf hpv hlen _),
      ih (fun x hx => h x (by simp [hx]))]
    rfl

/-- `parseAll` (what the other stream theorems speak about) is the projection of `parseTrace` (what
    the driver prints, with positions): same messages, same final error -/
theorem parseAll_eq_trace (pv : Nat) (magic s : Bytes) :
    parseAll magic pv s = ((parseTrace magic pv s).1.map Prod.fst, (parseTrace magic pv s).2.map Prod.fst) :=
  parseAllAux_eq_trace magic pv s.length s

/-- frames followed by anything: the messages of the frames in order, each call consuming exactly
    its frame, then whatever reading the remainder yields (e.g. the error of a faulty frame) — so a
    fault after `n` good frames is reported after exactly those `n` messages -/
theorem parse_stream_append (pv : Nat) (magic : Bytes) (hm : magic.length = 4) (ms : List Msg)
    (h : ∀ m ∈ ms, WFMsg m ∧ AddrProto pv m ∧ (payload m).length ≤ Spec.Wire.maxSize) (tail : Bytes) :
    parseAll magic pv ((ms.map (frameMsg magic)).flatten ++ tail) =
      (ms.map (fun m => some (norm m)) ++ (parseAll magic pv tail).1, (parseAll magic pv tail).2) := by
  rw [parseAll_eq_trace, parse_stream_trace pv magic hm ms h tail, parseAll_eq_trace pv magic tail,
    List.map_append, streamTrace_fst]

/-- a stream of concatenated frames yields the messages in order, each call consuming exactly
    its frame, and the loop ends without an error -/
theorem parse_stream (pv : Nat) (magic : Bytes) (hm : magic.length = 4) (ms : List Msg)
    (h : ∀ m ∈ ms, WFMsg m ∧ AddrProto pv m ∧ (payload m).length ≤ Spec.Wire.maxSize) :
    parseAll magic pv ((ms.map (frameMsg magic)).flatten) = (ms.map (fun m => some (norm m)), none) := by
  have := parse_stream_append pv magic hm ms h []
  rwa [List.append_nil, show parseAll magic pv [] = ([], none) from rfl, List.append_nil] at this

/-! ### rejection: wrong magic, wrong checksum, truncation, impossible length -/

/-- a stream that does not start with the chain's magic is rejected (ValueError once the 24
    header bytes could be read, truncation error before); the header is consumed, nothing more -/
theorem bad_magic_rejected (pv : Nat) (magic s : Bytes) (h : s.take 4 ≠ magic) :
    streamDeserialize magic pv s =
      if s.length < 24 then (.error .trunc, []) else (.error .valueerr, s.drop 24) := by
  by_cases hs : s.length < 24
  · rw [if_pos hs]; exact streamDeserialize_short magic pv s hs
  · rw [if_neg hs, streamDeserialize_unfold magic pv s (by omega), if_pos h]

/-- a frame whose checksum field differs from the checksum of the payload it carries is rejected
    with ValueError, whatever its command and payload; the frame is consumed -/
theorem bad_checksum_rejected (pv : Nat) (magic cmdField cks payload rest : Bytes) (hm : magic.length = 4)
    (hc : cmdField.length = 12) (hk : cks.length = 4) (hp : payload.length ≤ Spec.Wire.maxSize)
    (hbad : cks ≠ Model.Msg.checksum payload) :
    streamDeserialize magic pv (magic ++ cmdField ++ leBytes 4 payload.length ++ cks ++ (payload ++ rest)) =
      (.error .valueerr, rest) := by
  rw [streamDeserialize_fields magic pv _ _ _ _ _ hm hc (leBytes_length _ _) hk, leNat_leBytes4 hp,
    List.take_left' rfl, List.drop_left' rfl]
  have h1 : ¬ payload.length > MAX_SIZE := Nat.not_lt.2 hp
  have h2 : ¬ (payload ++ rest).length < payload.length := by simp
  simp only [ne_eq, not_true_eq_false, if_false, h1, h2, hbad, not_false_eq_true, if_true]

/-- a frame whose payload was altered in transit (same length, header untouched) is rejected unless
    the altered payload has the same 32-bit checksum — the one cryptographic assumption, explicit -/
theorem corrupted_payload_rejected (pv : Nat) (magic cmd payload payload' rest : Bytes)
    (hm : magic.length = 4) (hc : cmd.length ≤ 12) (hl : payload'.length = payload.length)
    (hp : payload.length ≤ Spec.Wire.maxSize)
    (hno : Model.Msg.checksum payload' ≠ Model.Msg.checksum payload) :
    streamDeserialize magic pv (magic ++ commandField cmd ++ leBytes 4 payload.length ++
      Model.Msg.checksum payload ++ (payload' ++ rest)) = (.error .valueerr, rest) := by
  have := bad_checksum_rejected pv magic (commandField cmd) (Model.Msg.checksum payload) payload' rest hm
    (commandField_length cmd hc) (checksumLen payload) (by omega) (fun h => hno h.symm)
  rw [hl] at this
  exact this

/-- whatever is returned (a message, or `None` for an unknown command) came from a frame with the
    right magic, an honourable length and a matching checksum, and exactly that frame was consumed:
    no rejected stream is ever returned as a message -/
theorem accepted_frame_valid (pv : Nat) (magic s : Bytes) (m : Option Msg) (r : Bytes)
    (h : streamDeserialize magic pv s = (.ok m, r)) :
    24 ≤ s.length ∧ s.take 4 = magic ∧ declaredLen s ≤ MAX_SIZE ∧ 24 + declaredLen s ≤ s.length ∧
    (s.drop 20).take 4 = Model.Msg.checksum ((s.drop 24).take (declaredLen s)) ∧
    r = s.drop (24 + declaredLen s) :=
  streamDeserialize_ok_valid magic pv s m r h

/-- the driver's classification of an error as frame-level or payload-level rests on this: when the
    header tests fail the outcome is one of the three frame-level errors, and anything returned
    passed them -/
theorem rejected_before_dispatch (pv : Nat) (magic s : Bytes) (h : frameAccepted magic s = false) :
    ∃ e r, streamDeserialize magic pv s = (.error e, r) ∧ (e = .trunc ∨ e = .valueerr ∨ e = .sererr) :=
  not_accepted_error magic pv s h

theorem returned_was_accepted (pv : Nat) (magic s : Bytes) (m : Option Msg) (r : Bytes)
    (h : streamDeserialize magic pv s = (.ok m, r)) : frameAccepted magic s = true := by
  obtain ⟨h1, h2, h3, h4, h5, _⟩ := streamDeserialize_ok_valid magic pv s m r h
  exact (frameAccepted_iff magic s).mpr ⟨h1, h2, h3, h4, h5⟩

/-- every strict prefix of a frame raises the truncation error (the stream is exhausted) -/
theorem truncated_frame_trunc (pv : Nat) (magic cmd payload : Bytes) (hm : magic.length = 4)
    (hc : cmd.length ≤ 12) (hp : payload.length ≤ Spec.Wire.maxSize) (p : Bytes)
    (hpre : p <+: Spec.Msg.frame magic cmd payload) (hne : p ≠ Spec.Msg.frame magic cmd payload) :
    streamDeserialize magic pv p = (.error .trunc, []) := by
  have hk : (Spec.Msg.checksum payload).length = 4 := checksumLen payload
  have hcf := commandField_length cmd hc
  have hhl : (magic ++ commandField cmd ++ leBytes 4 payload.length ++ Spec.Msg.checksum payload).length = 24 := by
    simp [hm, hcf, hk]
  have hlt : p.length < 24 + payload.length := by
    have hfl : (Spec.Msg.frame magic cmd payload).length = 24 + payload.length := by
      unfold Spec.Msg.frame; rw [List.length_append, hhl]
    have hle := hpre.length_le
    rcases Nat.lt_or_ge p.length (24 + payload.length) with h | h
    · exact h
    · exact absurd (hpre.eq_of_length (by omega)) hne
  by_cases hs : p.length < 24
  · exact streamDeserialize_short magic pv p hs
  · have hp' : p = magic ++ commandField cmd ++ leBytes 4 payload.length ++ Spec.Msg.checksum payload ++
        payload.take (p.length - 24) := by
      refine (List.prefix_iff_eq_take.mp hpre).trans ?_
      unfold Spec.Msg.frame
      rw [List.take_append, List.take_of_length_le (by omega), hhl]
    have h1 : ¬ payload.length > MAX_SIZE := Nat.not_lt.2 hp
    have h2 : (payload.take (p.length - 24)).length < payload.length := by
      rw [List.length_take]; omega
    rw [hp', streamDeserialize_fields magic pv _ _ _ _ _ hm hcf (leBytes_length _ _) hk, leNat_leBytes4 hp]
    simp only [ne_eq, not_true_eq_false, if_false, h1, h2, if_true]

/-- a declared length that cannot be honoured is rejected: above MAX_SIZE without reading a byte
    past the 24-byte header, otherwise (more than the stream holds) with the truncation error
    after reading what is available — never beyond the stream, never a message.
    (False for the shipped signed-length code, D14.) -/
theorem length_guard (pv : Nat) (magic s : Bytes) (h24 : 24 ≤ s.length) (hm : s.take 4 = magic) :
    (declaredLen s > MAX_SIZE → streamDeserialize magic pv s = (.error .sererr, s.drop 24)) ∧
    (declaredLen s ≤ MAX_SIZE → declaredLen s > s.length - 24 →
      streamDeserialize magic pv s = (.error .trunc, [])) := by
  constructor
  · intro h
    rw [streamDeserialize_unfold magic pv s h24]
    simp [hm, h]
  · intro h1 h2
    rw [streamDeserialize_unfold magic pv s h24]
    have : ¬ declaredLen s > MAX_SIZE := by omega
    simp [hm, this, h2]

/-- when the declared length can be honoured the call never reads beyond the frame: the stream
    position afterwards is the end of the header (magic rejected) or the end of the frame -/
theorem position_le_frame_end (pv : Nat) (magic s : Bytes) (h24 : 24 ≤ s.length)
    (hfit : declaredLen s ≤ s.length - 24) (hmax : declaredLen s ≤ MAX_SIZE) :
    (streamDeserialize magic pv s).2 = s.drop 24 ∨
    (streamDeserialize magic pv s).2 = s.drop (24 + declaredLen s) := by
  rw [streamDeserialize_unfold magic pv s h24]
  have c2 : ¬ declaredLen s > MAX_SIZE := by omega
  have c3 : ¬ s.length - 24 < declaredLen s := by omega
  by_cases c1 : s.take 4 ≠ magic
  · left; rw [if_pos c1]
  · right
    rw [if_neg c1, if_neg c2, if_neg c3]
    by_cases c4 : (s.drop 20).take 4 ≠ Model.Msg.checksum ((s.drop 24).take (declaredLen s))
    · rw [if_pos c4]
    · rw [if_neg c4, dispatch_snd]

/-! ### non-vacuity: concrete non-trivial values meet the hypotheses -/

/-- an IPv4-mapped address with time, services, port -/
def exAddr : NetAddr :=
  { protover := 60002, nTime := 1700000000, nServices := 1033,
    ip := ipv4Compat ++ [10, 0, 0, 1], port := 8333 }

example : WFAddr exAddr := by decide

example : WFMsg (.addr [exAddr, { exAddr with ip := List.replicate 16 0x20, port := 0xffff }]) := by
  refine ⟨by decide, ?_⟩
  intro a ha
  simp only [List.mem_cons, List.mem_nil_iff, or_false] at ha
  rcases ha with rfl | rfl <;> decide

example : WFMsg (.version
    { nVersion := 70015, nServices := 1033, nTime := 1700000000,
      addrTo := { exAddr with nTime := 0 }, addrFrom := some { exAddr with nTime := 0, port := 18333 },
      nNonce := some 0xdeadbeefcafe, strSubVer := some (asc ['/', 'x', ':', '1', '/']),
      nStartingHeight := some 800000, fRelay := 1 }) := by
  decide

/-- the library's own default protocol version: a `version` message of version 60002 carries every
    field except the relay flag -/
def exVersion60002 : VersionMsg :=
  { nVersion := 60002, nServices := 1, nTime := 1700000000, addrTo := { exAddr with nTime := 0 },
    addrFrom := some { exAddr with nTime := 0 }, nNonce := some 7, strSubVer := some [],
    nStartingHeight := some (-1), fRelay := 1 }

example : WFMsg (.version exVersion60002) := by decide
/-- D20: at 60002 the prescribed payload has 85 bytes (no relay byte), and that is what `msg_ser` writes -/
example : (payload (.version exVersion60002)).length = 85 := by decide
example : (msgSer (.version exVersion60002)).toOption.map List.length = some 85 := by
  rw [payload_eq_spec _ (by decide)]
  decide
/-- D24: a version field of 10300 is in the domain and is carried as 10300 -/
example : WFMsg (.version { exVersion60002 with nVersion := 10300 }) := by decide

/-- D25: an address of protocol version 31401 carries no time field (26 bytes), and the reader that is
    told the protocol version reads it back -/
def exOldAddr : NetAddr := { exAddr with protover := 31401, nTime := 0 }

example : WFMsg (.addr [exOldAddr]) ∧ AddrProto 31401 (.addr [exOldAddr]) := by decide
example : (payload (.addr [exOldAddr])).length = 27 := by decide
example : (payload (.addr [exAddr])).length = 31 := by decide
example : AddrProto 60002 (.version exVersion60002) := by decide

/-- a version-105 message: four fields only, nothing else carried -/
def exVersion105 : VersionMsg :=
  { exVersion60002 with nVersion := 105, addrFrom := none, nNonce := none, strSubVer := none,
                        nStartingHeight := none }

example : WFMsg (.version exVersion105) := by decide

example : WFMsg (.inv [{ type := 1, hash := List.replicate 32 0xab }, { type := 0x40000002, hash := List.replicate 32 1 }]) := by
  refine ⟨by decide, ?_⟩
  intro i hi
  simp only [List.mem_cons, List.mem_nil_iff, or_false] at hi
  rcases hi with rfl | rfl <;> decide

example : WFMsg (.getheaders { nVersion := 70015, vHave := [List.replicate 32 7] } (List.replicate 32 0)) := by
  refine ⟨⟨by decide, by decide, by decide, ?_⟩, by decide⟩
  intro h hh
  simp only [List.mem_cons, List.mem_nil_iff, or_false] at hh
  subst hh; decide

/-- a two-input witness transaction and a block holding it -/
def exTx : Tx :=
  { nVersion := 2, nLockTime := 0xffffffff,
    vin := [{ prevout := { hash := List.replicate 32 0xaa, n := 0 }, scriptSig := [], nSequence := 0xfffffffe },
            { prevout := { hash := List.replicate 32 0xbb, n := 1 }, scriptSig := [0x51], nSequence := 0 }],
    vout := [{ nValue := 5000000000, scriptPubKey := [0x00, 0x14] ++ List.replicate 20 7 }],
    wit := [[List.replicate 72 1, List.replicate 33 2], []] }

example : WFMsg (.tx exTx) := by decide
def exHeader : Header :=
  { nVersion := 0x20000000, hashPrevBlock := List.replicate 32 1, hashMerkleRoot := List.replicate 32 2,
    nTime := 1700000000, nBits := 0x207fffff, nNonce := 0xffffffff }

example : WFMsg (.block { hdr := exHeader, vtx := [exTx] }) := by decide
example : WFMsg (.headers [exHeader, { exHeader with nVersion := -1 }]) := by decide

example : WFMsg (.reject (asc ['t', 'x']) [0x10] (asc ['b', 'a', 'd'])) := by decide
example : WFMsg (.ping 0xffffffffffffffff) := by decide

/-- D15: the prescribed payload of a `headers` message with two headers: a count byte, and a zero
    transaction count after each header (163 bytes for 80-byte headers) -/
example (h1 h2 : Header) : (payload (.headers [h1, h2])).length =
    1 + (Spec.Wire.header h1).length + 1 + (Spec.Wire.header h2).length + 1 := by
  simp [payload, Spec.Wire.vec, headerEntry, Spec.Wire.compactSize]; omega

/-- D14: a header declaring length 0xffffffff is refused with 24 bytes consumed, whatever follows -/
example (pv : Nat) (magic rest : Bytes) (hm : magic.length = 4) (cmdField cks : Bytes) (hc : cmdField.length = 12)
    (hk : cks.length = 4) :
    streamDeserialize magic pv (magic ++ cmdField ++ [0xff, 0xff, 0xff, 0xff] ++ cks ++ rest) =
      (.error .sererr, rest) := by
  rw [streamDeserialize_fields magic pv _ _ _ _ _ hm hc rfl hk]
  simp only [ne_eq, not_true_eq_false, if_false]
  exact if_pos (by decide)

end BtcVerif.C18

/-
  C19 — RPC proxy: property theorems.
  Statements use only Model.Rpc.* (mirror of bitcoin/rpc.py and of x/lx/b2lx) and Spec.Rpc.* (the
  number grammar of JSON with its exact value, Bitcoin Core's reversed-hex form of hashes, the table
  of registered error classes).  Helper lemmas live in Proofs/Rpc.lean and Proofs/RpcFloat.lean.

  PARTIAL (DESIGN §6 C19): amounts *sent* go through `float(amount)/COIN` and `float.__repr__`.
  IEEE-754 rounding and shortest-repr are not modelled; see the UNPROVED block under "amounts sent".
  The correspondence run re-parses every emitted request body with exact decimal arithmetic.
-/
import BtcVerif.Proofs.Rpc
import BtcVerif.Proofs.RpcFloat

namespace BtcVerif.C19
open BtcVerif Model.Rpc
open BtcVerif.Rpc
open BtcVerif.Spec.Rpc (NumText)

/-! ### amounts received -/

theorem amountIn_render (t : NumText) (hwf : t.WF) : amountIn t.render = some (amountInNum t) := by
  unfold amountIn
  rw [scanNumber_render t hwf]
  rfl

/-- Every JSON number text that denotes exactly `k` satoshis — in any form the grammar allows: fixed
    point with any number of (zero) extra decimals, exponent notation, a plain integer, either sign of
    zero — is converted to exactly `k`.  `|k| < 10^28` is the precision of the decimal context; the
    money range ends at 2.1·10^15.  `InLimits`: the numeral is within CPython's own size limits (integers
    of at most 4300 digits, exponents within ±10^18); beyond them `json.loads` refuses the body. -/
theorem amount_in_exact (t : NumText) (hwf : t.WF) (hlim : InLimits t) (k : Int) (hk : k.natAbs < 10 ^ 28)
    (h : t.denotes k) : amountIn t.render = some (.ok k) := by
  rw [amountIn_render t hwf, amountInNum_exact t hlim k hk h]

/-- for JSON integers (no fraction, no exponent) the conversion is exact for every value Python's `int()`
    accepts (4300 digits) -/
theorem amount_in_exact_int (t : NumText) (hwf : t.WF) (hf : t.frac = none) (he : t.exp = none)
    (hlen : t.intDigits.length ≤ INT_MAX_STR_DIGITS) :
    amountIn t.render =
      some (.ok (applySign t.neg (Spec.Rpc.digitsVal t.intDigits * Spec.Rpc.COIN))) := by
  rw [amountIn_render t hwf, amountInNum_int t ⟨hf, he⟩, if_neg (by omega)]

/-! ### hashes and hex transport -/

/-- `unhexlify_str(hexlify_str(b)) = b`: serialised transactions, headers and blocks cross the hex
    encoding bit-exactly (what is serialised and what deserialisation makes of the bytes is C01) -/
theorem hex_transport (b : Bytes) : unhexlify (hexlify b) = .ok b := by
  unfold unhexlify hexlify
  rw [ofHex_toHex]

/-- … so deserialising what arrived is deserialising what was serialised -/
theorem transport_de {α : Type} (de : Bytes → α) (b : Bytes) :
    (unhexlify (hexlify b)).map de = .ok (de b) := by
  rw [hex_transport]; rfl

/-- what is sent for a hash is Bitcoin Core's form of it: the hex of the bytes in reverse order -/
theorem b2lx_is_core_form (h : Bytes) : b2lx h = Spec.Rpc.coreHex h := rfl

/-- a hash survives the trip out and back, for byte strings of any length … -/
theorem hash_roundtrip_bytes (h : Bytes) : lx (b2lx h) = .ok h := by
  unfold lx b2lx
  rw [hex_transport]
  show Except.ok h.reverse.reverse = _
  rw [List.reverse_reverse]

/-- … and a hash string returned by one call can be passed to another unchanged: for every lower-case
    hex string that `lx` accepts (64 digits in particular), `b2lx (lx s) = s` -/
theorem hash_roundtrip_text (s : String) (hl : ∀ c ∈ s.toList, Spec.Rpc.isLowerHexChar c = true) (b : Bytes)
    (h : lx s = .ok b) : b2lx b = s := by
  unfold lx unhexlify at h
  cases hx : ofHex? s with
  | none => rw [hx] at h; cases h
  | some raw =>
    rw [hx] at h
    have hb : b = raw.reverse := by cases h; rfl
    unfold b2lx hexlify
    rw [hb, List.reverse_reverse]
    exact toHex_ofHex s raw hl hx

/-- both directions together, in the shape of the property text -/
theorem hash_roundtrip (h : Bytes) (s : String) (hl : ∀ c ∈ s.toList, Spec.Rpc.isLowerHexChar c = true) :
    lx (b2lx h) = .ok h ∧ ∀ b, lx s = .ok b → b2lx b = s :=
  ⟨hash_roundtrip_bytes h, fun b hb => hash_roundtrip_text s hl b hb⟩

/-- every even-length lower-case hex string is accepted by `lx` (so the hypothesis above is met by
    what Bitcoin Core sends) -/
theorem lx_accepts (b : Bytes) : lx (Spec.Rpc.coreHex b) = .ok b := hash_roundtrip_bytes b

/-! ### error replies -/

/-- An error reply — `error` present and not null — never yields a result: it raises the class
    registered for its code (the base class for unregistered, non-numeric or missing codes, and for a
    non-dict error), whatever `result` says. -/
theorem error_reply_raises (err : ErrVal) (res : Option String) (hne : err ≠ .absent ∧ err ≠ .null) :
    (∃ cls code, callOutcome (.obj err res) = .raise cls code ∧
      (∀ c, err = .dict c → cls = classFor c ∧ code = c.show) ∧
      (err = .other → cls = Spec.Rpc.baseClass)) ∧
    ∀ v, callOutcome (.obj err res) ≠ .result v := by
  cases err with
  | absent => exact absurd rfl hne.1
  | null => exact absurd rfl hne.2
  | dict c =>
    refine ⟨⟨classFor c, c.show, rfl, ?_, ?_⟩, ?_⟩
    · intro c' h; cases h; exact ⟨rfl, rfl⟩
    · intro h; cases h
    · intro v h; cases h
  | other =>
    refine ⟨⟨Spec.Rpc.classOf (-344), "-344", rfl, ?_, ?_⟩, ?_⟩
    · intro c h; cases h
    · intro _; decide
    · intro v h; cases h

/-- an integer code gets exactly the class the table registers for it, the base class otherwise -/
theorem class_of_int_code (n : Int) : classFor (.int n) = Spec.Rpc.classOf n := rfl

theorem class_of_registered : classFor (.int (-5)) = "InvalidAddressOrKeyError" ∧
    classFor (.int (-8)) = "InvalidParameterError" ∧ classFor (.int (-28)) = "InWarmupError" ∧
    classFor (.int (-2)) = "ForbiddenBySafeModeError" ∧ classFor (.int (-25)) = "VerifyError" ∧
    classFor (.int (-26)) = "VerifyRejectedError" ∧ classFor (.int (-27)) = "VerifyAlreadyInChainError" :=
  ⟨rfl, rfl, rfl, rfl, rfl, rfl, rfl⟩

theorem class_of_odd_codes : classFor .absent = Spec.Rpc.baseClass ∧ classFor .null = Spec.Rpc.baseClass ∧
    classFor .str = Spec.Rpc.baseClass ∧ classFor (.bool true) = Spec.Rpc.baseClass ∧
    classFor (.bool false) = Spec.Rpc.baseClass ∧ classFor .unhashable = Spec.Rpc.baseClass :=
  ⟨rfl, rfl, rfl, rfl, rfl, rfl⟩

/-- an error reply whose `code` is a JSON array or object is still an error reply: it raises the base
    RPC error class and never yields a result (D19: `dict.get` on an unhashable key raises TypeError,
    which `JSONRPCError.__new__` catches) -/
theorem unhashable_code_raises (res : Option String) :
    callOutcome (.obj (.dict .unhashable) res) = .raise Spec.Rpc.baseClass "unhashable" := rfl

/-- bodies that are no reply object at all — not UTF-8, or JSON that is not an object — are not error
    replies; what `_call` does with them is an escaping CPython exception (never a result).
    These are observations of the model, outside the statement of the property. -/
theorem non_reply_outcomes : callOutcome .nonUtf8 = .pyExc "UnicodeDecodeError" ∧
    callOutcome .nonObject = .pyExc "AttributeError" ∧
    callOutcome .nonJson = .raise Spec.Rpc.baseClass "-342" ∧
    callOutcome .noResponse = .raise Spec.Rpc.baseClass "-342" := ⟨rfl, rfl, rfl, rfl⟩

/-- every JSON number text standing for an amount is converted to an integer, refused with
    decimal.Overflow, or — numerals beyond CPython's size limits — rejected with the whole body as
    JSONRPCError(-342); no other exception comes out of `int(Decimal(text) * COIN)` … -/
theorem amount_in_outcomes (t : NumText) (hwf : t.WF) :
    (∃ k, amountIn t.render = some (.ok k)) ∨ amountIn t.render = some (.error overflow) ∨
      amountIn t.render = some (.error .rpcerr) := by
  rw [amountIn_render t hwf]
  exact (amountInNum_outcomes t).imp (fun ⟨k, hk⟩ => ⟨k, congrArg some hk⟩)
    (Or.imp (congrArg some) (congrArg some))

/-- … whereas the other JSON values that can stand in an amount's place raise CPython's own
    exceptions (observations, not part of the property: NaN → ValueError, ±Infinity → OverflowError,
    null → TypeError; true/false are taken as 1/0 BTC) -/
theorem amount_special_values : amountOfVal .nan = some (.error .valueerr) ∧
    amountOfVal (.inf false) = some (.error (.py "OverflowError")) ∧
    amountOfVal (.inf true) = some (.error (.py "OverflowError")) ∧
    amountOfVal .null = some (.error (.py "TypeError")) ∧
    amountOfVal (.bool true) = some (.ok 100000000) ∧ amountOfVal (.bool false) = some (.ok 0) := by
  refine ⟨rfl, rfl, rfl, rfl, rfl, rfl⟩

/-- a result comes only out of a reply object whose `error` is absent or null and which has a `result`:
    a missing or unparsable HTTP response and a reply without `result` raise as well -/
theorem no_result_without_result (r : Reply) (v : String) (h : callOutcome r = .result v) :
    ∃ err, (err = .absent ∨ err = .null) ∧ r = .obj err (some v) := by
  cases r with
  | noResponse => cases h
  | nonJson => cases h
  | nonUtf8 => cases h
  | nonObject => cases h
  | obj err res =>
    cases err with
    | dict c => cases h
    | other => cases h
    | absent =>
      cases res with
      | none => cases h
      | some w => cases h; exact ⟨.absent, Or.inl rfl, rfl⟩
    | null =>
      cases res with
      | none => cases h
      | some w => cases h; exact ⟨.null, Or.inr rfl, rfl⟩

/-- the typed Proxy methods never turn an error reply into a result either: they re-raise, or convert
    the documented class into IndexError -/
theorem method_error_never_result (m : String) (err : ErrVal) (res : Option String)
    (hne : err ≠ .absent ∧ err ≠ .null) (v : String) : methodOutcome m (.obj err res) ≠ .result v := by
  obtain ⟨⟨cls, code, hc, _⟩, _⟩ := error_reply_raises err res hne
  unfold methodOutcome
  rw [hc]
  simp only []
  split <;> simp

/-! ### request ids -/

/-- `_call` takes an id, `_batch` does not -/
def isCall : Req → Bool
  | .call _ => true
  | .batch => false

/-- the ids sent are the counter values following the current one, one per `_call` -/
theorem idsSent_eq (rs : List Req) (s : PState) :
    idsSent s rs = List.range' (s.idCount + 1) (rs.countP isCall) := by
  induction rs generalizing s with
  | nil => rfl
  | cons r rs ih =>
    cases r with
    | call f => rw [List.countP_cons_of_pos rfl, List.range'_succ, ← ih]; rfl
    | batch => rw [List.countP_cons_of_neg (by decide), ← ih]; rfl

theorem ids_gt_counter (rs : List Req) (s : PState) : ∀ n ∈ idsSent s rs, s.idCount < n := by
  rw [idsSent_eq]
  exact fun n hn => (List.mem_range'_1.1 hn).1

/-- over any history of requests on one proxy, the ids the proxy sends strictly increase — whatever
    becomes of each call (`Req.call` carries its fate: any reply, including none, garbage, non-UTF-8,
    non-object, error or result, or a connection that raises), with batches in between -/
theorem ids_strictly_increase : ∀ (rs : List Req) (s : PState), (idsSent s rs).Pairwise (· < ·) := by
  intro rs s
  rw [idsSent_eq]
  exact List.pairwise_lt_range'

/-- the counter is independent of what happens to the calls: two histories that differ only in the
    fates of their calls send the same ids -/
theorem ids_independent_of_fate : ∀ (rs rs' : List Req) (s : PState),
    List.Forall₂ (fun a b => (a = .batch ↔ b = .batch)) rs rs' → idsSent s rs = idsSent s rs' := by
  intro rs rs' s h
  rw [idsSent_eq, idsSent_eq]
  congr 1
  induction h with
  | nil => rfl
  | @cons a b _ _ hab _ ih =>
    rw [List.countP_cons, List.countP_cons, ih]
    cases a <;> cases b <;> first | rfl | exact absurd (hab.1 rfl) nofun | exact absurd (hab.2 rfl) nofun

/-- and a fresh proxy counts 1, 2, 3, … whatever the fates -/
theorem ids_of_calls (fs : List Fate) (s : PState) :
    idsSent s (fs.map .call) = (List.range' (s.idCount + 1) fs.length) := by
  rw [idsSent_eq, List.countP_map, List.countP_eq_length.2 fun _ _ => (rfl : (isCall ∘ Req.call) _ = true)]

/-! ### amounts sent: what the check executes on the emitted text -/

/-- `satoshisDenoted` (run by the driver on the JSON number the proxy put into the request body) returns
    `k` only if the text denotes exactly `k` satoshis … -/
theorem satoshis_denoted_sound (t : NumText) (hwf : t.WF) (k : Int) (h : satoshisDenoted t.render = some k) :
    t.denotes k := (satoshisDenoted_iff t hwf k).1 h

/-- … and returns it whenever the text denotes whole satoshis -/
theorem satoshis_denoted_complete (t : NumText) (hwf : t.WF) (k : Int) (h : t.denotes k) :
    ∃ k', satoshisDenoted t.render = some k' ∧ k'.natAbs = k.natAbs := ⟨k, (satoshisDenoted_iff t hwf k).2 h, rfl⟩

/-
-- UNPROVED (full statement): amounts sent.
--   For every amount `0 ≤ a ≤ 21·10^14`, the JSON text `json.dumps` emits for `float(a)/COIN` denotes
--   exactly `a / 10^8`:
--       ∀ a ≤ 21·10^14,  valueOf (floatRepr (fdiv (ofInt a) (ofInt 10^8))) = a / 10^8
--   where `fdiv` is IEEE-754 binary64 division with round-to-nearest-even and `floatRepr` is CPython's
--   `float.__repr__` (the shortest decimal string that parses back to the same double).
--   Missing: a model of binary64 and of `float.__repr__`; neither is derivable from the Python
--   sources of /repo.  The proved version below, `amount_out_exact_partial`, takes the two facts about
--   them that the argument needs as explicit hypotheses.
-/

/-- PARTIAL (send side).  What is missing relative to the full statement above: `rn` ("the double
    nearest to") and the emitted numeral `m · 10^p` are not computed from a model of IEEE-754 and of
    `float.__repr__`; instead
      * `hspacing` assumes the spacing of binary64 on the money range only: for `y ∈ [10^-8, 21·10^6]`
        (normal doubles; no subnormals, no overflow) a positive real with the same nearest double as
        `y` differs from it by at most 2^-52 of the larger one (round-to-nearest, 53-bit significand:
        the rounding interval of a normal double `q` is at most `ulp(q) ≤ q·2^-52` wide, ≤ 2^-28 here) —
        a statement IEEE-754 binary64 satisfies, unlike the unrestricted one,
      * `hrt` and `hshort` assume the contract of `float.__repr__`: the numeral parses back to the
        double that was formatted, and no numeral with fewer significant digits does.
    Under these, for every amount `0 < a ≤ 21·10^14` the numeral denotes exactly `a / 10^8`.
    (`a = 0` is formatted as `0.0`.)  The correspondence run checks the conclusion on the real
    `float`/`repr` by re-parsing every request body with exact decimal arithmetic. -/
theorem amount_out_exact_partial
    (rn : ℚ → ℚ)
    (hspacing : ∀ x y : ℚ, 0 < x → (1 : ℚ) / 10 ^ 8 ≤ y → y ≤ 21 * 10 ^ 6 → rn x = rn y →
      |x - y| ≤ max x y / 2 ^ 52)
    (a : ℕ) (ha : 0 < a) (ha2 : a ≤ 21 * 10 ^ 14)
    (m : ℕ) (p : ℤ) (hm : m % 10 ≠ 0)
    (hrt : rn (decVal m p) = rn ((a : ℚ) / 10 ^ 8))
    (hshort : ∀ (m' : ℕ) (p' : ℤ), m' % 10 ≠ 0 → rn (decVal m' p') = rn ((a : ℚ) / 10 ^ 8) →
      ndigits m ≤ ndigits m') :
    decVal m p = (a : ℚ) / 10 ^ 8 :=
  repr_denotes_amount rn hspacing a ha ha2 m p hm hrt hshort

/-- the conclusion of `amount_out_exact_partial` (`m · 10^p = a / 10^8` over the rationals) is the
    same statement as `denotesSat` over the integers, which is what `satoshisDenoted` decides -/
theorem numeral_denotes_iff (m : ℕ) (p : ℤ) (a : ℕ) :
    decVal m p = (a : ℚ) / 10 ^ 8 ↔ Spec.Rpc.denotesSat false m p (a : ℤ) := decVal_iff_denotes m p a

/-! ### non-vacuity -/

/-- the numeral "0.10000000" -/
def tenth : NumText := ⟨false, ['0'], some ['1', '0', '0', '0', '0', '0', '0', '0'], none⟩

theorem tenth_wf : tenth.WF := by
  refine ⟨by simp [tenth], by decide, Or.inl rfl, ?_, ?_⟩
  · intro f h; cases h; exact ⟨by simp, by decide⟩
  · intro m s ds h; cases h

theorem tenth_denotes : tenth.denotes 10000000 := ⟨by decide, by decide, by decide⟩

/-- "0.10000000" is well formed and denotes 10 000 000 satoshis -/
example : (⟨false, ['0'], some ['1', '0', '0', '0', '0', '0', '0', '0'], none⟩ : NumText).WF := tenth_wf
example : (⟨false, ['0'], some ['1', '0', '0', '0', '0', '0', '0', '0'], none⟩ : NumText).denotes 10000000 := tenth_denotes
/-- "1e-8" denotes one satoshi, "-21000000" denotes −21·10^14 -/
example : (⟨false, ['1'], none, some ('e', some '-', ['8'])⟩ : NumText).denotes 1 := by
  refine ⟨by decide, by decide, by decide⟩
example : (⟨false, ['0'], some ['1', '0', '0', '0', '0', '0', '0', '0'], none⟩ : NumText).render =
    "0.10000000".toList := by decide
/-- … hence, by `amount_in_exact`, the text "0.10000000" is converted to 10 000 000 -/
example : amountIn "0.10000000".toList = some (.ok 10000000) := by
  have hlim : InLimits tenth := by
    refine ⟨by decide, by decide, ?_⟩
    have h1 : ndigits tenth.coeff ≤ PREC := (ndigits_le_iff (by decide)).2 (by decide)
    have h2 : tenth.expo = -8 := by decide
    rw [h2]; unfold MAX_EMAX PREC at *; omega
  exact amount_in_exact tenth tenth_wf hlim 10000000 (by decide) tenth_denotes
/-- error replies meeting the hypothesis -/
example : (ErrVal.dict (.int (-5))) ≠ .absent ∧ (ErrVal.dict (.int (-5))) ≠ .null := by decide
example : callOutcome (.obj (.dict (.int (-5))) (some "x")) = .raise "InvalidAddressOrKeyError" "-5" := rfl
example : callOutcome (.obj (.dict (.dec true 50 (-1))) none) = .raise "InvalidAddressOrKeyError" "dec" := rfl
example : callOutcome (.obj .other (some "x")) = .raise "JSONRPCError" "-344" := rfl
example : callOutcome (.obj (.dict .unhashable) (some "x")) = .raise "JSONRPCError" "unhashable" := rfl
example : methodOutcome "getblock" (.obj (.dict (.int (-5))) none) = .pyExc "IndexError" := rfl
example : idsSent PState.init [.call (.replied .nonUtf8), .batch, .call .connectionError,
    .call (.replied (.obj .absent (some "1")))] = [1, 2, 3] := by decide
example : methodOutcome "gettxout" (.obj .null (some "@null")) = .pyExc "IndexError" := rfl
/-- the genesis block hash in Core's form -/
example : b2lx [0x6f, 0xe2, 0x8c, 0x0a] = "0a8ce26f" := rfl
/-- the hypotheses are satisfiable: with exact arithmetic for `rn` (every real its own "double") the
    spacing bound holds trivially and the shortest numeral of 0.5 BTC is `5 · 10^-1` -/
example : decVal 5 (-1) = ((50000000 : ℕ) : ℚ) / 10 ^ 8 := by
  apply amount_out_exact_partial id _ 50000000 (by norm_num) (by norm_num) 5 (-1) (by norm_num)
  · show decVal 5 (-1) = _
    unfold decVal; norm_num
  · intro m' p' _ _
    have : ndigits 5 = 1 := by rw [ndigits]; simp
    rw [this]; exact ndigits_pos m'
  · intro x y _ hy _ h
    have : x = y := h
    subst this
    simp only [sub_self, abs_zero, max_self]
    positivity

end BtcVerif.C19

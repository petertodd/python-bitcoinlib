/-
  C06 — Script evaluation agrees with reference Script semantics: property theorems.

  `Model.ScriptEval` mirrors bitcoin/core/scripteval.py (repaired for D4 / D5); `Spec.Script.Ref`
  is the reference interpreter in the shape of Bitcoin Core's interpreter.cpp.  Both use the same
  opaque primitives `Env` (three hash functions, `sigCheck`).  Helper lemmas:
  Proofs/ScriptEquiv*.lean, Proofs/ScriptNumCodec.lean, Proofs/ScriptOpEnc.lean, Proofs/ScriptFad.lean.

  PROVED for EVERY opcode class: pushes (all four encodings, truncation), small integers, flow
  control (IF / NOTIF / ELSE / ENDIF with `vfExec`, VERIFY, RETURN), stack and altstack manipulation,
  SIZE, EQUAL(VERIFY), the unary and binary numeric opcodes with the 4-byte operand rule, WITHIN,
  the five hash opcodes, OP_CODESEPARATOR, OP_CHECKSIG(VERIFY) and OP_CHECKMULTISIG(VERIFY) with
  `FindAndDelete` of the signatures, the dummy element and NULLDUMMY, NOP and the upgradable NOPs
  (DISCOURAGE_UPGRADABLE_NOPS), disabled opcodes and OP_VERIF / OP_VERNOTIF in executed and
  unexecuted branches, reserved and unknown opcodes, and the limits (10 000 bytes, 520 bytes,
  201 counted operations including multisig keys, 1 000 stack items, checked after every operation
  including pushes).

  Hypotheses of the full theorems (`eval_equiv`, `eval_stack`, `verify_equiv`):
  * `SigHashOK c` — `RawSignatureHash` returns a digest for every script code that tokenises (true of the
    real one for a transaction in wire range and `0 ≤ inIdx` or a negative index that wraps around
    `vin` and `vout`: `C06.Concrete.sigHashOK_real`; the other negative indices: C07, D7);
  * `CodesepInsensitive c.env` — the signature check does not depend on a leading
    OP_CODESEPARATOR of the script code: the model keeps the last executed separator in front of the
    subscript, the reference starts after it, and the legacy signature hash removes every
    separator before hashing (proved for the real one: `C06.Concrete.codesepInsensitive_real`);
  * `HashesOK` — hash outputs are at most 520 bytes (20 / 32 for the real ones: `C06.Concrete.hashesOK_real`);
  * for `EvalScript` from a caller-supplied stack: at most 1 000 items of less than 2³² bytes
    (C07's invariant carries this through the run; `VerifyScript` starts from the empty stack).
  The `_partial` variants need none of these and hold for scripts without the four signature opcodes.
-/
import BtcVerif.Proofs.ScriptEquivFull
import BtcVerif.Proofs.ScriptNumCodec

namespace BtcVerif.C06
open BtcVerif BtcVerif.Spec BtcVerif.Spec.Script BtcVerif.Model.Script BtcVerif.Model.ScriptEval

/-! ### building blocks that hold without restriction -/

/-- `_CastToBool` is Core's `CastToBool` on every byte string -/
theorem castToBool_equiv (s : Bytes) : castToBool s = Ref.castToBool s := castToBool_eq s

/-- `bn2vch` (through `bn2mpi` / `mpi2vch`) is `CScriptNum::serialize` on every integer -/
theorem num_encode_equiv (v : Int) : bn2vch v = .ok (Ref.scriptNumSer v) := bn2vch_eq v

/-- `vch2bn` is `CScriptNum::set_vch` on every byte string that CPython can `struct.pack` the
    length of -/
theorem num_decode_equiv (s : Bytes) (h : s.length < 2 ^ 32) : vch2bn s = .ok (Ref.scriptNumDecode s) :=
  vch2bn_eq s h

/-- `_CastToBigNum` fails exactly when `CScriptNum(vch, false, 4)` throws, else yields its value -/
theorem num_operand_equiv (s : Bytes) (st : St) :
    match Ref.scriptNum? s with
    | none => ∃ e, castToBigNum s st = .error e
    | some v => castToBigNum s st = .ok v := castToBigNum_eq s st

/-- one step of `CScript.raw_iter` against `CScript::GetOp` on the same suffix: same opcode, same
    pushed data, same remaining bytes; a malformed push on one side is one on the other -/
theorem tokenise_equiv (idx : Nat) (s : Bytes) :
    match rawStep idx s with
    | none => s = []
    | some (.err _) => s ≠ [] ∧ Ref.getOp s = none
    | some (.op o rest) => Ref.getOp s = some (o.opcode, o.data.getD [], rest) ∧ o.sopIdx = idx := by
  have h := rawStep_getOp idx s
  cases hr : rawStep idx s with
  | none => rw [hr] at h; exact h
  | some st =>
    rw [hr] at h
    cases st with
    | err e => exact h
    | op o rest => exact ⟨h.1, h.2.1⟩

/-- `CScript.is_push_only` is `CScript::IsPushOnly`, `is_p2sh` is `IsPayToScriptHash` -/
theorem predicates_equiv (s : Bytes) :
    isPushOnly s = Ref.isPushOnly s ∧ isP2sh s = Ref.isPayToScriptHash s :=
  ⟨isPushOnly_eq s, isP2sh_eq s⟩

/-! ### simulation -/

/-- one iteration of the interpreter loop on corresponding states.  If the model's
    iteration succeeds so does the reference's, in the corresponding state (same stack, altstack,
    `vfExec`, operation count; `pbegincodehash` related by `CodeRel`); if the model raises, the
    reference returns false.  This variant has no side hypotheses and covers every opcode class
    except the four signature opcodes (`uncoveredOps`); those are covered by `step_simT`
    (Proofs/ScriptEquivFull.lean) under the hypotheses of `eval_equiv`. -/
theorem step_equiv (c : Ctx) (fl : Flags) (script : Bytes) (op : RawOp) (pc' code : Bytes) (st : St)
    (hcov : op.opcode ∉ uncoveredOps)
    (hd1 : op.opcode ≤ 0x4e → op.data.isSome) (hd2 : op.opcode > 0x4e → op.data = none)
    (hsep : op.opcode = 0xab → script.drop op.sopIdx = 0xab :: pc')
    (hcode : CodeRel script st.pbegin code) (hnop : st.nOpCount ≤ MAX_OPS_PER_SCRIPT) :
    match step c fl script op st with
    | .ok st' => ∃ code', Ref.loopBody c.env fl op.opcode (op.data.getD []) pc' (toRef st code) =
        some (toRef st' code') ∧ CodeRel script st'.pbegin code' ∧ st'.nOpCount ≤ MAX_OPS_PER_SCRIPT
    | .error _ => Ref.loopBody c.env fl op.opcode (op.data.getD []) pc' (toRef st code) = none :=
  (step_sim c fl script op pc' code st hcov hd1 hd2 hsep hcode hnop).of_false

/-- hypothesis-free variant of `eval_equiv` + `eval_stack`: for ANY initial stack (no size bound),
    flag set, context and script bytes free of the four signature opcodes, `EvalScript` fails
    exactly when the reference fails, and otherwise leaves exactly the reference's final stack.
    (`_partial`: restricted to `ScriptCovered` scripts; the unrestricted statement is `eval_equiv`.) -/
theorem eval_equiv_partial (c : Ctx) (fl : Flags) (stack : List Bytes) (script : Bytes)
    (hcov : ScriptCovered script) :
    match evalScript c fl stack script with
    | .ok s' => Ref.evalScript c.env fl stack script = some s'
    | .error _ => Ref.evalScript c.env fl stack script = none :=
  evalScript_sim c fl stack script hcov

/-- `EvalScript` raises exactly when the reference `EvalScript` returns false -/
theorem eval_fails_iff_partial (c : Ctx) (fl : Flags) (stack : List Bytes) (script : Bytes)
    (hcov : ScriptCovered script) :
    (∃ e, evalScript c fl stack script = .error e) ↔ Ref.evalScript c.env fl stack script = none :=
  (evalScript_sim c fl stack script hcov).fails_iff

/-- when `EvalScript` returns and the reference succeeds, the final stacks are equal -/
theorem eval_stack_partial (c : Ctx) (fl : Flags) (stack : List Bytes) (script : Bytes)
    (hcov : ScriptCovered script) (s1 s2 : List Bytes)
    (h1 : evalScript c fl stack script = .ok s1) (h2 : Ref.evalScript c.env fl stack script = some s2) :
    s1 = s2 :=
  (evalScript_sim c fl stack script hcov).stack_eq h1 h2

/-- hypothesis-free variant of `verify_equiv` (`_partial`: scriptSig, scriptPubKey and — for P2SH —
    the redeem script free of the four signature opcodes; no assumption on the context).  Covers the
    P2SH rules (push-only scriptSig, redeem script = last element of the copied stack) and
    CLEANSTACK.  The unrestricted statement is `verify_equiv`. -/
theorem verify_equiv_partial (c : Ctx) (fl : Flags) (sig spk : Bytes) (hf : fl.admissible = true)
    (hsig : ScriptCovered sig) (hspk : ScriptCovered spk)
    (hredeem : ∀ s1 x r, evalScript c fl [] sig = .ok s1 → s1 = x :: r → ScriptCovered x) :
    (verifyScript c fl sig spk = .ok ()) ↔ (Ref.verifyScript c.env fl sig spk = true) :=
  (verifyScript_sim c fl sig spk hf hsig hspk hredeem).iff

/-! ### the full statements -/

/-- `FindAndDelete(script, CScript([sig]))`: CScriptInvalidError when `raw_iter` raises, otherwise
    exactly the reference's (Core's tolerant) result -/
theorem findAndDelete_equiv (cap : Captured) (script sig : Bytes) (h : sig.length < 2 ^ 32) :
    findAndDelete cap script (Ref.pushEnc sig) =
      if (rawIter script).2.isSome then .error (.invalid cap)
      else .ok (Ref.findAndDelete script (Ref.pushEnc sig)) :=
  findAndDelete_eq cap script _ (pushEnc_pat sig h)

/-- one iteration of the interpreter loop on corresponding states, EVERY opcode
    class (the signature-checking opcodes included).  `tailP` stands for "the script has a malformed
    push further on": only then may the model stop with CScriptInvalidError (raised by the `raw_iter`
    inside `FindAndDelete`) while the reference carries on — and fails at that push
    (`evalLoop_tail_fail`). -/
theorem step_equiv_full (c : Ctx) (fl : Flags) (script : Bytes) (op : RawOp) (pc' code : Bytes) (st : St)
    (tailP : Prop)
    (hd1 : op.opcode ≤ 0x4e → op.data.isSome) (hd2 : op.opcode > 0x4e → op.data = none)
    (hsep : op.opcode = 0xab → script.drop op.sopIdx = 0xab :: pc')
    (hcode : CodeRel script st.pbegin code) (hnop : st.nOpCount ≤ MAX_OPS_PER_SCRIPT)
    (hsh : SigHashOK c) (hcs : CodesepInsensitive c.env) (hel : ∀ x ∈ st.stack, x.length < 2 ^ 32)
    (htl : (rawIter (script.drop st.pbegin)).2.isSome → tailP) (hsl : script.length ≤ MAX_SCRIPT_SIZE) :
    match step c fl script op st with
    | .ok st' => ∃ code', Ref.loopBody c.env fl op.opcode (op.data.getD []) pc' (toRef st code) =
        some (toRef st' code') ∧ CodeRel script st'.pbegin code' ∧ st'.nOpCount ≤ MAX_OPS_PER_SCRIPT ∧
        (st'.pbegin = st.pbegin ∨ st'.pbegin = op.sopIdx)
    | .error e => Ref.loopBody c.env fl op.opcode (op.data.getD []) pc' (toRef st code) = none ∨
        (tailP ∧ ∃ cap, e = .invalid cap) :=
  step_simT c fl script op pc' code st tailP hd1 hd2 hsep hcode hnop hsh hcs hel htl hsl

/-- for every script (arbitrary bytes, every opcode), flag set and initial stack
    within the limits, `EvalScript` fails exactly when the reference fails, and otherwise leaves
    exactly the reference's final stack -/
theorem eval_equiv (c : Ctx) (fl : Flags) (stack : List Bytes) (script : Bytes) (B : Nat)
    (hB : 520 ≤ B) (hB2 : B < 2 ^ 32) (hh : HashesOK c.env.hashes) (hsh : SigHashOK c)
    (hcs : CodesepInsensitive c.env) (hs : stack.length ≤ 1000) (he : ∀ x ∈ stack, x.length ≤ B) :
    match evalScript c fl stack script with
    | .ok s' => Ref.evalScript c.env fl stack script = some s'
    | .error _ => Ref.evalScript c.env fl stack script = none :=
  evalScript_simT c fl stack script B hB hB2 hh hsh hcs hs he

/-- `EvalScript` raises exactly when the reference `EvalScript` returns false -/
theorem eval_fails_iff (c : Ctx) (fl : Flags) (stack : List Bytes) (script : Bytes) (B : Nat)
    (hB : 520 ≤ B) (hB2 : B < 2 ^ 32) (hh : HashesOK c.env.hashes) (hsh : SigHashOK c)
    (hcs : CodesepInsensitive c.env) (hs : stack.length ≤ 1000) (he : ∀ x ∈ stack, x.length ≤ B) :
    (∃ e, evalScript c fl stack script = .error e) ↔ Ref.evalScript c.env fl stack script = none :=
  (evalScript_simT c fl stack script B hB hB2 hh hsh hcs hs he).fails_iff

/-- when `EvalScript` returns and the reference succeeds, the final stacks are equal -/
theorem eval_stack (c : Ctx) (fl : Flags) (stack : List Bytes) (script : Bytes) (B : Nat)
    (hB : 520 ≤ B) (hB2 : B < 2 ^ 32) (hh : HashesOK c.env.hashes) (hsh : SigHashOK c)
    (hcs : CodesepInsensitive c.env) (hs : stack.length ≤ 1000) (he : ∀ x ∈ stack, x.length ≤ B)
    (s1 s2 : List Bytes) (h1 : evalScript c fl stack script = .ok s1)
    (h2 : Ref.evalScript c.env fl stack script = some s2) : s1 = s2 :=
  (evalScript_simT c fl stack script B hB hB2 hh hsh hcs hs he).stack_eq h1 h2

/-- under each of the 12 admissible flag sets, for arbitrary scriptSig and
    scriptPubKey bytes, `VerifyScript` accepts exactly when the reference accepts -/
theorem verify_equiv (c : Ctx) (fl : Flags) (sig spk : Bytes) (hf : fl.admissible = true)
    (hh : HashesOK c.env.hashes) (hsh : SigHashOK c) (hcs : CodesepInsensitive c.env) :
    (verifyScript c fl sig spk = .ok ()) ↔ (Ref.verifyScript c.env fl sig spk = true) :=
  (verifyScript_simT c fl sig spk hf hh hsh hcs).iff

/-! ### non-vacuity -/

example : ({ p2sh := true, cleanStack := true, nullDummy := true, discourageNops := true } : Flags).admissible = true := by
  decide

/-- the coverage hypothesis is met by scripts over the rest of the alphabet, e.g. `1 2 ADD 3 EQUAL` … -/
example : ScriptCovered [0x51, 0x52, 0x93, 0x53, 0x87] := by
  intro o ho
  have h : (rawIter [0x51, 0x52, 0x93, 0x53, 0x87]).1.map (·.opcode) = [0x51, 0x52, 0x93, 0x53, 0x87] := by
    rw [rawIter, rawIterFrom_op (o := ⟨0x51, none, 0⟩) (rest := [0x52, 0x93, 0x53, 0x87]) rfl,
      rawIterFrom_op (o := ⟨0x52, none, 1⟩) (rest := [0x93, 0x53, 0x87]) rfl,
      rawIterFrom_op (o := ⟨0x93, none, 2⟩) (rest := [0x53, 0x87]) rfl,
      rawIterFrom_op (o := ⟨0x53, none, 3⟩) (rest := [0x87]) rfl,
      rawIterFrom_op (o := ⟨0x87, none, 4⟩) (rest := []) rfl, rawIterFrom_none rfl]
    rfl
  have hm : o.opcode ∈ (rawIter [0x51, 0x52, 0x93, 0x53, 0x87]).1.map (·.opcode) := List.mem_map_of_mem ho
  rw [h] at hm
  simp only [List.mem_cons, List.mem_nil_iff, or_false] at hm
  simp only [uncoveredOps, List.mem_cons, List.mem_nil_iff, or_false]
  omega

/-- … and by the empty script, on which both sides return the initial stack -/
example (c : Ctx) (fl : Flags) (st : List Bytes) : Ref.evalScript c.env fl st [] = some st := by
  simp [Ref.evalScript, evalLoop_nil, MAX_SCRIPT_SIZE]

/-- the hypotheses of the full theorems are met, e.g. by a signature check that hashes the script code
    with every OP_CODESEPARATOR byte removed from its front -/
example : CodesepInsensitive
    ({ hashes := { sha1 := fun _ => [], ripemd160 := fun _ => [], sha256 := fun _ => [] },
       sigCheck := fun body _ sc _ => body == sc.dropWhile (· == 0xab) } : Env) := by
  intro body pk sc ht
  simp [List.dropWhile]

end BtcVerif.C06

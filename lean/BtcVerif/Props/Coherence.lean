import BtcVerif.Proofs.Coherence

/-!
  # Coherence of the per-property models

  Several concepts of python-bitcoinlib (and of the reference definitions) are modelled more than once,
  once for each property that needs them.  Every theorem below states that two such copies denote the
  same thing: for every input where that is true, and otherwise under a hypothesis (those cases are
  flagged **differ**; the witness is in the doc-comment).  Helper lemmas: Proofs/Coherence.lean and
  Proofs/GetOp.lean.  `hash256` is never unfolded.
-/
namespace BtcVerif.Coherence
open BtcVerif BtcVerif.Crypto

/-! ### legacy signature operations -/

/-- C08's `GetSigOpCount(fAccurate=False)` and C16's count are the same function of the script -/
theorem sigops_models (s : Bytes) :
    Model.Script.getSigOpCount s false = .ok (Model.BlockCheck.sigOpCount s) := by
  unfold Model.Script.getSigOpCount Model.BlockCheck.sigOpCount
  rw [CoherenceProofs.sigOpsLoop_legacy]
  simp only [Nat.zero_add]
  rfl

/-- the two reference counts (C16's GetOp recursion, C08's `parse`-based one) agree on every byte string -/
theorem sigops_specs (s : Bytes) : Spec.BlockCheck.sigOps s = Spec.Script.sigOpCount false s := by
  have h1 := C08.sigops_eq_spec s false
  rw [sigops_models, BlockCheckProofs.sigOpCount_eq] at h1
  exact Except.ok.inj h1

theorem getOp_script_ref (s : Bytes) : Spec.Script.getOp s = Spec.Script.Ref.getOp s :=
  BtcVerif.getOp_script_ref s

/-- C16's GetOp is C08's with the pushed data dropped -/
theorem getOp_blockcheck (s : Bytes) :
    Spec.BlockCheck.getOp s = (Spec.Script.getOp s).map (fun x => (x.1, x.2.2)) :=
  BtcVerif.getOp_blockcheck s

/-- C03/C04's GetOp (opcode byte and size of the operation) against C06's (opcode, data, rest) -/
theorem getOp_sighash (b : UInt8) (r : Bytes) :
    match Spec.Script.Ref.getOp (b :: r) with
    | none => Spec.Sighash.getOp (b :: r) = none
    | some (o, _, rest) =>
        ∃ n, Spec.Sighash.getOp (b :: r) = some (b, n) ∧ 1 ≤ n ∧ n ≤ (b :: r).length ∧
          rest = (b :: r).drop n ∧ o = b.toNat := by
  rw [← BtcVerif.getOp_script_ref]; exact sighash_getOp_script b r

/-! ### serialisation and identifiers -/

theorem wfTx_txRange (t : Tx) (h : Spec.Wire.WFTx t) : Spec.Merkle.TxRange t := by
  obtain ⟨h1, h2, _, h4, h5, h6, h7, h8, h9, h10⟩ := h
  refine ⟨h1, h2, h4, h5, h6, h7, ?_, h9, h10⟩
  rcases h8 with h | h
  · simp [h]
  · omega

theorem wfBlock_blockRange (b : Block) (h : Spec.Wire.WFBlock b) : Spec.Merkle.BlockRange b :=
  ⟨h.1, h.2.1, fun t ht => wfTx_txRange t (h.2.2 t ht)⟩

/-- on C01's domain the serialisation lemmas of C15/C16 and C01's theorems are the same statements
    (C15/C16's hold on the larger domain `TxRange`: no input required, fewer stacks than inputs allowed) -/
theorem ser_lemmas_agree (t : Tx) (h : Spec.Wire.WFTx t) :
    SerSpec.serTx_true t (wfTx_txRange t h) = C01.ser_eq_spec t h ∧
    SerSpec.serTx_false t (wfTx_txRange t h) = C01.ser_stripped_eq_spec t h := ⟨rfl, rfl⟩

theorem txid_defs (t : Tx) (b : Block) :
    Spec.Merkle.txid t = Spec.Ident.txid hash256 t ∧ Spec.Merkle.wtxid t = Spec.Ident.wtxid hash256 t ∧
    Spec.Merkle.blockStripped b = Spec.Wire.header b.hdr ++ Spec.Wire.vec Spec.Wire.txLegacy b.vtx :=
  ⟨rfl, rfl, rfl⟩

theorem ctorValid_eq_validTx (t : Tx) : Model.Merkle.ctorValid t = Spec.ValueSem.validTx t := rfl

theorem fromTx_eq_ctorValid (t : Tx) :
    Model.Sighash.fromTx t = if Model.Merkle.ctorValid t then .ok t else .error .valueerr := by
  unfold Model.Sighash.fromTx Model.Merkle.ctorValid Model.Sighash.fromTxInOk
  have e : (t.vin.all (fun i => decide (i.prevout.hash.length = 32) && decide (i.prevout.n ≤ 0xffffffff) &&
        decide (i.nSequence ≤ 0xffffffff)) && decide (t.nLockTime ≤ 0xffffffff)) =
      (decide (t.nLockTime ≤ 0xffffffff) && t.vin.all (fun i =>
        (i.prevout.hash.length == 32 && decide (i.prevout.n ≤ 0xffffffff)) && decide (i.nSequence ≤ 0xffffffff))) := by
    rw [Bool.and_comm]
    congr 2
  rw [e]

/-- `GetTxid` of C15/C16 and of C09's value semantics: the same outcome for every transaction -/
theorem getTxid_merkle_valueSem (t : Tx) : Model.Merkle.getTxid t = Spec.ValueSem.txidOf t := by
  unfold Model.Merkle.getTxid Spec.ValueSem.txidOf
  cases hw : Model.Wire.serWitness t.wit with
  | error e => rfl
  | ok w =>
    have h0 : Model.Wire.serWitness [] = .ok [] := rfl
    simp only [bind, Except.bind, h0, ctorValid_eq_validTx]
    rfl

/-- C02's and C15/C16's `GetTxid` are the same function of the transaction: both mirror the
    ValueError of the validating constructor through which the stripped copy is built -/
theorem getTxid_ident_merkle (t : Tx) : Model.Ident.getTxid t = Model.Merkle.getTxid t :=
  CoherenceProofs.ident_getTxid_eq_merkle_all t

theorem getHash_merkle_ident (t : Tx) : Model.Merkle.getHash t = Model.Ident.getHash t := by
  unfold Model.Merkle.getHash Model.Ident.getHash Model.Ident.getHashWith
  cases Model.Wire.serTx t <;> rfl

/-- on fields in wire range every model of `GetTxid` / `GetHash` returns the protocol's txid / wtxid -/
theorem txid_all_on_range (t : Tx) (h : Spec.Merkle.TxRange t) :
    Model.Merkle.getTxid t = .ok (Spec.Ident.txid hash256 t) ∧
    Model.Ident.getTxid t = .ok (Spec.Ident.txid hash256 t) ∧
    Spec.ValueSem.txidOf t = .ok (Spec.Ident.txid hash256 t) ∧
    Model.Ident.getHash t = .ok (Spec.Ident.wtxid hash256 t) := by
  have h1 := MerkleProofs.getTxid_ok t h
  refine ⟨h1, ?_, ?_, ?_⟩
  · rw [getTxid_ident_merkle t]; exact h1
  · rw [← getTxid_merkle_valueSem]; exact h1
  · rw [← getHash_merkle_ident]; exact MerkleProofs.getHash_ok t h

/-- `block.get_header()` in CheckBlock (C16) and in `CBlock.GetHash` (C02) -/
theorem getHeader_models (b : Block) : Model.BlockCheck.getHeader b.hdr = Model.Ident.getHeader b := by
  unfold Model.BlockCheck.getHeader Model.Ident.getHeader
  by_cases h1 : b.hdr.hashPrevBlock.length ≠ 32
  · simp [h1, throw, throwThe, MonadExceptOf.throw, bind, Except.bind]
  · by_cases h2 : b.hdr.hashMerkleRoot.length ≠ 32
    · simp [h1, h2, throw, throwThe, MonadExceptOf.throw, bind, Except.bind]
    · simp [h1, h2, pure, Except.pure]

/-- the header hash CheckBlockHeader feeds to the proof-of-work check is C02's header hash -/
theorem headerHash_models (h : Header) :
    Model.Ident.headerHash h = (Model.Wire.serHeader h).map hash256 := by
  unfold Model.Ident.headerHash Model.Ident.headerHashWith
  cases Model.Wire.serHeader h <;> rfl

/-- C09's `GetHash` of a block hashes the header without the `get_header()` step.  **Differ**: a
    block whose `hashPrevBlock` is 31 bytes long and whose `nVersion` is 2³¹: C02 → AssertionError
    (the CBlockHeader constructor, as in the code), C09 → struct.error. -/
theorem identOf_block (b : Block) (h1 : b.hdr.hashPrevBlock.length = 32) (h2 : b.hdr.hashMerkleRoot.length = 32) :
    Spec.ValueSem.identOf (.block b) = Model.Ident.blockHash b := by
  unfold Spec.ValueSem.identOf Model.Ident.blockHash Model.Ident.blockHashWith Model.Ident.getHeader
    Model.Ident.headerHashWith
  simp only [h1, h2, ne_eq, not_true_eq_false, if_false, bind, Except.bind, pure, Except.pure]
  cases Model.Wire.serHeader b.hdr <;> rfl

/-! ### P2P payloads -/

theorem msg_tx_payload (t : Tx) : Spec.Msg.payload (.tx t) = Spec.Wire.txBytes t := rfl

theorem msg_block_payload (b : Block) : Spec.Msg.payload (.block b) = Spec.Wire.block b := rfl

/-- a `headers` entry is the 80-byte header followed by the CompactSize transaction count 0 -/
theorem msg_headers_entry (h : Header) (hs : List Header) :
    Spec.Msg.headerEntry h = Spec.Wire.header h ++ [0x00] ∧
    Spec.Msg.payload (.headers hs) = Spec.Wire.vec (fun h => Spec.Wire.header h ++ [0x00]) hs := by
  constructor
  · rfl
  · rfl

theorem msg_model_payloads (t : Tx) (b : Block) :
    Model.Msg.msgSer (.tx t) = Model.Wire.serTx t ∧ Model.Msg.msgSer (.block b) = Model.Wire.serBlock b :=
  ⟨rfl, rfl⟩

/-- the hash of a `tx` message's payload is the wtxid of C02 / C15 -/
theorem msg_tx_payload_hash (t : Tx) :
    hash256 (Spec.Msg.payload (.tx t)) = Spec.Merkle.wtxid t ∧
    Spec.Merkle.wtxid t = Spec.Ident.wtxid hash256 t := ⟨rfl, rfl⟩

/-- C18's well-formedness of a `tx` / `block` message is C01's, hence inside C15/C16's domain -/
theorem msg_wf_tx (t : Tx) (b : Block) :
    (Spec.Msg.WFMsg (.tx t) → Spec.Merkle.TxRange t) ∧ (Spec.Msg.WFMsg (.block b) → Spec.Merkle.BlockRange b) :=
  ⟨fun h => wfTx_txRange t h, fun h => wfBlock_blockRange b h⟩

/-! ### proof of work -/

/-- CheckBlockHeader's proof-of-work step is literally C17's model under the chain's limit -/
theorem checkPoW_is_c17 (p : Spec.ChainParams) (hash : Bytes) (bits : Nat) :
    Model.BlockCheck.checkPoW p hash bits =
      match Model.checkPoW p.powLimit hash bits with
      | .ok => .ok ()
      | .errPow => .error .validation
      | .pyStructError => .error structError := rfl

theorem checkPoW_iff (p : Spec.ChainParams) (hl : p.powLimit < 2 ^ 256) (hash : Bytes) (hh : hash.length = 32)
    (bits : Nat) (hb : bits < 2 ^ 32) :
    Model.BlockCheck.checkPoW p hash bits = .ok () ↔ Spec.powValid p.powLimit hash bits := by
  rw [← C17.pow_iff p.powLimit hl hash hh bits hb, checkPoW_is_c17]
  cases Model.checkPoW p.powLimit hash bits <;> simp

/-! ### FindAndDelete -/

/-- C03's and C06's models of `FindAndDelete` return the same bytes for every script and every
    pattern (they only name the CScriptInvalidError outcome differently) -/
theorem findAndDelete_models (cap : Model.ScriptEval.Captured) (script sig : Bytes) :
    Model.ScriptEval.findAndDelete cap script sig =
      match Model.Sighash.findAndDelete script sig with
      | .ok r => .ok r
      | .error _ => .error (.invalid cap) := by
  unfold Model.ScriptEval.findAndDelete Model.Sighash.findAndDelete
  have h := CoherenceProofs.fad_fold script sig (Model.Script.rawIter script).1
    { r := [], last := 0, skip := true } { r := [], last := 0, skip := true } rfl rfl rfl
  simp only at h
  obtain ⟨h1, h2, h3⟩ := h
  dsimp only
  cases hq : (Model.Script.rawIter script).2 with
  | some e => rfl
  | none => simp only [h1, h2, h3]

/-- … hence C03's model, too, is Core's FindAndDelete on every script that parses and every push
    pattern (C06's `findAndDelete_equiv` transported) -/
theorem findAndDelete_ref (script sig : Bytes) (h : sig.length < 2 ^ 32)
    (hp : (Model.Script.rawIter script).2.isSome = false) :
    Model.Sighash.findAndDelete script (Spec.Script.Ref.pushEnc sig) =
      .ok (Spec.Script.Ref.findAndDelete script (Spec.Script.Ref.pushEnc sig)) := by
  have h1 := C06.findAndDelete_equiv ⟨[], [], 0⟩ script sig h
  rw [findAndDelete_models, hp] at h1
  simp only [Bool.false_eq_true, if_false] at h1
  cases hq : Model.Sighash.findAndDelete script (Spec.Script.Ref.pushEnc sig) with
  | ok r => rw [hq] at h1; simp only [Except.ok.injEq] at h1; rw [h1]
  | error e => rw [hq] at h1; cases h1

/-- removing the OP_CODESEPARATOR operations: Core's `FindAndDelete(script, [OP_CODESEPARATOR])` as
    transcribed for C06 and the `SerializeScriptCode` walk transcribed for C03 give the same bytes
    for EVERY byte string (where tokenisation stops both keep the remaining bytes verbatim) -/
theorem codesep_specs (s : Bytes) :
    Spec.Script.Ref.findAndDelete s [0xab] = Spec.Sighash.scriptCodeNoSep s :=
  CoherenceProofs.fad_codesep s.length s rfl

/-- … so on scripts that parse C03's *model* of `FindAndDelete(script, CScript([OP_CODESEPARATOR]))`
    returns C06's reference result -/
theorem codesep_model_ref (s : Bytes) (h : Spec.Sighash.parses s) :
    Model.Sighash.findAndDelete s [0xab] = .ok (Spec.Script.Ref.findAndDelete s [0xab]) := by
  rw [codesep_specs]; exact C03.findAndDelete_codesep s h

/-! ### script numbers -/

/-- Core's `CScriptNum::serialize` as transcribed for C08 and for C06: every integer -/
theorem numEncode_specs (z : Int) : Spec.Script.numEncode z = Spec.Script.Ref.scriptNumSer z := by
  by_cases hz : z = 0
  · subst hz; rw [numEncode_zero]; simp [Spec.Script.Ref.scriptNumSer]
  obtain ⟨j, hj⟩ : ∃ j, Spec.Script.byteLen z.natAbs = j + 1 :=
    ⟨Spec.Script.byteLen z.natAbs - 1, by have := byteLen_pos (n := z.natAbs) (by omega); omega⟩
  obtain ⟨_, htop_lt, htop⟩ := top_byte hj
  have hres := CoherenceProofs.leMinimal_byteLen z.natAbs
  rw [hj, htop] at hres
  have hlast : (Spec.Script.Ref.leMinimal z.natAbs).getLast? = some (UInt8.ofNat (z.natAbs / 256 ^ j)) := by
    rw [hres]; simp
  rw [numEncode_top hj]
  unfold Spec.Script.Ref.scriptNumSer
  simp only [hz, if_false, hlast, u8_ofNat_toNat _ htop_lt]
  by_cases hge : z.natAbs / 256 ^ j ≥ 128
  · rw [if_pos hge, if_pos hge, hres, htop]
  · rw [if_neg hge, if_neg hge, hres]
    by_cases hneg : z < 0 <;> simp [hneg]

/-- `CScriptNum::set_vch` as transcribed for C08 and for C06: every byte string -/
theorem numDecode_specs (b : Bytes) : Spec.Script.numDecode b = Spec.Script.Ref.scriptNumDecode b := by
  unfold Spec.Script.numDecode Spec.Script.Ref.scriptNumDecode
  rcases List.eq_nil_or_concat b with rfl | ⟨l, x, rfl⟩
  · rfl
  · simp

/-- the two models of `_bignum.bn2vch`.  **Differ**: for `z = 256^(2³²)` (an encoding of 2³² + 1
    bytes) C08's model returns struct.error (`struct.pack(">I", size)` of the MPI route, as the code
    would), C06's returns the encoding. -/
theorem bn2vch_models (z : Int) :
    Model.ScriptEval.bn2vch z = .ok (Spec.Script.numEncode z) ∧
    Model.Script.bn2vch z =
      if (Spec.Script.numEncode z).length < 2 ^ 32 then .ok (Spec.Script.numEncode z) else .error structError := by
  refine ⟨?_, bn2vch_eq z⟩
  rw [Model.ScriptEval.bn2vch_eq, numEncode_specs]

/-- the two models of `_bignum.vch2bn`.  **Differ** only in how the failure of `struct.pack(">I", len)` from
    2³² bytes on is named (`.py "error"` in C06's model, `structError` in C08's). -/
theorem vch2bn_models (b : Bytes) :
    (b.length < 2 ^ 32 →
      Model.ScriptEval.vch2bn b = .ok (Spec.Script.numDecode b) ∧
      Model.Script.vch2bn b = .ok (some (Spec.Script.numDecode b))) ∧
    (¬ b.length < 2 ^ 32 →
      Model.ScriptEval.vch2bn b = .error (.py "error") ∧ Model.Script.vch2bn b = .error structError) := by
  constructor
  · intro h
    refine ⟨?_, by rw [vch2bn_eq, if_pos h]⟩
    rw [Model.ScriptEval.vch2bn_eq b h, numDecode_specs]
  · intro h
    refine ⟨?_, by rw [vch2bn_eq, if_neg h]⟩
    unfold Model.ScriptEval.vch2bn
    have : b.length ≥ 2 ^ 32 := by omega
    rw [if_pos this]

theorem bitLength_models (n : Nat) (e : Bool) :
    Model.ScriptEval.bitLength n = Model.Script.bitLength n ∧
    Model.ScriptEval.bnBytes n e = Model.Script.bnBytes n e :=
  ⟨CoherenceProofs.bitLength_same n, CoherenceProofs.bnBytes_same n e⟩

/-- C17's byte length of a target and C08's byte length of a magnitude -/
theorem nbytes_eq_byteLen (n : Nat) : nbytes n = Spec.Script.byteLen n := by
  induction n using Nat.strongRecOn with
  | _ n ih =>
    rw [nbytes, Spec.Script.byteLen]
    by_cases h : n = 0
    · simp [h]
    · simp only [h, dite_false]
      rw [ih (n / 256) (by omega)]

/-! ### predicates and push encoding -/

theorem isPushOnly_models (s : Bytes) : Model.Script.isPushOnly s = Model.ScriptEval.isPushOnly s := by
  unfold Model.Script.isPushOnly Model.ScriptEval.isPushOnly
  dsimp only
  rw [pushOnlyLoop_eq]
  generalize (Model.Script.rawIter s).1 = ops
  generalize (Model.Script.rawIter s).2 = e
  by_cases h : ops.any (fun o => decide (o.opcode > 0x60)) = true
  · have : ops.all (fun o => decide (o.opcode ≤ 0x60)) = false := by
      rw [List.all_eq_false]
      obtain ⟨o, ho, hc⟩ := List.any_eq_true.mp h
      exact ⟨o, ho, by simp at hc ⊢; omega⟩
    simp [h, this]
  · have h' : ops.any (fun o => decide (o.opcode > 0x60)) = false := by simpa using h
    have : ops.all (fun o => decide (o.opcode ≤ 0x60)) = true := by
      rw [List.all_eq_true]
      intro o ho
      have := List.any_eq_false.mp h' o ho
      simp at this ⊢; omega
    simp [h', this]

theorem isPushOnly_specs (s : Bytes) : Spec.Script.isPushOnly s = Spec.Script.Ref.isPushOnly s := by
  rw [← C08.pred_eq_spec_push_only, isPushOnly_models, (C06.predicates_equiv s).1]

theorem isP2sh_all (s : Bytes) :
    Model.Script.isP2sh s = Model.ScriptEval.isP2sh s ∧ Model.Addr.isP2sh s = Model.Script.isP2sh s ∧
    Spec.Script.isPayToScriptHash s = Spec.Script.Ref.isPayToScriptHash s := by
  refine ⟨rfl, ?_, ?_⟩
  · unfold Model.Addr.isP2sh Model.Script.isP2sh
    rw [Bool.eq_iff_iff]; simp
  · rw [← C08.pred_eq_spec_p2sh, ← (C06.predicates_equiv s).2]; rfl

/-- Core's IsWitnessProgram as transcribed for C08 (returning version and program) and for C03/C04 -/
theorem isWitnessProgram_specs (s : Bytes) :
    (Spec.Script.isWitnessProgram s).isSome = Spec.Sighash.isWitnessProgram s := by
  unfold Spec.Script.isWitnessProgram Spec.Sighash.isWitnessProgram
  match s with
  | [] => simp
  | [_] => simp
  | v :: l :: r =>
    rw [Bool.eq_iff_iff]
    simp only [List.length_cons, decide_eq_true_eq]
    split
    · simp only [Option.isSome_none, Bool.false_eq_true, false_iff]; omega
    · split
      · simp only [Option.isSome_none, Bool.false_eq_true, false_iff]; omega
      · split
        · simp only [Option.isSome_some, true_iff]; omega
        · simp only [Option.isSome_none, Bool.false_eq_true, false_iff]; omega

theorem isWitnessScriptPubKey_models (s : Bytes) :
    Model.Sighash.isWitnessScriptPubKey s = Model.Script.isWitnessScriptPubKey s := by
  rw [C03.isWitnessScriptPubKey_spec, C08.pred_eq_spec_witness_program, isWitnessProgram_specs]

theorem addr_witness_predicates (s : Bytes) :
    Model.Addr.isWitnessV0Keyhash s = Model.Script.isWitnessV0Keyhash s ∧
    Model.Addr.isWitnessV0NestedKeyhash s = Model.Script.isWitnessV0NestedKeyhash s ∧
    Model.Addr.isWitnessV0Scripthash s = Model.Script.isWitnessV0Scripthash s := by
  unfold Model.Addr.isWitnessV0Keyhash Model.Addr.isWitnessV0NestedKeyhash Model.Addr.isWitnessV0Scripthash
    Model.Script.isWitnessV0Keyhash Model.Script.isWitnessV0NestedKeyhash Model.Script.isWitnessV0Scripthash
    Model.Addr.slice
  refine ⟨?_, ?_, ?_⟩ <;> (rw [Bool.eq_iff_iff]; simp)

/-- the four copies of `CScriptOp.encode_op_pushdata` / `CScript() << vch` -/
theorem pushEnc_all (d : Bytes) :
    Model.Addr.pushEnc d = Model.Script.encodeOpPushdata d ∧
    (d.length < 2 ^ 32 →
      Model.Script.encodeOpPushdata d = .ok (Spec.Script.Ref.pushEnc d) ∧
      Model.ScriptEval.encodeOpPushdata d = .ok (Spec.Script.Ref.pushEnc d) ∧
      Spec.Script.pushEncode d = some (Spec.Script.Ref.pushEnc d)) := by
  refine ⟨rfl, ?_⟩
  intro h
  unfold Model.Script.encodeOpPushdata Model.ScriptEval.encodeOpPushdata Spec.Script.pushEncode
    Spec.Script.Ref.pushEnc
  by_cases h1 : d.length < 0x4c
  · simp [h1]
  · by_cases h2 : d.length ≤ 0xff
    · simp [h1, h2]
    · by_cases h3 : d.length ≤ 0xffff
      · simp [h1, h2, h3]
      · have h4 : d.length ≤ 0xffffffff := by omega
        simp [h1, h2, h3, h4]

/-! ### C12's script helpers and C08's builder -/

theorem addr_pushEnc (d : Bytes) : Model.Addr.pushEnc d = Model.Script.encodeOpPushdata d := rfl

/-- `CScript(tuple(scriptPubKey))` in `from_scriptPubKey` (C12) is C08's cooked iteration followed
    by C08's builder, for every byte string -/
theorem canonicalize_eq_build (s : Bytes) :
    Model.Addr.canonicalize s =
      match Model.Script.cooked s with
      | (toks, none) => Model.Script.build toks
      | (_, some (.iter _)) => .error .invalidscript
      | (_, some (.py e)) => .error e := by
  rw [cooked_eq]
  unfold Model.Addr.canonicalize
  have hw := (rawIter_parse s).2.2
  rcases hq : Model.Script.rawIter s with ⟨ops, e⟩
  rw [hq] at hw
  cases e with
  | some x => rfl
  | none => exact CoherenceProofs.recode_build ops hw

/-! ### WIF at the text level -/

/-- `str(CBitcoinSecret.from_secret_bytes(secret, compressed))` parses back, through C10's
    Base58Check, to the same secret and flag — for every version byte, both flags, every hash
    returning at least four bytes -/
theorem wif_text_roundtrip (H : Bytes → Bytes) (hH : ∀ x, 4 ≤ (H x).length) (ver : UInt8)
    (secret : Bytes) (c : Bool) (hs : secret.length = 32) :
    ∃ d, Model.Base58.fromBytes (Model.Keys.wifPayload secret c) (ver.toNat : Int) = .ok d ∧
      ∃ d', Model.Base58.new H (Model.Base58.str H d) = .ok d' ∧
        Model.Keys.wifParse ver.toNat d'.nVersion.toNat d'.data = .ok (secret, c) := by
  obtain ⟨d, h1, _, h3⟩ := C10.check_roundtrip H hH ver (Model.Keys.wifPayload secret c)
  exact ⟨d, h1, ⟨ver, Model.Keys.wifPayload secret c⟩, h3, C13.wif_roundtrip ver.toNat secret c hs⟩

/-- … in particular under the secret-key version byte of each of the four chains -/
theorem wif_text_roundtrip_chains (H : Bytes → Bytes) (hH : ∀ x, 4 ≤ (H x).length)
    (p : Spec.ChainParams) (hp : p ∈ Spec.chainTable) (secret : Bytes) (c : Bool) (hs : secret.length = 32) :
    ∃ d, Model.Base58.fromBytes (Model.Keys.wifPayload secret c) (p.secretKey : Int) = .ok d ∧
      ∃ d', Model.Base58.new H (Model.Base58.str H d) = .ok d' ∧
        Model.Keys.wifParse p.secretKey d'.nVersion.toNat d'.data = .ok (secret, c) := by
  have hlt : p.secretKey < 256 := by
    simp only [Spec.chainTable, List.mem_cons, List.mem_nil_iff, or_false] at hp
    rcases hp with rfl | rfl | rfl | rfl <;> decide
  have := wif_text_roundtrip H hH (UInt8.ofNat p.secretKey) secret c hs
  have e : (UInt8.ofNat p.secretKey).toNat = p.secretKey := by
    simp [UInt8.toNat_ofNat']; omega
  rw [e] at this
  exact this

/-! ### CompactSize prefixes and the hash-length hypotheses -/

/-- the signed-message preimage is prefixed with the wire format's CompactSize (C14 uses
    `Spec.Wire.varBytes` itself) -/
theorem msg_digest_prefix (magic msg : Bytes) :
    Spec.Keys.msgDigest magic msg =
      hash256 (Spec.Wire.compactSize magic.length ++ magic ++ (Spec.Wire.compactSize msg.length ++ msg)) := rfl

/-- C14's and C01's "VarIntSerializer = CompactSize" lemmas are one statement -/
theorem serVarInt_lemmas_agree (n : Nat) (h : n < 2 ^ 64) :
    C14.serVarInt_eq_compactSize n h = Codec.serVarInt_ok h ∧
    SerSpec.serVarInt_ok n h = Codec.serVarInt_ok h := ⟨rfl, rfl⟩

theorem hashLen_defs : C15.HashLen ↔ C16.HashLen := Iff.rfl

/-- the digest-length hypothesis of C15/C16 gives the one of C18 (`ChecksumLen`) and the one of
    C10 / the WIF round trip ("at least four bytes") at SHA-256d -/
theorem hashLen_implies (h : C16.HashLen) :
    Spec.Msg.ChecksumLen ∧ (∀ x : Bytes, 4 ≤ (hash256 x).length) := by
  constructor
  · intro p
    unfold Spec.Msg.checksum
    rw [List.length_take, h p]; rfl
  · intro x; rw [h x]; omega

/-! ### non-vacuity (the conditional statements have satisfiable hypotheses) -/

example : Spec.Merkle.TxRange C16.exTx := by decide
example : C16.exBlock.hdr.hashPrevBlock.length = 32 ∧ C16.exBlock.hdr.hashMerkleRoot.length = 32 := by decide
example : (Spec.Script.isWitnessProgram [0x00, 0x02, 0x61, 0x62]).isSome = true := by decide
end BtcVerif.Coherence

/-
  C05 — the interpreter context of `VerifyScript(scriptSig, scriptPubKey, txTo, inIdx)` with the
  REFERENCE signature hash (`Spec.Templates.txEnv`) and an arbitrary ECDSA function.  The concrete
  context of the library model is `Model.ScriptEval.Real.realCtx` (Model/ScriptEnvReal.lean);
  Props/C05.lean (`*_verify_real`) proves the two give the same verdict on the templates.
  Mathlib-free (linked into btcmodel; the driver evaluates exactly this term).
-/
import BtcVerif.Model.ScriptEval
import BtcVerif.Spec.Templates

namespace BtcVerif.Model.ScriptEval
open BtcVerif BtcVerif.Spec.Script

/-- the interpreter context of input `i` of `tx` -/
def txCtx (hashes : Hashes) (ecdsa : Bytes → Bytes → Bytes → Bool) (tx : Tx) (i : Nat) : Ctx :=
  -- (`Ctx` carries the outcome of RawSignatureHash; here it is the total reference
  --  digest, so `(txCtx hashes ecdsa tx i).env = Spec.Templates.txEnv hashes ecdsa tx i` by `rfl`)
  { hashes := hashes
    sigHash := fun scriptCode ht => .ok (Spec.Sighash.legacySighash scriptCode tx i ht).1
    sigVerify := ecdsa }

theorem txCtx_env (hashes : Hashes) (ecdsa : Bytes → Bytes → Bytes → Bool) (tx : Tx) (i : Nat) :
    (txCtx hashes ecdsa tx i).env = Spec.Templates.txEnv hashes ecdsa tx i := rfl

end BtcVerif.Model.ScriptEval

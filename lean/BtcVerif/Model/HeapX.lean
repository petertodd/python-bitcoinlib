/-
  C09 — the heap model for the extended catalogue (audit F4): operations whose argument is a
  reference to an existing object or list, and the `witness=None` constructor path.

  The state is the heap state of `Model/Heap.lean`; `Spec.ValueSem.Op` operations are executed by
  `Model.Heap.step` unchanged.  The new operations store *addresses*:
    `obj.attr = other`      → one reference slot is overwritten with an existing address;
    `lst.append(other)`     → an existing address is appended to a list object;
    `CMutableTransaction(vin_obj, vout_obj, …)` → `self.vin = vin` etc. (core/__init__.py:477-488):
       the new transaction object refers to the very sequences it was given;
    `witness=None`          → `CTxWitness([CTxInWitness() for dummy in range(len(vin))])`: an object
       of the immutable class `CTxWitness`.  The model is PROPERTY-CONFORMING here (audit 2, D23): an
       immutable-class object never refers to a mutable object or to a Python list, i.e. the
       constructors freeze what they are given — `CTxWitness.__init__` stores `tuple(vtxinwit)`,
       `CScriptWitness.__init__` `tuple(stack)`, `CTxIn.__init__` `COutPoint.from_outpoint(prevout)`.
       Hence `w.vtxinwit[i] = …`, `.append`, `stack[j] = …` raise TypeError/AttributeError, and an
       outpoint object handed to `CTxIn(…)` is not shared with the new input.
  An operation whose source object is not of the class the slot/list holds is outside the catalogue
  (`na`): Python would store it, and every later `serialize()` would raise.  Mathlib-free.
-/
import BtcVerif.Model.Heap
import BtcVerif.Spec.AliasSem

namespace BtcVerif.Model.HeapX
open BtcVerif BtcVerif.Spec.ValueSem BtcVerif.Spec.AliasSem BtcVerif.Model.Heap

def kindAt (h : Heap) (a : Addr) : Option Nat := (h[a]?).map (·.sc.kind)

/-- `CTxWitness([CTxInWitness() for dummy in range(n)])` -/
def allocDefaultWit (h : Heap) (n : Nat) : Heap × Addr :=
  allocPlan h (.node false .wit [.node false (.seq .stacks) (List.replicate n (.node false (.inwit []) []))])

/-- store into a list object at an address: a tuple raises `immErr` -/
def withListAt (s : St) (x : Addr) (immErr : Exc) (f : List Addr → Except Exc (List Addr)) : St × Out :=
  match s.heap[x]? with
  | none => (s.skip, .badRef)
  | some lo =>
    if !lo.isMut then (s.skip, .err immErr)
    else match f lo.refs with
      | .error e => (s.skip, .err e)
      | .ok items => (s.bind (s.heap.set x { lo with refs := items }) none, .done)

def stepX (s : St) : OpX → St × Out
  | .base op => Model.Heap.step s op
  | .assignRef t slot src =>
      match s.target t, s.target src with
      | some x, some y =>
        match s.heap[x]? with
        | none => (s.skip, .badRef)
        | some o =>
          if o.sc.isSeq then (s.skip, .na)
          else match o.refs[slot]? with
            | none => (s.skip, .na)
            | some cur =>
              if kindAt s.heap cur ≠ kindAt s.heap y then (s.skip, .na)
              else if !o.isMut then (s.skip, .err attributeError)
              else (s.bind (s.heap.set x { o with refs := o.refs.set slot y }) none, .done)
      | _, _ => (s.skip, .badRef)
  | .setPrevout t v =>
      match s.target t with
      | none => (s.skip, .badRef)
      | some x =>
        if kindAt s.heap x ≠ some 1 then (s.skip, .na)
        else if !validOutPoint v then (s.skip, .err .valueerr)
        else match s.heap[x]? with
          | none => (s.skip, .badRef)
          | some o =>
            if !o.isMut then (s.skip, .err attributeError)
            else
              let a := allocPlan s.heap (planOutPoint true v)
              (s.bind (a.1.set x { o with refs := [a.2] }) none, .done)
  | .appendRef l src =>
      match s.target l, s.target src with
      | some x, some y =>
        match (kindAt s.heap x).bind elemKind with
        | none => (s.skip, .na)
        | some ek =>
          if kindAt s.heap y ≠ some ek then (s.skip, .na)
          else withListAt s x attributeError fun items => .ok (items ++ [y])
      | _, _ => (s.skip, .badRef)
  | .replaceRef l i src =>
      match s.target l, s.target src with
      | some x, some y =>
        match (kindAt s.heap x).bind elemKind with
        | none => (s.skip, .na)
        | some ek =>
          if kindAt s.heap y ≠ some ek then (s.skip, .na)
          else withListAt s x typeError fun items =>
            if i < items.length then .ok (items.set i y) else .error indexError
      | _, _ => (s.skip, .badRef)
  | .newTxFrom vin vout lock ver wit =>
      match s.target vin, s.target vout, wit.map s.target with
      | some avi, some avo, w =>
        if kindAt s.heap avi ≠ some 8 || kindAt s.heap avo ≠ some 9 then (s.skip, .na)
        else match w with
          | some none => (s.skip, .badRef)
          | some (some aw) =>
            if kindAt s.heap aw ≠ some 4 then (s.skip, .na)
            else if lock ≤ 0xffffffff then
              let a := alloc s.heap { isMut := true, sc := .tx ver lock, refs := [avi, avo, aw] }
              (s.bind a.1 (some a.2), .created)
            else (s.skip, .err .valueerr)
          | none =>
            if lock ≤ 0xffffffff then
              match s.heap[avi]? with
              | some lo =>
                let w := allocDefaultWit s.heap lo.refs.length
                let a := alloc w.1 { isMut := true, sc := .tx ver lock, refs := [avi, avo, w.2] }
                (s.bind a.1 (some a.2), .created)
              | none => (s.skip, .badRef)
            else (s.skip, .err .valueerr)
      | _, _, _ => (s.skip, .badRef)
  | .newTxDefault v =>
      if validTx v then
        let i := allocPlan s.heap (planIns true v.vin)
        let o := allocPlan i.1 (planOuts true v.vout)
        let w := allocDefaultWit o.1 v.vin.length
        let a := alloc w.1 { isMut := true, sc := .tx v.nVersion v.nLockTime, refs := [i.2, o.2, w.2] }
        (s.bind a.1 (some a.2), .created)
      else (s.skip, .err .valueerr)
  | .newTxInFrom prevout script seq =>
      match prevout.map s.target with
      | some none => (s.skip, .badRef)
      | some (some ap) =>
        if kindAt s.heap ap ≠ some 0 then (s.skip, .na)
        else if seq ≤ 0xffffffff then
          let a := alloc s.heap { isMut := true, sc := .txin script seq, refs := [ap] }
          (s.bind a.1 (some a.2), .created)
        else (s.skip, .err .valueerr)
      | none =>
        if seq ≤ 0xffffffff then
          let p := allocPlan s.heap (planOutPoint true ⟨List.replicate 32 0, 0xffffffff⟩)
          let a := alloc p.1 { isMut := true, sc := .txin script seq, refs := [p.2] }
          (s.bind a.1 (some a.2), .created)
        else (s.skip, .err .valueerr)
  | .newCTxInFrom prevout script seq =>
      match prevout.map s.target with
      | some none => (s.skip, .badRef)
      | some (some ap) =>
        if kindAt s.heap ap ≠ some 0 then (s.skip, .na)
        else if seq ≤ 0xffffffff then
          match s.heap[ap]?, absVal s.heap ap with
          | some o, some (.outpoint v) =>
            if !o.isMut || validOutPoint v then
              -- `COutPoint.from_outpoint(prevout)`: an immutable outpoint as is, a mutable one copied
              match planClone false D s.heap ap with
              | some p =>
                let a := allocPlan s.heap (.node false (.txin script seq) [p])
                (s.bind a.1 (some a.2), .created)
              | none => (s.skip, .badRef)
            else (s.skip, .err .valueerr)
          | _, _ => (s.skip, .badRef)
        else (s.skip, .err .valueerr)
      | none =>
        if seq ≤ 0xffffffff then
          let a := allocPlan s.heap
            (planTxIn false { prevout := ⟨List.replicate 32 0, 0xffffffff⟩, scriptSig := script, nSequence := seq })
          (s.bind a.1 (some a.2), .created)
        else (s.skip, .err .valueerr)
  | .witListEdit t i _ =>
      match s.target t with
      | none => (s.skip, .badRef)
      | some x =>
        if kindAt s.heap x ≠ some 4 then (s.skip, .na)
        else (s.skip, .err (if i.isSome then typeError else attributeError))
  | .stackEdit t j _ =>
      match s.target t with
      | none => (s.skip, .badRef)
      | some x =>
        if kindAt s.heap x ≠ some 3 then (s.skip, .na)
        else (s.skip, .err (if j.isSome then typeError else attributeError))
  | .newHeaderFrom t =>
      match s.target t with
      | none => (s.skip, .badRef)
      | some x =>
        match s.heap[x]? with
        | none => (s.skip, .badRef)
        | some o =>
          match o.sc with
          | .header h | .block h => Model.Heap.step s (.newHeader h)
          | _ => (s.skip, .na)
  | .newBlockFrom t txs =>
      match s.target t with
      | none => (s.skip, .badRef)
      | some x =>
        match s.heap[x]? with
        | none => (s.skip, .badRef)
        | some o =>
          match o.sc with
          | .header h | .block h => Model.Heap.step s (.newBlock h txs)
          | _ => (s.skip, .na)

def runX : St → List OpX → St × List Out
  | s, [] => (s, [])
  | s, op :: ops =>
      let r1 := stepX s op
      let r2 := runX r1.1 ops
      (r2.1, r1.2 :: r2.2)

/-! ### container kinds (T2 only; see `Spec.AliasSem.OpY`)

  A Python tuple holding mutable elements is a sequence object with `isMut = false` (not editable:
  `append` → AttributeError, item assignment → TypeError) whose references are mutable objects.
  `CTransaction.__init__`, `CTransaction.from_tx` and `CMutableTransaction.from_tx` rebuild `vin`/`vout`
  element by element whatever kind of sequence they are given (`planClone`: `.seq .ins/.outs` are
  `rebuilt`), so such a tuple never ends up inside an immutable transaction.
  (`InvX` of Proofs/HeapAliasInv does not cover heaps with such tuples; these operations are tied by T2 only.) -/

def stepY (s : St) : OpY → St × Out
  | .x op => stepX s op
  | .mkSeq outs isList items =>
      match mapO s.target items with
      | none => (s.skip, .badRef)
      | some as =>
        let ek := if outs then 2 else 1
        if as.any (fun a => kindAt s.heap a != some ek) then (s.skip, .na)
        else
          let a := alloc s.heap { isMut := isList, sc := .seq (if outs then .outs else .ins), refs := as }
          (s.bind a.1 (some a.2), .created)
  | .newCTxFrom vin vout lock ver wit =>
      match s.target vin, s.target vout, wit.map s.target with
      | some avi, some avo, w =>
        if kindAt s.heap avi ≠ some 8 || kindAt s.heap avo ≠ some 9 then (s.skip, .na)
        else
          let wa : Option (Option Addr) := match w with
            | none => some (some defaultWit)
            | some none => none
            | some (some aw) => if kindAt s.heap aw ≠ some 4 then some none else some (some aw)
          match wa with
          | none => (s.skip, .badRef)
          | some none => (s.skip, .na)
          | some (some aw) =>
            if lock ≤ 0xffffffff then
              match s.heap[avi]?, s.heap[avo]? with
              | some li, some lo =>
                -- tuple(CTxIn.from_txin(txin) for txin in vin): the constructor of a copied element validates
                let ok := li.refs.all fun a =>
                  match s.heap[a]?, absVal s.heap a with
                  | some o, some (.txin i) => !o.isMut || validTxIn i
                  | _, _ => true
                if !ok then (s.skip, .err .valueerr)
                else
                  match mapO (planClone false D s.heap) li.refs, mapO (planClone false D s.heap) lo.refs with
                  | some pi, some po =>
                    let a := allocPlan s.heap (.node false (.tx ver lock)
                      [.node false (.seq .ins) pi, .node false (.seq .outs) po, .ref aw])
                    (s.bind a.1 (some a.2), .created)
                  | _, _ => (s.skip, .badRef)
              | _, _ => (s.skip, .badRef)
            else (s.skip, .err .valueerr)
      | _, _, _ => (s.skip, .badRef)

end BtcVerif.Model.HeapX
